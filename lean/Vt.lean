-- Root of the `Vt` library: the executable model of vt100-rust.
import Vt.Model.Prim
import Vt.Model.Utf8
import Vt.Model.Term
import Vt.Model.Cell
import Vt.Model.Row
import Vt.Model.Grid
import Vt.Model.Screen
import Vt.Model.Vte
import Vt.Model.Perform
import Vt.Model.Dump
import Vt.Spec.Inv
import Vt.Spec.Obs
import Vt.Lemmas.Except
import Vt.Lemmas.Sgr
import Vt.Lemmas.Modes
import Vt.Lemmas.Steps
import Vt.Lemmas.Screen
import Vt.Lemmas.Grid
import Vt.Lemmas.Inv
import Vt.Props.C01
import Vt.Props.C02
import Vt.Props.C03
import Vt.Props.C04
import Vt.Props.C05
import Vt.Props.C06
import Vt.Props.C07
import Vt.Props.C08
import Vt.Props.C09
import Vt.Props.C10
import Vt.Props.C11
import Vt.Props.C12
import Vt.Props.C13
import Vt.Props.C14
import Vt.Props.C15
import Vt.Props.C16
import Vt.Props.C17
import Vt.Props.C18
import Vt.Props.C19
import Vt.Lemmas.Utf8
import Vt.Lemmas.RowInv
import Vt.Lemmas.RowOps
import Vt.Lemmas.Loops
import Vt.Lemmas.Lines
import Vt.Lemmas.GridInv
import Vt.Lemmas.GridTotal
import Vt.Lemmas.CellInv
import Vt.Lemmas.TextRow
import Vt.Lemmas.TextInv
import Vt.Lemmas.VteStep
import Vt.Lemmas.VteFeed
import Vt.Lemmas.VteOk
import Vt.Props.InvPerform
import Vt.Lemmas.ViewRel
import Vt.Lemmas.Window
import Vt.Lemmas.BytesTerm
import Vt.Lemmas.FmtStep
import Vt.Props.C19b
import Vt.Props.C03b
import Vt.Props.C14b
import Vt.Props.C11b
import Vt.Props.C04b
import Vt.Props.C07b
import Vt.Props.C08b
import Vt.Lemmas.Process
import Vt.Lemmas.Tokens
import Vt.Props.C09b
import Vt.Props.C10b
import Vt.Lemmas.Recv
import Vt.Lemmas.Canvas
import Vt.Lemmas.TypeCell
import Vt.Spec.EmitOk
import Vt.Lemmas.EmitOk
import Vt.Lemmas.RowSim
import Vt.Props.RowCtx
import Vt.Props.RowDraw
import Vt.Props.GridDraw
import Vt.Lemmas.Recv2
import Vt.Props.C01grid
import Vt.Props.C01cursor
import Vt.Props.C01full
import Vt.Props.C15full
import Vt.Lemmas.CellX
import Vt.Lemmas.GridP
import Vt.Props.InvX
import Vt.Props.InvStep
import Vt.Props.InvF
import Vt.Props.InvAll
import Vt.Props.Reach
import Vt.Props.C05b
import Vt.Props.C08c
import Vt.Props.C01view
import Vt.Props.C02b
import Vt.Props.Bytes
import Vt.Props.DiffType
import Vt.Props.DiffCells
import Vt.Props.DiffRow
import Vt.Props.DiffIrrel
import Vt.Props.DiffGrid
import Vt.Lemmas.MRel
import Vt.Lemmas.Frame
import Vt.Lemmas.Scrolls
import Vt.Lemmas.PerformCases
import Vt.Props.C12rec
import Vt.Props.C12c
import Vt.Props.DiffLine
import Vt.Props.C15diff
import Vt.Props.C15win
import Vt.Props.C02reach
import Vt.Props.C15wrap
import Vt.Props.C16cells
import Vt.Props.C08grid
import Vt.Props.C08lfri
import Vt.Props.DiffGrid2
import Vt.Props.C11more
import Vt.Lemmas.WPred
import Vt.Props.C11more_c10
import Vt.Props.C09spec
import Vt.Props.C17any
import Vt.Props.MiscC12
import Vt.Props.MiscC05
import Vt.Props.MiscC15
import Vt.Props.MiscC13
import Vt.Props.MiscC19
import Vt.Props.MiscC04
import Vt.Props.MiscC01
import Vt.Props.C18all
import Vt.Props.C13pend
import Vt.Props.C04cut
import Vt.Props.DiffWrap
import Vt.Gen.Tie
import Vt.Gen.TieTerm
import Vt.Gen.TieDispatch
import Vt.Gen.TieCsi
import Vt.Gen.TieModes
import Vt.Gen.TieSgr
import Vt.Props.C04write
import Vt.Props.C15view
import Vt.Props.CbProbe
import Vt.Gen.Tie2
import Vt.Gen.Tie3
