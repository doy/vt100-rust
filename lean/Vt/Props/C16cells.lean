/-
  C16cells — C16, the clause about cells: what `Screen::set_size(r, c)` / `Grid::set_size` does to EVERY cell, stated
  positionally at grid level (no reference to `Row.resize` / `resizeList` / `setSizeSpec` in the statements: the old and the
  new grid are only read through `Grid.drawingCell ⟨i, j⟩` = Rust `drawing_cell(pos)`, `rows`, `wrapped`, and the frame fields).

  Rust (src/grid.rs:66 `set_size`, src/row.rs:73 `resize`):  every row is `Vec::resize`d to `c` cells with
  `Cell::new()`, `wrapped = false` is assigned UNCONDITIONALLY inside `Row::resize` (so the separate
  `if size.cols != self.size.cols { row.wrap(false) }` loop is redundant: wrap flags are cleared on every
  `set_size`, rows-only and same-size ones included), and if the new LAST cell is wide it is
  `clear(*last_cell.attrs())`ed — blanked keeping its own attributes.  Then the row vector is resized to `r`
  rows with `Row::new(c)`.

  `g'` = the result of `g.setSize ⟨r, c⟩`; the equation `g.setSize ⟨r, c⟩ = .ok g'` is the only hypothesis on the sizes
  (`setSize_total_iff`, `C16.setSize_iff`).
  * `setSize_cell_raw` (ANY grid, no invariant): inside `r × c` the new cell is `cellAfter g c i j`; `setSize_cell_outside`;
    `setSize_cell_unallocated` reads it for a grid without rows.
  * `setSize_cell` (well-formed allocated grid): the complete case analysis against the old SIZE; `setSize_cell_grow`,
    `setSize_cont_kept` / `setSize_wide_kept` read it.
  * `setSize_dims`, `setSize_wrapped`, `setSize_frame`, `setSize_frame_bounds` : sizes, wrap flags, cursors, region, scrollback.
  * screen level: `screen_setSize_total_iff`, `screen_setSize_size`, `screen_setSize_grids`, `screen_setSize_cell` (public
    `cell(i,j)` at offset 0).
  * tests `ex_*` (kernel evaluation): 2x4 with a wide character at columns 2–3: cut to 3, grown to 5, rows 1 / 3, same size.
-/
import Vt.Props.C16
import Vt.Props.C19b
namespace Vt.C16cells
open Vt Vt.C16

variable {W : Nat → Option Nat}

theorem cellNew_not_wide : Cell.new.wide = false := rfl

/-- THE POSITIONAL SPEC: the cell at `(i, j)` after `set_size(_, c)`, read off the old grid through
`drawing_cell`: `Cell.new` when the old grid has no cell there (row or column newly exposed, or grid not allocated);
the old cell cleared with ITS OWN attributes when it is wide and lands in the new last column; the old cell otherwise -/
def cellAfter (g : Grid) (c i j : Nat) : Cell :=
  match g.drawingCell ⟨i, j⟩ with
  | some x => if j + 1 = c ∧ x.wide = true then x.clear x.attrs else x
  | none => Cell.new

def rowAfter (g : Grid) (c i : Nat) : Row :=
  match g.rows[i]? with
  | some row => row.resize c Cell.new
  | none => Row.new c

theorem spec_row (g : Grid) (r c i : Nat) (hi : i < r) :
    (setSizeSpec g ⟨r, c⟩).rows[i]? = some (rowAfter g c i) := by
  simp only [setSizeSpec, rowAfter]
  rw [resizeList_get _ _ _ _ hi]
  by_cases hne : (c != g.size.cols) = true
  · simp only [hne, ↓reduceIte, List.length_map, List.getElem?_map, List.map_map]
    by_cases h : i < g.rows.length
    · simp [h, Row.resize, Row.wrap]
    · simp [h]
  · simp only [hne, ↓reduceIte, List.length_map, List.getElem?_map, Bool.false_eq_true]
    by_cases h : i < g.rows.length
    · simp [h]
    · simp [h]

theorem rowAfter_cell (g : Grid) (c i j : Nat) (hj : j < c) :
    (rowAfter g c i).cells[j]? = some (cellAfter g c i j) := by
  simp only [rowAfter, cellAfter, Grid.drawingCell, Grid.drawingRow, Row.get]
  cases hrow : g.rows[i]? with
  | none => simp [Row.new, hj]
  | some row =>
    simp only [Option.bind_some]
    rw [rowResize_cell row c j hj]
    rfl

theorem setSize_total (g : Grid) (r c : Nat) (h0 : 1 ≤ g.size.rows) (hr : 1 ≤ r) (hc : 1 ≤ c) :
    ∃ g', g.setSize ⟨r, c⟩ = .ok g' :=
  ⟨_, grid_setSize_eq g ⟨r, c⟩ h0 hr hc⟩

theorem setSize_total_iff (g : Grid) (r c : Nat) :
    (∃ g', g.setSize ⟨r, c⟩ = .ok g') ↔ 1 ≤ g.size.rows ∧ 1 ≤ r ∧ 1 ≤ c :=
  ⟨fun ⟨_, e⟩ => let ⟨h0, hr, hc, _⟩ := setSize_iff.mp e; ⟨h0, hr, hc⟩,
   fun ⟨h0, hr, hc⟩ => setSize_total g r c h0 hr hc⟩

theorem setSize_dims {g g' : Grid} {r c : Nat} (e : g.setSize ⟨r, c⟩ = .ok g') :
    g'.size = ⟨r, c⟩ ∧ g'.rows.length = r ∧ ∀ row ∈ g'.rows, row.cells.length = c ∧ row.wrapped = false := by
  obtain ⟨_, hr, hc, rfl⟩ := setSize_iff.mp e
  obtain ⟨p1, p2, _⟩ := setSizeSpec_props g ⟨r, c⟩ hr hc
  have hres (r0 : Row) : (r0.resize c Cell.new).cells.length = c ∧ (r0.resize c Cell.new).wrapped = false :=
    ⟨rowResize_length r0 c, rowResize_unwrapped r0 c⟩
  exact ⟨p1, p2, setSizeSpec_rows (fun r0 _ => ⟨hres r0, hres _⟩) ⟨List.length_replicate, rfl⟩⟩

/-- weakest form (ANY grid, also ragged or unallocated): inside `r × c` the new cell is `cellAfter` -/
theorem setSize_cell_raw {g g' : Grid} {r c : Nat} (e : g.setSize ⟨r, c⟩ = .ok g') (i j : Nat)
    (hi : i < r) (hj : j < c) : g'.drawingCell ⟨i, j⟩ = some (cellAfter g c i j) := by
  obtain ⟨_, _, _, rfl⟩ := setSize_iff.mp e
  simp only [Grid.drawingCell, Grid.drawingRow, spec_row g r c i hi, Option.bind_some, Row.get]
  exact rowAfter_cell g c i j hj

theorem setSize_cell_outside {g g' : Grid} {r c : Nat} (e : g.setSize ⟨r, c⟩ = .ok g') (i j : Nat)
    (h : r ≤ i ∨ c ≤ j) : g'.drawingCell ⟨i, j⟩ = none := by
  obtain ⟨p1, p2, p3⟩ := setSize_dims e
  have hs : Shaped g' := ⟨by rw [p1]; exact p2, fun row hrow => by rw [p1]; exact (p3 row hrow).1⟩
  exact hs.cell_none i j (by rw [p1]; exact h)

theorem setSize_cell_new {g g' : Grid} {r c : Nat} (hs : Shaped g) (e : g.setSize ⟨r, c⟩ = .ok g')
    (i j : Nat) (hi : i < r) (hj : j < c) (hnew : g.size.rows ≤ i ∨ g.size.cols ≤ j) :
    g'.drawingCell ⟨i, j⟩ = some Cell.new := by
  rw [setSize_cell_raw e i j hi hj, cellAfter, hs.cell_none i j hnew]

theorem setSize_cell_old {g g' : Grid} {r c : Nat} (hs : Shaped g) (e : g.setSize ⟨r, c⟩ = .ok g')
    (i j : Nat) (hi : i < r) (hj : j < c) (hi' : i < g.size.rows) (hj' : j < g.size.cols) :
    ∃ x, g.drawingCell ⟨i, j⟩ = some x ∧
      g'.drawingCell ⟨i, j⟩ = some (if j + 1 = c ∧ x.wide = true then x.clear x.attrs else x) := by
  obtain ⟨row, x, _, _, hx⟩ := hs.cell_some i j hi' hj'
  refine ⟨x, hx, ?_⟩
  rw [setSize_cell_raw e i j hi hj, cellAfter, hx]

theorem drawingCell_row {g : Grid} {un : Bool} (h : GridInv W g un) {i j : Nat} {x : Cell}
    (hx : g.drawingCell ⟨i, j⟩ = some x) :
    ∃ row : Row, (∀ k, g.drawingCell ⟨i, k⟩ = row.cells[k]?) ∧ row.cells.length = g.size.cols ∧
      CellsInv W row.cells := by
  simp only [Grid.drawingCell, Grid.drawingRow, Row.get] at hx ⊢
  cases hrow : g.rows[i]? with
  | none => simp [hrow] at hx
  | some row =>
    obtain ⟨hlen, hok⟩ := h.row_ok row (List.mem_of_getElem? hrow)
    exact ⟨row, fun _ => rfl, hlen, ((rowOk_iff W row).mp hok).2⟩

theorem wide_inside {g : Grid} {un : Bool} (h : GridInv W g un) {i j : Nat} {x : Cell}
    (hx : g.drawingCell ⟨i, j⟩ = some x) (hw : x.wide = true) :
    j + 1 < g.size.cols ∧ ∃ d, g.drawingCell ⟨i, j + 1⟩ = some d ∧ d.cont = true := by
  obtain ⟨row, hrow, hlen, hci⟩ := drawingCell_row h hx
  obtain ⟨d, hd, hdc⟩ := paired_wide_next ((hrow j).symm.trans hx) hci.paired hw
  have := getElem?_lt hd
  exact ⟨by omega, d, (hrow _).trans hd, hdc⟩

theorem cont_after_wide {g : Grid} {un : Bool} (h : GridInv W g un) {i j : Nat} {x : Cell}
    (hx : g.drawingCell ⟨i, j⟩ = some x) (hc : x.cont = true) :
    ∃ k w, j = k + 1 ∧ g.drawingCell ⟨i, k⟩ = some w ∧ w.wide = true := by
  obtain ⟨row, hrow, _, hci⟩ := drawingCell_row h hx
  obtain ⟨k, w, hk, hw, hww⟩ := paired_cont_prev ((hrow j).symm.trans hx) hci.paired hc
  exact ⟨k, w, hk, (hrow k).trans hw, hww⟩

/-- MAIN THEOREM: complete positional case analysis for a well-formed allocated grid, for every `i < r`, `j < c`:
* newly exposed (`i ≥ old rows ∨ j ≥ old cols`): the default cell;
* in the intersection, with `x` the old cell:
  - CUT (`j + 1 = c`, `c < old cols`, `x` wide): `x.clear x.attrs` (blank, `x`'s attributes kept — in general NOT the
    default cell), and the old cell at `(i, c)`, which is dropped, is its continuation half;
  - otherwise: `x` unchanged (in particular every continuation cell, and every wide cell with `j + 1 < c`) -/
theorem setSize_cell {g g' : Grid} {r c : Nat} (h : GridInv W g true) (hl : g.rows.length = g.size.rows)
    (e : g.setSize ⟨r, c⟩ = .ok g') (i j : Nat) (hi : i < r) (hj : j < c) :
    ((g.size.rows ≤ i ∨ g.size.cols ≤ j) → g'.drawingCell ⟨i, j⟩ = some Cell.new) ∧
    (i < g.size.rows → j < g.size.cols →
      ∃ x, g.drawingCell ⟨i, j⟩ = some x ∧
        ((j + 1 = c ∧ c < g.size.cols ∧ x.wide = true) →
            g'.drawingCell ⟨i, j⟩ = some (x.clear x.attrs) ∧
            ∃ d, g.drawingCell ⟨i, c⟩ = some d ∧ d.cont = true) ∧
        (¬ (j + 1 = c ∧ c < g.size.cols ∧ x.wide = true) → g'.drawingCell ⟨i, j⟩ = some x)) := by
  have hs := GridInv.shaped h hl
  refine ⟨setSize_cell_new hs e i j hi hj, ?_⟩
  intro hi' hj'
  obtain ⟨x, hx, hx'⟩ := setSize_cell_old hs e i j hi hj hi' hj'
  refine ⟨x, hx, ?_, ?_⟩
  · rintro ⟨h1, h2, h3⟩
    obtain ⟨_, d, hd, hdc⟩ := wide_inside h hx h3
    rw [hx']
    simp only [h1, h3, and_self, ↓reduceIte, true_and]
    exact ⟨d, by rw [← h1]; exact hd, hdc⟩
  · intro hn
    rw [hx']
    by_cases hc : j + 1 = c ∧ x.wide = true
    · exfalso
      obtain ⟨hlt, _⟩ := wide_inside h hx hc.2
      exact hn ⟨hc.1, by omega, hc.2⟩
    · simp only [hc, ↓reduceIte]

theorem setSize_cell_grow {g g' : Grid} {r c : Nat} (h : GridInv W g true) (hl : g.rows.length = g.size.rows)
    (e : g.setSize ⟨r, c⟩ = .ok g') (hge : g.size.cols ≤ c) (i j : Nat) (hi : i < r) (hi' : i < g.size.rows)
    (hj' : j < g.size.cols) :
    ∃ x, g.drawingCell ⟨i, j⟩ = some x ∧ g'.drawingCell ⟨i, j⟩ = some x := by
  obtain ⟨x, hx, _, h2⟩ := (setSize_cell h hl e i j hi (by omega)).2 hi' hj'
  exact ⟨x, hx, h2 (by omega)⟩

/-- a continuation cell inside the new width is never orphaned: it is kept and so is its wide first half (at `j - 1`),
both unchanged -/
theorem setSize_cont_kept {g g' : Grid} {r c : Nat} (h : GridInv W g true) (hl : g.rows.length = g.size.rows)
    (e : g.setSize ⟨r, c⟩ = .ok g') (i j : Nat) (hi : i < r) (hj : j < c) {x : Cell}
    (hx : g.drawingCell ⟨i, j⟩ = some x) (hcont : x.cont = true) :
    g'.drawingCell ⟨i, j⟩ = some x ∧
      ∃ k w, j = k + 1 ∧ g.drawingCell ⟨i, k⟩ = some w ∧ w.wide = true ∧ g'.drawingCell ⟨i, k⟩ = some w := by
  have hs := GridInv.shaped h hl
  have hij : i < g.size.rows ∧ j < g.size.cols := by
    rcases Nat.lt_or_ge i g.size.rows with h1 | h1
    · rcases Nat.lt_or_ge j g.size.cols with h2 | h2
      · exact ⟨h1, h2⟩
      · rw [hs.cell_none i j (Or.inr h2)] at hx; cases hx
    · rw [hs.cell_none i j (Or.inl h1)] at hx; cases hx
  obtain ⟨k, w, rfl, hw, hww⟩ := cont_after_wide h hx hcont
  have hnw : x.wide = false := by
    obtain ⟨row, hrow, _, hci⟩ := drawingCell_row h hx
    exact (cellOk_cont W x (hci.cells_ok x (List.mem_of_getElem? ((hrow _).symm.trans hx))) hcont).1
  obtain ⟨x', hx1, _, hx2⟩ := (setSize_cell h hl e i (k + 1) hi hj).2 hij.1 hij.2
  rw [hx] at hx1; cases hx1
  obtain ⟨w', hw1, _, hw2⟩ := (setSize_cell h hl e i k hi (by omega)).2 hij.1 (by omega)
  rw [hw] at hw1; cases hw1
  refine ⟨hx2 (by simp [hnw]), k, w, rfl, hw, hww, hw2 (by omega)⟩

/-- the alternate grid before its first use (`rows = []`, allowed by `GridInv _ _ true`): `set_size` allocates it —
`r` rows (`setSize_dims`) of default cells -/
theorem setSize_cell_unallocated {g g' : Grid} {r c : Nat} (hg : g.rows = [])
    (e : g.setSize ⟨r, c⟩ = .ok g') (i j : Nat) (hi : i < r) (hj : j < c) :
    g'.drawingCell ⟨i, j⟩ = some Cell.new := by
  rw [setSize_cell_raw e i j hi hj]
  simp [cellAfter, Grid.drawingCell, Grid.drawingRow, hg]

/-- a wide character that fits (`j + 1 < c`) stays whole: first half and continuation both unchanged -/
theorem setSize_wide_kept {g g' : Grid} {r c : Nat} (h : GridInv W g true) (hl : g.rows.length = g.size.rows)
    (e : g.setSize ⟨r, c⟩ = .ok g') (i j : Nat) (hi : i < r) (hj : j + 1 < c) {x : Cell}
    (hx : g.drawingCell ⟨i, j⟩ = some x) (hw : x.wide = true) :
    g'.drawingCell ⟨i, j⟩ = some x ∧
      ∃ d, g.drawingCell ⟨i, j + 1⟩ = some d ∧ d.cont = true ∧ g'.drawingCell ⟨i, j + 1⟩ = some d := by
  obtain ⟨_, d, hd, hdc⟩ := wide_inside h hx hw
  obtain ⟨k1, k, w, hk, hw1, _, hw2⟩ := setSize_cont_kept h hl e i (j + 1) hi hj hd hdc
  have : k = j := by omega
  subst this
  rw [hx] at hw1; cases hw1
  exact ⟨hw2, d, hd, hdc, k1⟩

theorem setSize_rows_count {g g' : Grid} {r c : Nat} (e : g.setSize ⟨r, c⟩ = .ok g') : g'.rows.length = r :=
  (setSize_dims e).2.1

/-- EVERY row of the result is unwrapped, whether or not the width changed: a rows-only or same-size `set_size` clears all
wrap flags (tests `ex_rows`, `ex_same_size`) -/
theorem setSize_wrapped {g g' : Grid} {r c : Nat} (e : g.setSize ⟨r, c⟩ = .ok g') :
    ∀ row ∈ g'.rows, row.wrapped = false :=
  fun row hrow => ((setSize_dims e).2.2 row hrow).2

/-- a cursor in the pending-wrap column `cols` is pulled back to `c - 1` even when `c = cols`; a scroll region whose bottom was
the last row follows the new last row; the scrollback rows are NOT resized (they keep their old width, finding F12) -/
theorem setSize_frame {g g' : Grid} {r c : Nat} (e : g.setSize ⟨r, c⟩ = .ok g') :
    g'.pos = ⟨min g.pos.row (r - 1), min g.pos.col (c - 1)⟩ ∧
    g'.savedPos = ⟨min g.savedPos.row (r - 1), min g.savedPos.col (c - 1)⟩ ∧
    g'.scrollBottom = (if g.scrollBottom = g.size.rows - 1 then r - 1 else min g.scrollBottom (r - 1)) ∧
    g'.scrollTop = (if g'.scrollBottom < g.scrollTop then 0 else g.scrollTop) ∧
    g'.originMode = g.originMode ∧ g'.savedOriginMode = g.savedOriginMode ∧
    g'.scrollback = g.scrollback ∧ g'.scrollbackLen = g.scrollbackLen ∧
    g'.scrollbackOffset = g.scrollbackOffset := by
  obtain ⟨_, hr, hc, rfl⟩ := setSize_iff.mp e
  simp only at hr hc
  simp only [setSizeSpec, beq_iff_eq, ge_iff_le, true_and, and_true]
  by_cases h1 : g.scrollBottom = g.size.rows - 1
  · have : ¬ r ≤ r - 1 := by omega
    simp [h1, this]
  · simp only [h1, ↓reduceIte]
    by_cases h2 : r ≤ g.scrollBottom
    · have : min g.scrollBottom (r - 1) = r - 1 := by omega
      simp [h2, this]
    · have : min g.scrollBottom (r - 1) = g.scrollBottom := by omega
      simp [h2, this]

theorem setSize_frame_bounds {g g' : Grid} {r c : Nat} (e : g.setSize ⟨r, c⟩ = .ok g') :
    g'.pos.row < r ∧ g'.pos.col < c ∧ g'.savedPos.row < r ∧ g'.savedPos.col < c ∧
    g'.scrollTop ≤ g'.scrollBottom ∧ g'.scrollBottom < r := by
  obtain ⟨_, hr, hc, rfl⟩ := setSize_iff.mp e
  obtain ⟨_, _, _, _, _, p6, p7, p8, p9, p10, p11⟩ := setSizeSpec_props g ⟨r, c⟩ hr hc
  exact ⟨p6, p7, p8, p9, p11, p10⟩

theorem screen_setSize_total_iff (s : Screen) (r c : Nat) :
    (∃ s', s.setSize r c = .ok s') ↔
      1 ≤ s.grid.size.rows ∧ 1 ≤ s.altGrid.size.rows ∧ 1 ≤ r ∧ 1 ≤ c := by
  constructor
  · rintro ⟨s', e⟩
    obtain ⟨g1, g2, h1, h2, _⟩ := screen_setSize_of_ok e
    obtain ⟨a1, a2, a3, _⟩ := setSize_iff.mp h1
    obtain ⟨b1, _⟩ := setSize_iff.mp h2
    exact ⟨a1, b1, a2, a3⟩
  · rintro ⟨h1, h2, hr, hc⟩
    exact ⟨_, screen_setSize_eq s r c h1 h2 hr hc⟩

/-- `size()` reports `(r, c)`: on the active screen, and whichever screen is made active afterwards; modes, pens and the
alternate-screen flag are untouched -/
theorem screen_setSize_size {s s' : Screen} {r c : Nat} (e : s.setSize r c = .ok s') :
    s'.grid.size = ⟨r, c⟩ ∧ s'.altGrid.size = ⟨r, c⟩ ∧ s'.size = ⟨r, c⟩ ∧
    (∀ b, ({ s' with altScreen := b } : Screen).size = ⟨r, c⟩) ∧
    s'.altScreen = s.altScreen ∧ s'.attrs = s.attrs ∧ s'.savedAttrs = s.savedAttrs ∧
    s'.appKeypad = s.appKeypad ∧ s'.appCursor = s.appCursor ∧ s'.hideCursor = s.hideCursor ∧
    s'.bracketedPaste = s.bracketedPaste ∧ s'.mouseMode = s.mouseMode ∧ s'.mouseEnc = s.mouseEnc := by
  obtain ⟨g1, g2, h1, h2, rfl⟩ := screen_setSize_of_ok e
  have d1 := (setSize_dims h1).1
  have d2 := (setSize_dims h2).1
  refine ⟨d1, d2, ?_, ?_, rfl, rfl, rfl, rfl, rfl, rfl, rfl, rfl, rfl⟩
  · simp only [Screen.size, Screen.cur]; split <;> assumption
  · intro b; cases b <;> simp [Screen.size, Screen.cur, d1, d2]

theorem screen_setSize_cur {s s' : Screen} {r c : Nat} (e : s.setSize r c = .ok s') :
    s.cur.setSize ⟨r, c⟩ = .ok s'.cur := by
  obtain ⟨g1, g2, h1, h2, rfl⟩ := screen_setSize_of_ok e
  simp only [Screen.cur]
  split <;> assumption

/-- under `Inv` the primary, the alternate and the active grid meet the hypotheses of the grid-level theorems (`setSize_cell`
for allocated grids, `setSize_cell_unallocated` otherwise) -/
theorem screen_setSize_grids {s s' : Screen} {r c : Nat} (hs : ScreenInv W s) (e : s.setSize r c = .ok s') :
    (GridInv W s.grid true ∧ s.grid.rows.length = s.grid.size.rows ∧ s.grid.setSize ⟨r, c⟩ = .ok s'.grid) ∧
    (GridInv W s.altGrid true ∧ (s.altGrid.rows = [] ∨ s.altGrid.rows.length = s.altGrid.size.rows) ∧
      s.altGrid.setSize ⟨r, c⟩ = .ok s'.altGrid) ∧
    (GridInv W s.cur true ∧ s.cur.rows.length = s.cur.size.rows ∧ s.cur.setSize ⟨r, c⟩ = .ok s'.cur) := by
  have hc := screen_setSize_cur e
  obtain ⟨g1, g2, h1, h2, rfl⟩ := screen_setSize_of_ok e
  refine ⟨⟨hs.grid.mono, ?_, h1⟩, ⟨hs.alt, ?_, h2⟩, ⟨hs.cur.1, hs.cur.2, hc⟩⟩
  · rcases hs.grid.rows_len with ⟨hf, _⟩ | hl
    · simp at hf
    · exact hl
  · rcases hs.alt.rows_len with ⟨_, he⟩ | hl
    · exact Or.inl he
    · exact Or.inr hl

/-- public API form: at scrollback offset 0 (which `set_size` does not change), `cell(i, j)` after `set_size(r, c)` is
`cellAfter` of the active grid, for all `i < r`, `j < c`.  (At an offset > 0 `cell` reads scrollback rows, which keep
their old width: F12.) -/
theorem screen_setSize_cell {s s' : Screen} {r c : Nat} (e : s.setSize r c = .ok s')
    (h0 : s.cur.scrollbackOffset = 0) (i j : Nat) (hi : i < r) (hj : j < c) :
    s'.cell i j = .ok (some (cellAfter s.cur c i j)) := by
  have hc := screen_setSize_cur e
  have hoff : s'.cur.scrollbackOffset = 0 := by
    rw [(setSize_frame hc).2.2.2.2.2.2.2.2]; exact h0
  have := setSize_cell_raw hc i j hi hj
  simp only [Grid.drawingCell, Grid.drawingRow] at this
  simp only [Screen.cell, Grid.visibleCell, Grid.visibleRow, C19.visibleRows_offset0 _ hoff, ok_bind,
    pure_eq_ok, this]

def okTrue : M Bool → Bool
  | .ok b => b
  | .error _ => false

/-- 2x4, capacity 5: "x\r\nab", SGR 7, "一" (wide, columns 2–3, cursor left at column 4), DECSC, "c"
(wraps and scrolls).  Afterwards: row 0 = `a b 一 ·` with its wrap flag SET, row 1 = `c`, cursor (1,1),
saved cursor (1,4), one scrollback row of width 4, alternate grid not allocated. -/
def exScreen : M Screen := do
  let p ← C02.run 2 4 5 [[120, 13, 10, 97, 98, 0x1b, 0x5b, 0x37, 0x6d, 0xE4, 0xB8, 0x80, 0x1b, 0x37, 99]]
  pure p.screen

def cellsOf (g : Grid) : List (List Cell) := g.rows.map (·.cells)
def cellAt (g : Grid) (i j : Nat) : Cell := (g.drawingCell ⟨i, j⟩).getD Cell.new

/-- TEST: `exScreen` satisfies `Inv` and is as described -/
theorem ex_hyps : okTrue (do
    let s ← exScreen
    let g := s.grid
    pure (invB W0 s && g.size == ⟨2, 4⟩ && g.rows.length == 2 &&
      (cellAt g 0 2).wide && (cellAt g 0 3).cont && (cellAt g 0 2).attrs.inverse &&
      (g.rows.map (·.wrapped) == [true, false]) && g.pos == ⟨1, 1⟩ && g.savedPos == ⟨1, 4⟩ &&
      g.scrollback.map (·.cells.length) == [4] && s.altGrid.rows.isEmpty && !s.altScreen)) = true := by
  decide +kernel

/-- TEST: 4 → 3 columns: the wide character is cut, its first half blanked KEEPING ITS ATTRIBUTES (so the cell is not the
default cell); saved cursor column 4 → 2; the scrollback row keeps width 4 (F12); the alternate grid becomes 2 blank rows of 3 -/
theorem ex_cut : okTrue (do
    let s ← exScreen
    let s' ← s.setSize 2 3
    let g := s.grid
    let g' := s'.grid
    let x := cellAt g 0 2
    pure (g'.size == ⟨2, 3⟩ && s'.altGrid.size == ⟨2, 3⟩ &&
      cellsOf g' == [[cellAt g 0 0, cellAt g 0 1, x.clear x.attrs], [cellAt g 1 0, cellAt g 1 1, cellAt g 1 2]] &&
      (cellAt g' 0 2).attrs.inverse && !(cellAt g' 0 2).wide && (cellAt g' 0 2 != Cell.new) &&
      (g'.rows.map (·.wrapped) == [false, false]) &&
      g'.pos == ⟨1, 1⟩ && g'.savedPos == ⟨1, 2⟩ && g'.scrollTop == 0 && g'.scrollBottom == 1 &&
      g'.scrollback == g.scrollback && g'.scrollback.map (·.cells.length) == [4] &&
      cellsOf s'.altGrid == List.replicate 2 (List.replicate 3 Cell.new) &&
      invB W0 s')) = true := by
  decide +kernel

/-- TEST: 4 → 5 columns: all old cells kept (the wide pair included), the new column is the default cell,
wrap flags cleared -/
theorem ex_grow_cols : okTrue (do
    let s ← exScreen
    let s' ← s.setSize 2 5
    let g := s.grid
    let g' := s'.grid
    pure (g'.size == ⟨2, 5⟩ &&
      cellsOf g' == (cellsOf g).map (· ++ [Cell.new]) &&
      (cellAt g' 0 2).wide && (cellAt g' 0 3).cont &&
      (g'.rows.map (·.wrapped) == [false, false]) && g'.savedPos == ⟨1, 4⟩ && invB W0 s')) = true := by
  decide +kernel

/-- TEST: rows only, 2 → 1 and 2 → 3: the wrap flag of row 0 is CLEARED although the width did not change; a full-screen scroll
region follows the new height -/
theorem ex_rows : okTrue (do
    let s ← exScreen
    let s1 ← s.setSize 1 4
    let s3 ← s.setSize 3 4
    let g := s.grid
    pure (s1.grid.size == ⟨1, 4⟩ && cellsOf s1.grid == (cellsOf g).take 1 &&
      (s1.grid.rows.map (·.wrapped) == [false]) && s1.grid.pos == ⟨0, 1⟩ && s1.grid.savedPos == ⟨0, 3⟩ &&
      s1.grid.scrollBottom == 0 && s1.grid.scrollTop == 0 &&
      s3.grid.size == ⟨3, 4⟩ && cellsOf s3.grid == cellsOf g ++ [List.replicate 4 Cell.new] &&
      (s3.grid.rows.map (·.wrapped) == [false, false, false]) && s3.grid.pos == ⟨1, 1⟩ &&
      s3.grid.savedPos == ⟨1, 3⟩ && s3.grid.scrollBottom == 2 && invB W0 s1 && invB W0 s3)) = true := by
  decide +kernel

/-- TEST: `set_size` to the CURRENT size is not the identity: the cells are kept, but wrap flags are cleared
and a cursor / saved cursor in the pending-wrap column `cols` is pulled back to `cols - 1` -/
theorem ex_same_size : okTrue (do
    let s ← exScreen
    let s' ← s.setSize 2 4
    pure (cellsOf s'.grid == cellsOf s.grid && s'.grid.rows.map (·.wrapped) == [false, false] &&
      s.grid.savedPos == ⟨1, 4⟩ && s'.grid.savedPos == ⟨1, 3⟩ && s' != s)) = true := by
  decide +kernel

/-- NON-VACUITY of the cut branch of `setSize_cell`: it applies on `exScreen` at `(0, 2)` for `c = 3` -/
theorem setSize_cell_nonvacuous : okTrue (do
    let s ← exScreen
    let g := s.grid
    let g' ← g.setSize ⟨2, 3⟩
    pure (gridOk W0 g true && g.rows.length == g.size.rows &&
      (match g.drawingCell ⟨0, 2⟩, g.drawingCell ⟨0, 3⟩ with
       | some x, some d => x.wide && d.cont && decide (2 + 1 = 3 ∧ 3 < g.size.cols) &&
           g'.drawingCell ⟨0, 2⟩ == some (x.clear x.attrs) && (x.clear x.attrs != Cell.new)
       | _, _ => false))) = true := by
  decide +kernel

end Vt.C16cells
