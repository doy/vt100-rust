/-
  Vt.Props.DiffLine — one line of `Row::write_contents_diff` without wrap-through (`wrapping = false`), for lines with ARBITRARY
  wrap flags: the cell loop of a window (`DiffRow.window_loop`, `finish_win`), then `diffEnd`.

  `diffEnd` is the tail of `write_contents_diff` that runs when the two lines' wrap flags differ: it re-types the last character
  of the LINE, after an `ESC[X` when the line has become unwrapped.  When the window reaches the right margin re-typing it
  completes the line; otherwise it lies right of the window and all that has to be shown is that erasing and typing there leaves
  the columns of the window alone.  `diffEnd_lo` is the one case analysis of `diffEnd`; what it says of the wrap flag and of the
  cursor is what `C02.diffEnd_drawnF` (DiffWrap3) reads off.

  One window theorem (`row_window_diff_draws_flag`) carries any predicate on the receiving line's wrap flag that clearing the
  flag preserves: "no claim" for arbitrary flags, "the flag is off" for unwrapped lines (`DiffRow.row_diff_draws`,
  `C15win.row_window_diff_draws`).  The full-width theorem `row_diff_draws_flag` is it at `start = 0`, `width = cols`.

  All in namespace `Vt.C15wrap`, except `DiffRow.row_diff_draws` at the end.
-/
import Vt.Props.DiffRow
namespace Vt.C15wrap
open Vt Vt.Recv Vt.C19 Vt.C09 Vt.RowDraw Vt.C03 Vt.Bytes Vt.DiffRow

variable {W : Nat → Option Nat} {cb : CbPolicy}

/-- a line that shows the current line on the columns before `c`, seen as the middle of a diff against ITSELF -/
theorem mid_self {S : List Cell} {c : Nat} {R : Row} (hl : R.cells.length = S.length)
    (hlo : ∀ k (hk : k < S.length), k < c → view (R.cells[k]'(by rw [hl]; exact hk)) = view S[k]) : Mid' S R.cells c R :=
  ⟨hl, hl, hlo, fun _ _ _ => rfl, fun _ => Or.inl rfl⟩

/-- the column `c` of the last character of a line -/
theorem endCol_facts {S : List Cell} (hS : SrcOk W S) (hne : 0 < S.length) :
    ∃ c, ∃ hc : c < S.length, c = (if (S[S.length - 1]'(by omega)).cont = true then S.length - 2 else S.length - 1) ∧
      S[c].cont = false ∧ c + (if S[c].wide = true then 2 else 1) = S.length ∧
      ((S[S.length - 1]'(by omega)).cont = true → 2 ≤ S.length) := by
  have hl : S.length - 1 < S.length := by omega
  by_cases hc : (S[S.length - 1]'hl).cont = true
  · have h1 := hS.cont_iff (S.length - 1) hl
    rw [hc] at h1
    by_cases h0 : S.length - 1 = 0
    · rw [if_pos h0] at h1; exact absurd h1 (by simp)
    · rw [if_neg h0] at h1
      have e : S.length - 1 - 1 = S.length - 2 := by omega
      have hw : (S[S.length - 2]'(by omega)).wide = true := by
        have : (S[S.length - 1 - 1]'(by omega)).wide = true := h1.symm
        simpa only [e] using this
      refine ⟨S.length - 2, by omega, by rw [if_pos hc], ?_, ?_⟩
      · cases hcc : (S[S.length - 2]'(by omega)).cont
        · rfl
        · have := (cellOk_cont W _ (hS.cells_ok _ (List.getElem_mem (by omega))) hcc).1
          rw [hw] at this; exact absurd this (by simp)
      · rw [if_pos hw]; omega
  · refine ⟨S.length - 1, hl, by rw [if_neg hc], by simpa using hc, ?_, fun h => absurd h hc⟩
    rw [hS.last_narrow hne]; simp; omega

theorem endCol_ge {S : List Cell} (hS : SrcOk W S) {c : Nat} (hc : c < S.length)
    (hcw : c + (if S[c].wide = true then 2 else 1) = S.length) {e : Nat} (he : e < S.length) (hse : S[e].cont = false) :
    e ≤ c := by
  by_cases hw : S[c].wide = true
  · obtain ⟨hc1, hcont⟩ := hS.wide_next c hc hw
    rw [if_pos hw] at hcw
    by_cases h : e = c + 1
    · subst h
      rw [hse] at hcont; exact absurd hcont (by simp)
    · omega
  · rw [if_neg hw] at hcw; omega

theorem flags_differ {a b : Bool} (h : a ≠ b) : ((!a && b) || (!b && a)) = true := by
  cases a <;> cases b <;> simp at h ⊢

theorem endCol_text {S : List Cell} (hS : SrcOk W S) (hocc : lastOcc S) {c : Nat} (hc : c < S.length)
    (hcc : S[c].cont = false) (hcw : c + (if S[c].wide = true then 2 else 1) = S.length) : S[c].hasContents = true := by
  by_cases hw : S[c].wide = true
  · exact wide_has_contents (hS.cells_ok _ (List.getElem_mem hc)) hw
  · rw [if_neg hw] at hcw
    obtain rfl : c = S.length - 1 := by omega
    exact hocc.2.resolve_right (by rw [hcc]; simp)

/-- ECH 1 on the last character of a line clears the line's wrap flag -/
theorem flagCleared_end {S : List Cell} {Ri : Row} (hl : Ri.cells.length = S.length) {c : Nat} (hc : c < S.length)
    (hv : view (Ri.cells[c]'(by rw [hl]; exact hc)) = view S[c])
    (hcw : c + (if S[c].wide = true then 2 else 1) = S.length) : C07.flagCleared Ri.cells c (c + 1) = true := by
  unfold C07.flagCleared
  have hcR : c < Ri.cells.length := by rw [hl]; exact hc
  simp only [Nat.lt_add_one, decide_true, Bool.true_and, Nat.add_sub_cancel, List.getElem?_eq_getElem hcR, Option.map_some,
    Option.getD_some, Bool.or_eq_true, beq_iff_eq, Bool.and_eq_true]
  by_cases hw : S[c].wide = true
  · rw [if_pos hw] at hcw
    exact Or.inr ⟨by omega, by rw [view_wide hv]; exact hw⟩
  · rw [if_neg hw] at hcw
    exact Or.inl (by omega)

/-- re-typing the last character `S[c]` of the line: either it lies right of the window (`e ≤ c`), or the window reaches the
right margin and the character completes the line.  The wrap flag is not set. -/
theorem retype_lo (K : Ctx W cb) (hW : WOk W) (hS : SrcOk W K.src) {c : Nat} (hc : c < K.src.length)
    (hcc : K.src[c].cont = false) (hcw : c + (if K.src[c].wide = true then 2 else 1) = K.src.length)
    (hh : K.src[c].hasContents = true) {e : Nat} (hec : e ≤ c ∨ e = K.src.length)
    {out : List Nat} {R : Row} {pen : Attrs} (hem : Emitted W cb K.p0 out (shape K.r0 K.i R ⟨K.i, c⟩ pen)) (hwf : LineWf R)
    (hlo : Lo K.src (min e c) R) (hRc : c ≤ e → (R.cells[c]'(by rw [hlo.len]; exact hc)).cont = false) :
    ∃ R', Emitted W cb K.p0
        ((out ++ (if (pen != K.src[c].attrs) = true then K.src[c].attrs.writeEscapeCodeDiff pen else [])) ++
          K.src[c].contents.take K.src[c].len)
        (shape K.r0 K.i R' ⟨K.i, K.src.length⟩ K.src[c].attrs) ∧ Lo K.src e R' ∧
      (R'.wrapped = false ∨ R'.wrapped = R.wrapped) ∧ LineWf R' := by
  obtain ⟨f, cellF, hem', hvF, hwe, hwf'⟩ := type_at K hW hS hc hh hem hwf hlo.len
  rw [hcw] at hem'
  refine ⟨_, hem', ?_, typedRow_wrapped .., hwf'⟩
  rcases hec with hle | hel
  · exact (hlo.mono (Nat.le_min.mpr ⟨Nat.le_refl e, hle⟩)).typed hle hc (fun h => hRc (by omega)) _ _ _ _
  · have hm := (mid_self hlo.len (hlo.mono (by omega)).lo).typeCell hW.space hS (wideNext_of_paired hwf.links.paired)
      hwf.links hc hcc
      K.r0.g.size.cols K.src[c].attrs f hwe cellF hvF
    rw [hcw] at hm
    rw [hel]; exact hm.toLo

/-- **the tail of one line of a diff, when the wrap flag has changed**: `diffEnd` keeps the columns before `e`, the end of
the window, showing the (masked) current line.  The one case that needs a hypothesis (`hE`): the window reaches the margin,
the line has just become UNwrapped (`ESC[X` is written on the last column with the pen the cell loop ended with) and its
last cell has no text — then that cell's attributes must be the pen's.

The receiving line's wrap flag is never set; the `ESC[X` clears it when the window reaches the margin.  A line that has
become wrapped (so that its last column is occupied) leaves the cursor in the pending-wrap column. -/
theorem diffEnd_lo (K : Ctx W cb) (hW : WOk W) (hS : SrcOk W K.src) (hne : 0 < K.src.length) (sw : Bool) (pr : Row)
    (hcond : ((!sw && pr.wrapped) || (!pr.wrapped && sw)) = true) {e : Nat} (hel : e ≤ K.src.length)
    (hse : ∀ (he : e < K.src.length), K.src[e].cont = false) {st : Row.FmtSt} {Ri : Row}
    (hem : Emitted W cb K.p0 st.out (shape K.r0 K.i Ri st.prevPos st.prevAttrs)) (hlo : Lo K.src e Ri)
    (hnc : ∀ c, Ri.cells[e]? = some c → c.cont = false) (hl : LineWf Ri)
    (hE : e = K.src.length → sw = false → ∀ c (hc : c < K.src.length), c + 1 = K.src.length →
      K.src[c].cont = false → K.src[c].hasContents = false → K.src[c].attrs = st.prevAttrs) :
    ∃ out np na, Row.diffEnd ⟨K.src, sw⟩ pr K.i st = .ok (out, np, na) ∧
      (∃ Ri', Emitted W cb K.p0 out (shape K.r0 K.i Ri' np na) ∧ Lo K.src e Ri' ∧
        (Ri'.wrapped = false ∨ Ri'.wrapped = Ri.wrapped) ∧ (e = K.src.length → sw = false → Ri'.wrapped = false) ∧
        LineWf Ri') ∧
      (sw = true → lastOcc K.src → np = ⟨K.i, K.src.length⟩) := by
  obtain ⟨c, hc, hce, hcc, hcw, h2⟩ := endCol_facts hS hne
  have hok := hS.cells_ok _ (List.getElem_mem hc)
  rw [diffEnd_eq ⟨K.src, sw⟩ pr K.i st hcond hne c hc hce h2 (cellFine_of_ok hok)]
  have hec : e ≤ c ∨ e = K.src.length := by
    by_cases hl : e < K.src.length
    · exact Or.inl (endCol_ge hS hc hcw hl (hse hl))
    · exact Or.inr (Nat.le_antisymm hel (Nat.le_of_not_lt hl))
  have hcR : c < Ri.cells.length := by rw [hlo.len]; exact hc
  have hRc : c ≤ e → Ri.cells[c].cont = false := by
    intro hce'
    by_cases h : c = e
    · subst h; exact hnc _ (List.getElem?_eq_getElem hcR)
    · rw [view_cont (hlo.lo c hc (by omega))]; exact hcc
  have hm : Lo K.src (min e c) Ri := hlo.mono (Nat.min_le_left e c)
  have h1 := K.emitted_move hem hlo.len hc
  cases sw
  · -- the line became unwrapped: ECH 1 on the last character first
    simp only [↓reduceIte]
    obtain ⟨h2e, hl2⟩ := emitted_ech K h1 hl hlo.len 1 (by omega) (by omega)
    obtain ⟨hm1, hnc1⟩ := hm.erased1 hl.links.paired (Nat.min_le_right e c) hc (fun h => hRc (by omega)) Ri.wrapped st.prevAttrs
    have hq1 := erasedRow_wrapped Ri.cells Ri.wrapped c (c + 1) st.prevAttrs
    have hoff : e = K.src.length → (C07.erasedRow Ri.cells Ri.wrapped c (c + 1) st.prevAttrs).wrapped = false := by
      intro hel'
      simp only [C07.erasedRow, flagCleared_end hlo.len hc (hlo.lo c hc (by omega)) hcw, ↓reduceIte]
    by_cases hh : K.src[c].hasContents = true
    · rw [if_pos hh]
      obtain ⟨R', hem', hlo', hq', hwf'⟩ := retype_lo K hW hS hc hcc hcw hh hec h2e hl2 hm1 (fun _ => hnc1)
      refine ⟨_, _, _, rfl, ⟨R', by rw [hcw]; exact hem', hlo', ?_, fun h _ => ?_, hwf'⟩, fun h => nomatch h⟩
      · exact hq'.elim Or.inl (fun h => h ▸ hq1)
      · exact hq'.elim id (fun h' => h'.trans (hoff h))
    · rw [if_neg hh]
      refine ⟨_, _, _, rfl, ⟨_, h2e, ?_, hq1, fun h _ => hoff h, hl2⟩, fun h => nomatch h⟩
      rcases hec with hle | hel'
      · exact hm1.mono (Nat.le_min.mpr ⟨Nat.le_refl e, hle⟩)
      · have hh' : K.src[c].hasContents = false := by simpa using hh
        have hcl : c + 1 = K.src.length := by simpa [blank_narrow hok hh'] using hcw
        rw [hel', ← hcl]
        refine (hm1.mono (by omega)).succ hc ?_
        rw [erasedRow_view_in Ri.cells Ri.wrapped st.prevAttrs hcR (Nat.le_refl c) (Nat.lt_succ_self c),
          blank_blankA hS c hc hh' hcc, hE hel' rfl c hc hcl hcc hh']
  · -- the line became wrapped: only the last character is re-typed
    simp only [Bool.true_eq_false, ↓reduceIte, List.append_nil]
    by_cases hh : K.src[c].hasContents = true
    · rw [if_pos hh]
      obtain ⟨R', hem', hlo', hq', hwf'⟩ := retype_lo K hW hS hc hcc hcw hh hec h1 hl hm hRc
      exact ⟨_, _, _, rfl, ⟨R', by rw [hcw]; exact hem', hlo', hq', fun _ h => (nomatch h), hwf'⟩, fun _ _ => by rw [hcw]⟩
    · rw [if_neg hh]
      exact ⟨_, _, _, rfl, ⟨Ri, h1, hlo, Or.inr rfl, fun _ h => (nomatch h), hl⟩,
        fun _ hocc => absurd (endCol_text hS hocc hc hcc hcw) hh⟩

/-- `diffEnd` reads the line's length, its wrap flag, its last cell and its last character only -/
theorem diffEnd_congr (r r' pr : Row) (i : Nat) (st : Row.FmtSt) (hw : r.wrapped = r'.wrapped)
    (hlen : r.cells.length = r'.cells.length) (hne : 0 < r.cells.length) (c : Nat) (hc : c < r.cells.length)
    (hce : c = (if (r.cells[r.cells.length - 1]'(by omega)).cont = true then r.cells.length - 2 else r.cells.length - 1))
    (h2 : (r.cells[r.cells.length - 1]'(by omega)).cont = true → 2 ≤ r.cells.length) (hf : CellFine r.cells[c])
    (hlast : r.cells[r.cells.length - 1]'(by omega) = r'.cells[r'.cells.length - 1]'(by omega))
    (hcc : r.cells[c] = r'.cells[c]'(by omega)) :
    Row.diffEnd r pr i st = Row.diffEnd r' pr i st := by
  by_cases hcond : ((!r.wrapped && pr.wrapped) || (!pr.wrapped && r.wrapped)) = true
  · rw [diffEnd_eq r pr i st hcond hne c hc hce h2 hf,
      diffEnd_eq r' pr i st (by rw [← hw]; exact hcond) (by omega) c (by omega) (by rw [← hlast, ← hlen]; exact hce)
        (by rw [← hlast, ← hlen]; exact h2) (by rw [← hcc]; exact hf)]
    simp only [hcc, hw]
  · unfold Row.diffEnd
    rw [if_neg hcond, if_neg (by rw [← hw]; exact hcond)]

/-- `diffEnd` of a line is `diffEnd` of any well-formed line `M` that agrees with it from a column `s` on that does not
split a wide character: the last character lies right of that column -/
theorem diffEnd_agree {sr pr : Row} {M : List Cell} (hSm : SrcOk W M) (hml : M.length = sr.cells.length) {s : Nat}
    (hs : s < sr.cells.length) (hL : sr.cells[s].cont = false)
    (hget : ∀ k (hk : k < M.length), s ≤ k → M[k] = sr.cells[k]'(by omega)) (i : Nat) (st : Row.FmtSt) :
    Row.diffEnd sr pr i st = Row.diffEnd ⟨M, sr.wrapped⟩ pr i st := by
  have hne : 0 < M.length := by omega
  obtain ⟨c, hc, hce, hcc, hcw, h2⟩ := endCol_facts hSm hne
  have hlast : (M[M.length - 1]'(by omega)) = sr.cells[sr.cells.length - 1]'(by omega) := by
    rw [hget (M.length - 1) (by omega) (by omega)]
    exact getElem_congr_idx (by rw [hml])
  have hsM : s < M.length := by rw [hml]; exact hs
  have hsc : s ≤ c := endCol_ge hSm hc hcw hsM (by rw [hget s hsM (Nat.le_refl s)]; exact hL)
  exact (diffEnd_congr ⟨M, sr.wrapped⟩ sr pr i st rfl hml hne c hc hce h2
    (cellFine_of_ok (hSm.cells_ok _ (List.getElem_mem hc))) hlast (hget c hc hsc)).symm

theorem last_differs {S P : List Cell} (hocc : lastOcc P) (hpl : P.length = S.length) {c : Nat} (hc : c < S.length)
    (hcl : c + 1 = S.length) (hcc : S[c].cont = false) (hh : S[c].hasContents = false) :
    view S[c] ≠ view (P[c]'(by omega)) := by
  obtain ⟨hp0, hocc'⟩ := hocc
  have hidx : P.length - 1 = c := by omega
  have hocc'' : (P[c]'(by omega)).hasContents = true ∨ (P[c]'(by omega)).cont = true := by
    simpa only [hidx] using hocc'
  intro hv
  simp only [view, View.mk.injEq] at hv
  rcases hocc'' with h1 | h1
  · simp only [Cell.hasContents, decide_eq_true_eq, decide_eq_false_iff_not] at h1 hh
    omega
  · rw [← hv.2.2.1, hcc] at h1; exact absurd h1 (by simp)

/-- **one line of `rows_diff(prev, start, width)`**: for a window `[start, start + width)` whose left edge splits a wide
character of neither line and whose right edge does not split one of the current line, on a receiver (ready, a canvas)
whose line `i` is `LineWf` and shows the cells of the previous line `pr`, processing the bytes of
`sr.write_contents_diff(pr, start, width, …)` makes the window of line `i` show the cells of the current line `sr` and
leaves the columns left of the window as they were.  The wrap flags of `sr`, `pr` and of the receiving line are
arbitrary; of the receiving line's flag any predicate `Q` that clearing the flag preserves holds afterwards as before
(nothing the diff writes inside a line sets the flag).

When the two lines' flags are equal `diffEnd` writes nothing, and the columns right of the window either are as they
were (given the right edge does not split a wide character of `pr`) or have all been blanked with the same attributes
(the window ends inside a run of changed empty cells, which is flushed as `EL` — that runs to the end of the LINE, not of
the window); when moreover the last cell of the window is one the diff types (`TypedAt`), no erase run is pending at the
right edge: the emitter's cursor ends right behind that cell and the columns right of the window are as they were.  When the
flags differ, `diffEnd` re-types the last character of the line, which lands right of the window, and nothing is claimed
there.

`hocc`: a wrapped previous line has its last column occupied — an invariant of the crate's screens (`SrcRows.wrapOcc`:
in the crate the wrap flag is only set then, and erasing the last column clears it).  It is used only when the window
reaches the right margin: the last blank cell of a line that has just become unwrapped then differs from the previous
line's last cell, so it belongs to the erase run that the cell loop flushes last, and `diffEnd`'s `ESC[X` is written with
exactly that cell's attributes as the pen; without it `ESC[X` may repaint that cell with the wrong attributes: see the
counterexample at the end of this file. -/
theorem row_window_diff_draws_flag (hW : WOk W) (p0 : Parser) (hr : Ready p0)
    (hcv : Canvas (rsOf p0.ws).g) (i : Nat) (hi : i < (rsOf p0.ws).g.size.rows) (sr pr : Row)
    (hlen : sr.cells.length = (rsOf p0.ws).g.size.cols) (hplen : pr.cells.length = (rsOf p0.ws).g.size.cols)
    (hS : SrcOk W sr.cells) (hP : SrcOk W pr.cells)
    (start width : Nat) (hwd : 0 < width) (hfit : start + width ≤ sr.cells.length)
    (hL : start = 0 ∨ ∀ c, sr.cells[start]? = some c → c.cont = false)
    (hLp : start = 0 ∨ ∀ c, pr.cells[start]? = some c → c.cont = false)
    (hR : start + width = sr.cells.length ∨ ∀ c, sr.cells[start + width]? = some c → c.cont = false)
    (Ri0 : Row) (hrow : (rsOf p0.ws).g.rows[i]? = some Ri0) (hshow : Ri0.cells.map view = pr.cells.map view)
    (hwf0 : LineWf Ri0) (hpc : (rsOf p0.ws).g.pos.col ≤ (rsOf p0.ws).g.size.cols) (pw : Bool)
    (hocc : sr.wrapped = false → pr.wrapped = true → lastOcc pr.cells)
    {Q : Bool → Prop} (hclr : ∀ w, Q w → Q false) (hq : Q Ri0.wrapped) :
    ∃ out np na, sr.writeContentsDiff pr start width i false pw (rsOf p0.ws).g.pos (rsOf p0.ws).pen = .ok (out, np, na) ∧
      (∃ Ri, Emitted W cb p0 out (shape (rsOf p0.ws) i Ri np na) ∧
        (∀ k, start ≤ k → k < start + width → (Ri.cells[k]?).map view = (sr.cells[k]?).map view) ∧
        (∀ k, k < start → (Ri.cells[k]?).map view = (pr.cells[k]?).map view) ∧
        (sr.wrapped = pr.wrapped → (∀ c, pr.cells[start + width]? = some c → c.cont = false) →
          (∀ k, start + width ≤ k → k < sr.cells.length → (Ri.cells[k]?).map view = (pr.cells[k]?).map view) ∨
          (∃ a, ∀ k, start + width ≤ k → k < sr.cells.length → (Ri.cells[k]?).map view = some (blankA a))) ∧
        Q Ri.wrapped ∧ Ri.cells.length = sr.cells.length ∧ LineWf Ri ∧
        (sr.wrapped = pr.wrapped → TypedAt sr.cells pr.cells (start + width - 1) → np = ⟨i, start + width⟩ ∧
          ((∀ c, pr.cells[start + width]? = some c → c.cont = false) →
            ∀ k, start + width ≤ k → k < sr.cells.length → (Ri.cells[k]?).map view = (pr.cells[k]?).map view))) ∧
      Bytes out ∧ np.col ≤ (rsOf p0.ws).g.size.cols ∧ (Attrs.wf (rsOf p0.ws).pen → Attrs.wf na) := by
  have hs : start < sr.cells.length := by omega
  have hpl : pr.cells.length = sr.cells.length := by rw [hplen, hlen]
  have hL' := edge_cont hS hs hL
  have hLp' := edge_cont hP (show start < pr.cells.length by omega) hLp
  have hml := maskP_length pr.cells sr.cells start (by omega) (Nat.le_of_lt hs)
  have hSm := srcOk_maskP hP hS hpl start hs hLp' hL'
  let K : Ctx W cb := ⟨p0, hr, rsOf p0.ws, hcv, i, hi, maskP pr.cells sr.cells start, hml.trans hlen⟩
  let D : DCtx W K.src.length := ⟨pr.cells, hpl.trans hml.symm, hP⟩
  have hKl : K.src.length = sr.cells.length := hml
  have hget : ∀ k (hk : k < K.src.length), K.src[k] =
      if k < start then pr.cells[k]'(by rw [hpl, ← hKl]; exact hk) else sr.cells[k]'(by rw [← hKl]; exact hk) :=
    fun k hk => maskP_getElem pr.cells sr.cells start k hpl (Nat.le_of_lt hs) hk
  have hgeS : ∀ k (hk : k < K.src.length), start ≤ k → K.src[k] = sr.cells[k]'(by rw [← hKl]; exact hk) :=
    fun k hk hsk => by rw [hget k hk, if_neg (by omega)]
  obtain ⟨st', e, hJ⟩ := window_loop K D (KeepsFlag.of_clear hclr) hW rfl sr.cells hpl hfit hs rfl hSm hLp' hrow hshow hq hwf0
  have hRK : (K.src[start + width - 1]'(by omega)).wide = false := by
    rw [hgeS _ (by omega) (by omega)]; exact edge_wide hS (by omega) hfit hR
  obtain ⟨Ri, hem, hlo, hq', hnc, hrest, hwf⟩ := finish_win K D hclr hSm (e := start + width) (by omega)
    (by rw [hKl]; exact hfit) hRK hJ
  -- what the emitter keeps by itself
  suffices h : ∃ out np na, sr.writeContentsDiff pr start width i false pw (rsOf p0.ws).g.pos (rsOf p0.ws).pen =
      .ok (out, np, na) ∧ _ by
    obtain ⟨out, np, na, e, h1⟩ := h
    obtain ⟨hb, hc, hw⟩ := C12.MPred.iff.mp (row_diff_keeps hS ..) _ e
    exact ⟨out, np, na, e, h1, hb, hlen ▸ hc (hlen ▸ hpc), hw⟩
  rw [writeContentsDiff_of_loop sr pr start width i pw _ _ e]
  by_cases hfl : sr.wrapped = pr.wrapped
  · -- equal flags: `diffEnd` writes nothing
    rw [diffEnd_flag_kept sr pr i _ hfl]
    simp only [hKl] at hem hrest
    obtain ⟨w1, w2, w3⟩ := hlo.window hpl (by omega) hfit
    refine ⟨_, _, _, rfl, Ri, hem, w1, w2, fun _ h => (hrest h).imp (·.2) (·.2), hq', w3, hwf, fun _ ht => ?_⟩
    -- the last cell of the window is typed: the emitter's cursor is behind it and no erase run is pending
    have htK : TypedAt K.src D.prv (start + width - 1) := by
      obtain ⟨hk, hkP, h⟩ := ht
      refine ⟨by rw [hKl]; exact hk, hkP, h.imp (fun h => ?_) (fun ⟨hc, h0, hne⟩ => ?_)⟩
      · rw [hgeS _ _ (by omega)]; exact h
      · have hne0 : start + width - 1 ≠ start := fun h => by rw [getElem_congr_idx h, hL'] at hc; cases hc
        rw [hgeS _ _ (by omega)]
        exact ⟨hc, h0, by rw [hgeS _ _ (by omega)]; exact hne⟩
    obtain ⟨he, hp⟩ := hJ.pp (by omega) htK
    have hpw : st'.prevWasWide = false := (hJ.ww (by omega) (by rw [hKl]; exact hfit)).trans hRK
    refine ⟨by simp only [Row.fmtFinish, he, hp, hpw, Bool.false_eq_true, ↓reduceIte]; rfl, fun h => ?_⟩
    exact (hrest h).elim (·.2) (fun h' => absurd he h'.1)
  · have hcond := flags_differ hfl
    -- `diffEnd` reads the last character only: it is that of the masked line
    rw [diffEnd_agree (pr := pr) hSm hKl hs hL' hgeS i]
    obtain ⟨out, np, na, eend, ⟨Ri', hem', hlo', hfl', _, hwfR⟩, _⟩ :=
      diffEnd_lo K hW hSm (by rw [hKl]; omega) sr.wrapped pr hcond (by rw [hKl]; exact hfit)
        (fun he => by rw [hSm.cont_iff (start + width) he, if_neg (by omega)]; exact hRK) hem hlo hnc hwf (by
          intro hfull hsu c' hc' hcl' hcc' hh'
          have hpwr : pr.wrapped = true := by
            cases h2 : pr.wrapped
            · rw [hsu, h2] at hfl; exact absurd rfl hfl
            · rfl
          exact (finish_pen K D hSm (by rw [hKl]; omega) (hfull ▸ hJ) hc' hcl' hcc' hh'
            (last_differs (hocc hsu hpwr) D.hprv hc' hcl' hcc' hh')).symm)
    rw [hKl] at eend
    rw [eend]
    obtain ⟨w1, w2, w3⟩ := hlo'.window hpl (by omega) hfit
    exact ⟨_, _, _, rfl, Ri', hem', w1, w2, fun h => absurd h hfl, flag_pred hclr hq' hfl', w3, hwfR, fun h => absurd h hfl⟩

/-- **one line of a diff, any wrap flags** (`wrapping = false`, full width): the window `[0, cols)` -/
theorem row_diff_draws_flag (hW : WOk W) (p0 : Parser) (hr : Ready p0)
    (hcv : Canvas (rsOf p0.ws).g) (i : Nat) (hi : i < (rsOf p0.ws).g.size.rows) (sr pr : Row)
    (hlen : sr.cells.length = (rsOf p0.ws).g.size.cols) (hplen : pr.cells.length = (rsOf p0.ws).g.size.cols)
    (hS : SrcOk W sr.cells) (hP : SrcOk W pr.cells)
    (Ri0 : Row) (hrow : (rsOf p0.ws).g.rows[i]? = some Ri0) (hshow : Ri0.cells.map view = pr.cells.map view)
    (hwf0 : LineWf Ri0) (hpc : (rsOf p0.ws).g.pos.col ≤ (rsOf p0.ws).g.size.cols) (pw : Bool)
    (hocc : sr.wrapped = false → pr.wrapped = true → lastOcc pr.cells)
    {Q : Bool → Prop} (hclr : ∀ w, Q w → Q false) (hq : Q Ri0.wrapped) :
    ∃ out np na, sr.writeContentsDiff pr 0 sr.cells.length i false pw (rsOf p0.ws).g.pos (rsOf p0.ws).pen = .ok (out, np, na) ∧
      (∃ Ri, Emitted W cb p0 out (shape (rsOf p0.ws) i Ri np na) ∧ Ri.cells.map view = sr.cells.map view ∧ Q Ri.wrapped) ∧
      Bytes out ∧ np.col ≤ (rsOf p0.ws).g.size.cols ∧ (Attrs.wf (rsOf p0.ws).pen → Attrs.wf na) := by
  obtain ⟨out, np, na, e, ⟨Ri, hem, hwin, _, _, hq', hl, _⟩, hrest⟩ :=
    row_window_diff_draws_flag hW p0 hr hcv i hi sr pr hlen hplen hS hP 0 sr.cells.length
      (by rw [hlen]; exact hcv.cols_pos) (Nat.le_of_eq (Nat.zero_add _)) (Or.inl rfl) (Or.inl rfl)
      (Or.inl (Nat.zero_add _)) Ri0 hrow hshow hwf0 hpc pw hocc hclr hq
  refine ⟨out, np, na, e, ⟨Ri, hem, ?_, hq'⟩, hrest⟩
  apply List.ext_getElem?
  intro k
  rw [List.getElem?_map, List.getElem?_map]
  by_cases hk : k < sr.cells.length
  · exact hwin k (Nat.zero_le k) (by omega)
  · rw [List.getElem?_eq_none (by omega), List.getElem?_eq_none (by omega)]

end Vt.C15wrap

namespace Vt.DiffRow
open Vt Vt.Recv Vt.C19 Vt.C09 Vt.RowDraw Vt.Bytes

variable {W : Nat → Option Nat} {cb : CbPolicy}

set_option linter.unusedVariables false in -- `hcb`: of the parser invariant `hpi` only `LineWf` of line `i` is used; `hsu`: the receiving line's flag stays off whatever `sr`'s is
/-- **one line of a diff** (`wrapping = false`, neither line wrapped, full width): on a receiver (a parser satisfying
the invariant) whose line `i` shows the previous line `pr`, processing the bytes of
`sr.write_contents_diff(pr, …)` makes line `i` show the current line `sr` cell for cell; cursor and pen end at the
`prev_pos` / `prev_attrs` the emitter returns; every other line, the region, the scrollback, the saved cursor —
everything else — is as before -/
theorem row_diff_draws (hW : WOk W) (hcb : C13.CbInv W cb) (p0 : Parser) (hr : Ready p0) (hpi : C13.ParserInv W p0)
    (hcv : Canvas (rsOf p0.ws).g) (i : Nat) (hi : i < (rsOf p0.ws).g.size.rows) (sr pr : Row)
    (hlen : sr.cells.length = (rsOf p0.ws).g.size.cols) (hplen : pr.cells.length = (rsOf p0.ws).g.size.cols)
    (hS : SrcOk W sr.cells) (hP : SrcOk W pr.cells) (hsu : sr.wrapped = false) (hpu : pr.wrapped = false)
    (Ri0 : Row) (hrow : (rsOf p0.ws).g.rows[i]? = some Ri0) (hshow : Ri0.cells.map view = pr.cells.map view)
    (hRu : Ri0.wrapped = false) (hpc : (rsOf p0.ws).g.pos.col ≤ (rsOf p0.ws).g.size.cols) (pw : Bool) :
    ∃ out np na, sr.writeContentsDiff pr 0 sr.cells.length i false pw (rsOf p0.ws).g.pos (rsOf p0.ws).pen = .ok (out, np, na) ∧
      (∃ Ri, Emitted W cb p0 out (shape (rsOf p0.ws) i Ri np na) ∧ Ri.cells.map view = sr.cells.map view ∧
        Ri.wrapped = false) ∧ Bytes out ∧ np.col ≤ (rsOf p0.ws).g.size.cols ∧
      (Attrs.wf (rsOf p0.ws).pen → Attrs.wf na) :=
  C15wrap.row_diff_draws_flag hW p0 hr hcv i hi sr pr hlen hplen hS hP Ri0 hrow hshow (lineWf_of_parserInv hpi hrow) hpc pw
    (fun _ h => by rw [hpu] at h; cases h) (Q := (· = false)) (fun _ _ => rfl) hRu

end Vt.DiffRow

/-
The counterexample behind `hocc` (on a 3 x 5 receiver):
  pr = five blank cells on a red background, wrap flag SET;  sr = the same cells, wrap flag clear.
  No cell differs, so the cell loop writes nothing and the pen is still the default one when `diffEnd` runs:
    sr.writeContentsDiff pr 0 5 0 false false ⟨0, 0⟩ Attrs.default = ESC[4C ESC[X
  and the receiver's last cell becomes a blank on the DEFAULT background instead of the red one:
  `Ri.cells.map view ≠ sr.cells.map view`.  All other hypotheses of `row_diff_draws_flag` hold for these lines
  (`rowOk`, `rowEmitOk`); what fails is `rowPlusOk pr` ("a soft-wrapped line has its last column occupied"), which
  every screen the crate can reach satisfies (`SrcRows.wrapOcc`, from `Vt.Reach`/`InvF`) — so this is a property the
  correctness of `write_contents_diff` silently depends on, not a reachable defect.
-/
