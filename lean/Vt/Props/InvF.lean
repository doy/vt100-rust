/-
  Vt.Props.InvF — the wrap-flag part of `Inv⁺`: a line flagged as wrapped ends in an occupied last column
  (text, or the second half of a wide character) — in the live lines and in the scrollback — and the last live
  line is never flagged.  Kept by every operation of `grid.rs` (`opsKeep_f`; partial-correctness form, on top of
  `Inv`), so `InvPerform` carries it, as the condition `ScreenF` on the screen, through `perform`, `process` and the
  public API to every reachable screen (`reachable_f`).
-/
import Vt.Props.InvX
import Vt.Props.C07b
namespace Vt.InvF
open Vt Vt.C13 Vt.InvX

variable {W : Nat → Option Nat}

def Occ (c : Cell) : Prop := (c.hasContents || c.cont) = true

def LastOcc (cs : List Cell) : Prop := ∃ L, cs[cs.length - 1]? = some L ∧ Occ L

theorem lastColOccupied_iff (r : Row) : lastColOccupied r = true ↔ LastOcc r.cells := by
  unfold lastColOccupied LastOcc
  rw [List.getLast?_eq_getElem?]
  cases r.cells[r.cells.length - 1]? with
  | none => simp
  | some c => simp [Occ]

def RF (r : Row) : Prop := r.wrapped = true → LastOcc r.cells

theorem rf_of_unwrapped {r : Row} (h : r.wrapped = false) : RF r := fun hw => by rw [h] at hw; cases hw

theorem rf_pred : RowPred RF := ⟨fun _ => rf_of_unwrapped rfl, fun _ _ => rf_of_unwrapped rfl⟩

def LastUn (rows : List Row) : Prop := ∀ r, rows.getLast? = some r → r.wrapped = false

def GridF (g : Grid) : Prop := GridP RF g ∧ LastUn g.rows

theorem lastUn_nil : LastUn [] := fun r h => by simp at h

theorem lastUn_of_all {rows : List Row} (h : ∀ r ∈ rows, r.wrapped = false) : LastUn rows :=
  fun r hr => h r (List.mem_of_getLast? hr)

theorem getLast?_set {α} (l : List α) (i : Nat) (y : α) :
    (l.set i y).getLast? = if i + 1 = l.length then some y else l.getLast? := by
  rw [List.getLast?_eq_getElem?, List.getLast?_eq_getElem?, List.length_set, List.getElem?_set]
  by_cases h : i + 1 = l.length
  · rw [if_pos h, if_pos (Nat.eq_sub_of_add_eq h), if_pos (h ▸ Nat.lt_succ_self i)]
  · rw [if_neg h]
    split
    · rw [if_neg (by omega)]; exact (List.getElem?_eq_none (by omega)).symm
    · rfl

theorem lastUn_set {rows : List Row} (h : LastUn rows) {i : Nat} {x y : Row} (hx : rows[i]? = some x)
    (hy : y.wrapped = true → x.wrapped = true) : LastUn (rows.set i y) := by
  intro r hr
  rw [getLast?_set] at hr
  split at hr
  · next hil =>
    cases hr
    have hx' := h x (by rw [List.getLast?_eq_getElem?, ← hil, Nat.add_sub_cancel]; exact hx)
    exact Bool.eq_false_iff.mpr fun hw => by rw [hy hw] at hx'; cases hx'
  · exact h r hr

theorem lastUn_set_inner {rows : List Row} (h : LastUn rows) {i : Nat} (y : Row) (hi : i + 1 < rows.length) :
    LastUn (rows.set i y) :=
  fun r hr => h r (by rwa [getLast?_set, if_neg (Nat.ne_of_lt hi)] at hr)

theorem lastUn_append {l1 l2 : List Row} (h2 : l2 ≠ [] → LastUn l2) (h1 : l2 = [] → LastUn l1) : LastUn (l1 ++ l2) := by
  intro r hr
  rw [List.getLast?_append] at hr
  cases hl : l2.getLast? with
  | none =>
    rw [hl] at hr
    exact h1 (List.getLast?_eq_none_iff.mp hl) r hr
  | some y =>
    rw [hl] at hr
    cases hr
    exact h2 (fun h => by rw [h] at hl; cases hl) r hl

theorem lastUn_drop {l : List Row} (h : LastUn l) (i : Nat) : LastUn (l.drop i) := by
  intro r hr
  rw [List.getLast?_drop] at hr
  split at hr
  · cases hr
  · exact h r hr

variable {g g' : Grid}

theorem gridF_same (h : GridF g) (hr : g'.rows = g.rows) (hs : g'.scrollback = g.scrollback) : GridF g' :=
  ⟨gridP_same h.1 hr hs, by rw [hr]; exact h.2⟩

theorem gridF_allCleared (h : GridF g) {rows' : List Row} (hr : ∀ r ∈ rows', r.wrapped = false) :
    GridF { g with rows := rows' } :=
  ⟨⟨fun r hr' => rf_of_unwrapped (hr r hr'), h.1.2⟩, lastUn_of_all hr⟩

theorem LastUn.moved {x : Row} {rows rows' : List Row} (h : LastUn rows) (hm : Moved x rows rows') : LastUn rows' :=
  fun r hr => (hm.last r hr).elim id (h r)

/-- one step of IL / SD -/
theorem lastUn_down_step {g g' : Grid} (h : LastUn g.rows) (s1 s2 s3 at_ : Nat)
    (e : (do
      let (_, rows) ← removeM s1 g.rows g.scrollBottom
      let rows ← insertM s2 rows at_ g.newRow
      let rows ← modifyM s3 rows g.scrollBottom (fun r => pure (r.wrap false))
      pure { g with rows := rows } : M Grid) = .ok g') : LastUn g'.rows := by
  obtain ⟨hp, rfl⟩ := (downM_iff (t := fun _ => at_) g g').mp e
  exact h.moved (Moved.down rfl hp.1 hp.2)

/-- one step of DL / SU -/
theorem lastUn_up_step {g : Grid} (h : LastUn g.rows) {site1 site2 at_ : Nat} {x : Row} {rows1 rows2 : List Row}
    (hat : at_ < g.rows.length)
    (h1 : insertM site1 g.rows (g.scrollBottom + 1) g.newRow = .ok rows1)
    (h2 : removeM site2 rows1 at_ = .ok (x, rows2)) : LastUn rows2 := by
  obtain ⟨hp, hq⟩ := upM_eq_ok.mp (show (insertM site1 g.rows (g.scrollBottom + 1) g.newRow >>= fun rows =>
    removeM site2 rows at_) = .ok (x, rows2) by rw [h1]; exact h2)
  exact (Prod.mk.inj hq).2 ▸ h.moved (Moved.up rfl hp.1 hat)

theorem gridF_scrolled (s : GScrolled g g') (h : GridF g) : GridF g' :=
  ⟨s.gridP rf_pred h.1, h.2.moved s.moved⟩

theorem gridF_set (h : GridF g) {i : Nat} {r r' : Row} (hr : g.rows[i]? = some r) (hrf : RF r')
    (hw : r'.wrapped = true → r.wrapped = true) : GridF { g with rows := g.rows.set i r' } :=
  ⟨gridP_set h.1 i hrf, lastUn_set h.2 hr hw⟩

theorem gridF_modifyCurrentRow (h : GridF g) {f : Row → M Row}
    (hf : ∀ r r', g.rows[g.pos.row]? = some r → f r = .ok r' → RF r' ∧ (r'.wrapped = true → r.wrapped = true))
    (e : g.modifyCurrentRow f = .ok g') : GridF g' := by
  obtain ⟨r, r', hr, hrr, rfl⟩ := modifyCurrentRow_eq_ok.mp e
  exact gridF_set h hr (hf r r' hr hrr).1 (hf r r' hr hrr).2

theorem gridF_unflagCurrentRow (h : GridF g) {f : Row → M Row} (hf : ∀ r r', f r = .ok r' → r'.wrapped = false)
    (e : g.modifyCurrentRow f = .ok g') : GridF g' :=
  gridF_modifyCurrentRow h (fun r r' _ hrr =>
    ⟨rf_of_unwrapped (hf r r' hrr), fun hw => by rw [hf r r' hrr] at hw; cases hw⟩) e

theorem unwrapped_map_clear {a : Attrs} {l : List Row} : ∀ r ∈ l.map (fun (r : Row) => r.clear a), r.wrapped = false := by
  intro r hr
  obtain ⟨r0, _, rfl⟩ := List.mem_map.mp hr
  rfl

theorem rf_erasedRow {cs : List Cell} {w : Bool} (hinv : CellsInv W cs) (h : RF ⟨cs, w⟩) (lo k : Nat) (a : Attrs)
    (hk : k ≤ cs.length) :
    RF (C07.erasedRow cs w lo k a) ∧ ((C07.erasedRow cs w lo k a).wrapped = true → w = true) := by
  unfold C07.erasedRow
  cases hfc : C07.flagCleared cs lo k
  case true => exact ⟨rf_of_unwrapped rfl, fun hw => by cases hw⟩
  refine ⟨fun hw => ?_, id⟩
  -- the flag stays: the last cell is neither in `[lo, k)` nor the second half of a wide character that ends there
  obtain ⟨L, hL, hocc⟩ := h hw
  simp only at hL
  have hpos : cs.length - 1 < cs.length := getElem?_lt hL
  refine ⟨C07.rangeCell lo k a (cs.length - 1) L,
    by simp only [C07.eraseRange, List.length_mapIdx, List.getElem?_mapIdx, hL, Option.map_some], ?_⟩
  unfold C07.rangeCell
  by_cases hlo : lo < k
  case neg =>
    rw [if_neg fun h => hlo (Nat.lt_of_le_of_lt h.1 h.2), if_neg fun h => hlo h.2.1, if_neg fun h => hlo h.2.1]
    exact hocc
  simp only [C07.flagCleared, hlo, decide_true, Bool.true_and, Bool.or_eq_false_iff, Bool.and_eq_false_iff,
    beq_eq_false_iff_ne] at hfc
  rw [if_neg fun h => hfc.1 (Nat.le_antisymm hk (Nat.le_of_pred_lt h.2)), if_neg (by omega), if_neg]
  · exact hocc
  · rintro ⟨hk1, -, hcont⟩
    obtain ⟨j, d, hj, hd, hdw⟩ := paired_cont_prev hL hinv.paired hcont
    rcases hfc.2 with hfc | hfc
    · omega
    · rw [show k - 1 = j by omega, hd] at hfc
      simp [hdw] at hfc

theorem gridF_eraseRange (hrows : ∀ r ∈ g.rows, RowGood W g.size.cols r) (h : GridF g) {a : Attrs} {lo hi : Nat}
    (hhi : hi ≤ g.size.cols)
    (e : g.modifyCurrentRow (fun row => forRange lo hi (fun col r => r.erase col a) row) = .ok g') : GridF g' :=
  gridF_modifyCurrentRow h (fun r r' hr hrr => by
    have hok := hrows r (List.mem_of_getElem? hr)
    cases (C07.erase_row_eq (rowGood_cells W hok) lo hi a (hok.1 ▸ hhi)).1.symm.trans hrr
    exact rf_erasedRow (rowGood_cells W hok) (h.1.1 r (List.mem_of_getElem? hr)) lo hi a (hok.1 ▸ hhi)) e

/-! ### ED 0 / ED 1: the lines below / above the cursor line cleared -/

theorem gridF_clearedFrom (h : GridF g) (n : Nat) (a : Attrs) :
    GridF { g with rows := g.rows.take n ++ (g.rows.drop n).map (fun (r : Row) => r.clear a) } := by
  refine ⟨⟨fun r hr => ?_, h.1.2⟩, lastUn_append (fun _ => lastUn_of_all unwrapped_map_clear) fun hd => ?_⟩
  · rcases List.mem_append.mp hr with hr | hr
    · exact h.1.1 r (List.mem_of_mem_take hr)
    · exact rf_of_unwrapped (unwrapped_map_clear r hr)
  · have := List.take_append_drop n g.rows
    rw [List.map_eq_nil_iff.mp hd, List.append_nil] at this
    rw [this]; exact h.2

theorem gridF_clearedUpTo (h : GridF g) (n : Nat) (a : Attrs) :
    GridF { g with rows := (g.rows.take n).map (fun (r : Row) => r.clear a) ++ g.rows.drop n } := by
  refine ⟨⟨fun r hr => ?_, h.1.2⟩, lastUn_append (fun _ => lastUn_drop h.2 n) fun _ => lastUn_of_all unwrapped_map_clear⟩
  · rcases List.mem_append.mp hr with hr | hr
    · exact rf_of_unwrapped (unwrapped_map_clear r hr)
    · exact h.1.1 r (List.mem_of_mem_drop hr)

/-! ### ICH / DCH / resize / clear: the touched lines end unflagged -/

theorem gridF_insertCells (hinv : GridInv W g true) (hl : g.rows.length = g.size.rows) (h : GridF g) (n : Nat)
    (e : g.insertCells n = .ok g') : GridF g' := by
  obtain ⟨r, L, hr, -, -, e'⟩ := C08.insertCells_eq hinv hl n
  cases e'.symm.trans e
  exact gridF_set h hr (rf_of_unwrapped rfl) (fun hw => by cases hw)

theorem gridF_deleteCells (h : GridF g) (n : Nat) (e : g.deleteCells n = .ok g') : GridF g' := by
  refine gridF_unflagCurrentRow h (fun r r' hrr => ?_) e
  obtain ⟨d, _, h2⟩ := bind_eq_ok.mp hrr
  obtain ⟨r1, _, h3⟩ := bind_eq_ok.mp h2
  cases h3; rfl

theorem gridF_setSize (h : GridF g) (sz : Size) (e : g.setSize sz = .ok g') : GridF g' :=
  gridF_same (gridF_allCleared h (C16cells.setSize_wrapped e)) rfl (C16cells.setSize_frame e).2.2.2.2.2.2.1

theorem gridF_clear (h : GridF g) (e : g.clear = .ok g') : GridF g' := by
  obtain ⟨b, _, e⟩ := bind_eq_ok.mp e
  cases e
  exact gridF_same (gridF_allCleared h unwrapped_map_clear) rfl rfl

theorem gridF_allocateRows (h : GridF g) : GridF g.allocateRows := by
  unfold Grid.allocateRows
  split
  · exact gridF_allCleared h fun r hr => (List.mem_replicate.mp hr).2 ▸ rfl
  · exact h

theorem gridF_new {sz : Size} {n : Nat} (e : Grid.new sz n = .ok g) : GridF g := by
  obtain ⟨b, _, e⟩ := bind_eq_ok.mp e
  cases e
  exact ⟨⟨fun _ hr => absurd hr List.not_mem_nil, fun _ hr => absurd hr List.not_mem_nil⟩, lastUn_nil⟩

theorem scrollUp_one_prev {g g' : Grid} (hb : g.scrollBottom < g.rows.length) (ht : g.scrollTop < g.scrollBottom)
    (e : C12.scrollUpStep g = .ok g') :
    g'.rows[g.scrollBottom - 1]? = g.rows[g.scrollBottom]? ∧ g'.scrollTop = g.scrollTop ∧ g'.scrollBottom = g.scrollBottom := by
  refine ⟨C08lfri.scrollUpStep_prev hb ht e, ?_⟩
  obtain ⟨-, rfl⟩ := (scrollUpStep_iff g g').mp e
  exact ⟨by rw [suF_same], by rw [suF_same]⟩

/-- where the line the cursor leaves ends up after `row_inc_scroll(1)` -/
theorem rowIncScroll_prev {g g' : Grid} {n : Nat} (hinv : GridInv W g true) (hl : g.rows.length = g.size.rows)
    (e : g.rowIncScroll 1 = .ok (g', n)) :
    (0 < n ∧ g'.scrollTop = g'.scrollBottom) ∨ g'.rows[g.pos.row - n]? = g.rows[g.pos.row]? := by
  have hlive := C08lfri.live_of_inv hinv hl
  have hs : C08lfri.lfClosed g 1 = (g', n) := Except.ok.inj ((C08lfri.rowIncScroll_spec hlive 1).symm.trans e)
  rcases C08lfri.lf1_cases hlive hinv.rows_u16 with ⟨-, hbot, e1⟩ | ⟨r, -, e1⟩ <;> cases e1.symm.trans hs
  · obtain ⟨-, htop, hbt⟩ := C08lfri.suClosed_frame g 1
    by_cases htb : g.scrollTop = g.scrollBottom
    · exact .inl ⟨Nat.one_pos, by rw [htop, hbt]; exact htb⟩
    · exact .inr (by
        rw [hbot]
        exact C08lfri.scrollUpStep_prev (by rw [hl]; exact hinv.region_lt)
          (Nat.lt_of_le_of_ne hinv.region_le htb) (C08lfri.scrollUpStep_closed hlive))
  · exact .inr rfl

theorem gridF_colWrap (hinv : GridInv W g true) (hl : g.rows.length = g.size.rows) (h : GridF g)
    (width : Nat) (wrap : Bool) (hw : width ≤ g.size.cols)
    (hwr : wrap = true → ∀ r, g.rows[g.pos.row]? = some r → LastOcc r.cells)
    (e : g.colWrap width wrap = .ok g') : GridF g' := by
  cases (colWrap_spec hinv hl width wrap hw).1.symm.trans e
  split
  · exact h
  have s0 := stepOk_pos W hinv hl ⟨g.pos.row, 0⟩ hinv.pos_row (Nat.zero_le _)
  obtain ⟨hp, s1⟩ := rowIncScroll_ok s0.inv hl
  have hp1 := C08lfri.lfClosed_keeps (Q := GridF) gridF_same gridF_scrolled (C08lfri.live_of_inv s0.inv hl) hinv.rows_u16 h
  refine cwClosed_cases wrap hp1 fun hnot => ?_
  generalize C08lfri.lfClosed ({ g with pos := { g.pos with col := 0 } } : Grid) 1 = p at hp s1 hp1 hnot ⊢
  obtain ⟨g1, n⟩ := p
  have hrow := List.getElem?_eq_getElem (show g.pos.row < g.rows.length by rw [hl]; exact hinv.pos_row)
  have hr1 := ((rowIncScroll_prev s0.inv hl hp).resolve_left hnot).trans hrow
  rw [flagRow_eq_set hr1]
  by_cases hb : (wrap && g.pos.row - n + 1 == g1.pos.row) = true
  · -- the line the cursor left is flagged: it is the old cursor line, whose end is occupied
    rw [hb]
    simp only [Bool.and_eq_true, beq_iff_eq] at hb
    have hocc := hwr hb.1 _ hrow
    exact ⟨gridP_set hp1.1 _ fun _ => hocc,
      lastUn_set_inner hp1.2 _ (by rw [hb.2, s1.len]; exact s1.inv.pos_row)⟩
  · rw [Bool.eq_false_iff.mpr hb]
    exact gridF_set hp1 hr1 (rf_of_unwrapped rfl) (fun hw => by cases hw)

theorem append_occ {c c' : Cell} {z : Nat} (e : c.append z = .ok c') (h : Occ c) : Occ c' := by
  unfold Cell.append at e
  split at e
  · cases e; exact h
  · obtain ⟨_, rfl⟩ := appendChar_eq_ok e
    have := Utf8.encode_length_bounds z
    simp only [Occ, Cell.hasContents, Bool.or_eq_true, decide_eq_true_eq]
    left; omega

theorem lastOcc_set {cs : List Cell} (h : LastOcc cs) {i : Nat} {c c' : Cell} (hc : cs[i]? = some c)
    (hocc : Occ c → Occ c') : LastOcc (cs.set i c') := by
  obtain ⟨L, hL, ho⟩ := h
  unfold LastOcc
  rw [List.length_set, List.getElem?_set]
  by_cases hi : i = cs.length - 1
  · have : i < cs.length := getElem?_lt hc
    rw [if_pos hi, if_pos this]
    refine ⟨c', rfl, hocc ?_⟩
    rw [hi, hL] at hc
    rw [← Option.some.inj hc]; exact ho
  · rw [if_neg hi]; exact ⟨L, hL, ho⟩

theorem gridF_modifyCellM (h : GridF g) {site : Nat} {pos : Pos} {f : Cell → M Cell}
    (hf : ∀ c c', f c = .ok c' → Occ c → Occ c') (e : g.modifyCellM site pos f = .ok g') : GridF g' := by
  obtain ⟨r, c, c', hr, hc, hcc, rfl⟩ := modifyCellM_eq_ok.mp e
  exact gridF_set h hr (fun hw => lastOcc_set (h.1.1 r (List.mem_of_getElem? hr) hw) hc (hf c c' hcc)) id

theorem gridF_textZero (h : GridF g) (z : Nat) : C12.MPred GridF (g.textZero z) :=
  textZero_cases h fun _ _ => C12.MPred.iff.mpr fun _ e =>
    gridF_modifyCellM h (fun _ _ hcc => append_occ hcc) e

/-- the cell in column `last` is occupied if the line is flagged, and the flag was set before: `w0` is the flag of the
line the writes started from, so that `gridF_text` can conclude that printing sets no flag (`r'.wrapped → r.wrapped`) -/
def KeepL (last : Nat) (w0 : Bool) (r : Row) : Prop :=
  r.cells.length = last + 1 ∧ (r.wrapped = true → (∃ L, r.cells[last]? = some L ∧ Occ L) ∧ w0 = true)

theorem keepL_write {last : Nat} {w0 : Bool} {i : Nat} {f : Cell → Cell} (hocc : i = last → ∀ x, Occ (f x)) :
    WriteKeeps (KeepL last w0) i f := by
  intro r _ h
  refine ⟨by rw [List.length_modify]; exact h.1, fun hw => ?_⟩
  obtain ⟨⟨L, hL, ho⟩, hw0⟩ := h.2 hw
  refine ⟨?_, hw0⟩
  rw [List.getElem?_modify, hL]
  split
  · exact ⟨f L, rfl, hocc ‹_› L⟩
  · exact ⟨L, rfl, ho⟩

theorem setResult_occ (x : Cell) (ch : Nat) (a : Attrs) : Occ (setResult W x ch a) :=
  show (decide ((Utf8.encode ch).length > 0) || false) = true by
    rw [Bool.or_false]; exact decide_eq_true (Utf8.encode_length_bounds ch).1

theorem keepL_textWideRow {row row' : Row} {col cols last : Nat} {a : Attrs} {c width : Nat}
    (hlast : last + 1 = cols) (hfit : col + width ≤ cols) (hw1 : 1 ≤ width)
    (h : KeepL last row.wrapped row) (e : Grid.textWideRow W row col cols a c width = .ok row') :
    KeepL last row.wrapped row' := by
  have hset : ∀ i ch, WriteKeeps (KeepL last row.wrapped) i (setResult W · ch a) :=
    fun i ch => keepL_write fun _ x => setResult_occ x ch a
  refine textWideRow_writes h (fun _ => keepL_write fun hi => by omega) (hset _ _) (hset _ _)
    (fun r hlt hr => ?_) (keepL_write fun _ x => by simp [Occ, Cell.blankCont, Cell.setWideContinuation]) e
  -- the blanked second half of an overwritten wide character: in the last column only with the flag cleared
  split
  · exact ⟨by rw [List.length_modify]; exact hr.1, fun hw => by cases hw⟩
  · exact keepL_write (fun hi => by omega) r hlt hr

theorem lastOccB_iff (r : Row) : C05.lastOccB r = true ↔ LastOcc r.cells := by
  unfold C05.lastOccB LastOcc
  cases r.cells[r.cells.length - 1]? with
  | none => simp
  | some c => simp [Occ]

theorem wrapDecision_occ (hinv : GridInv W g true) (hl : g.rows.length = g.size.rows) {width : Nat} (hwc : width ≤ g.size.cols)
    {wrap : Bool} (e : g.wrapDecision width = .ok wrap) (hw : wrap = true) {r : Row} (hr : g.rows[g.pos.row]? = some r) :
    LastOcc r.cells := by
  obtain ⟨r', hr', e'⟩ := C05.wrapDecision_spec hinv hl width hwc
  cases hr.symm.trans hr'
  cases e'.symm.trans e
  exact (lastOccB_iff r).mp (Bool.and_eq_true_iff.mp hw).2

theorem gridF_text {g g' : Grid} (hinv : GridInv W g true) (hl : g.rows.length = g.size.rows) (h : GridF g)
    {a : Attrs} {c : Nat} (e : g.text W a c = .ok g') : GridF g' := by
  refine C12.MPred.iff.mp (text_cases h fun wrap g1 hfits hwd h1 => ?_) g' e
  have hf1 := gridF_colWrap hinv hl h _ wrap hfits (fun hw r hr => wrapDecision_occ hinv hl hfits hwd hw hr) h1
  obtain ⟨g1', e1', s1, hfit⟩ := colWrap_ok hinv hl (min ((W c).getD 1) 2) wrap hfits
  cases e1'.symm.trans h1
  refine ⟨fun _ => gridF_textZero hf1 c,
    fun hnz => C12.MPred.iff.mpr fun g2 h2 g' hr hsb => ?_⟩
  refine gridF_same (gridF_modifyCurrentRow hf1 (fun r r' hr hrr => ?_) h2) hr hsb
  have hlen := (s1.inv.row_ok r (List.mem_of_getElem? hr)).1
  have hc1 : g1.size.cols - 1 + 1 = g1.size.cols := Nat.sub_add_cancel s1.inv.cols_pos
  have hk : KeepL (g1.size.cols - 1) r.wrapped r := by
    refine ⟨hlen.trans hc1.symm, fun hw => ?_⟩
    obtain ⟨L, hL, ho⟩ := hf1.1.1 r (List.mem_of_getElem? hr) hw
    exact ⟨⟨L, hlen ▸ hL, ho⟩, hw⟩
  have hk' := keepL_textWideRow hc1 hfit (Nat.pos_of_ne_zero hnz) hk hrr
  refine ⟨fun hw => ?_, fun hw => (hk'.2 hw).2⟩
  obtain ⟨⟨L, hL, ho⟩, _⟩ := hk'.2 hw
  exact ⟨L, by rw [hk'.1]; exact hL, ho⟩

open Vt.InvP

structure ScreenF (s : Screen) : Prop where
  grid : GridF s.grid
  alt : GridF s.altGrid

theorem screenF_iff {s : Screen} : ScreenF s ↔ ScreenP (fun _ => True) GridF s :=
  ⟨fun h => ⟨trivial, trivial, h.grid, h.alt⟩, fun h => ⟨h.grid, h.alt⟩⟩

theorem ScreenF.cur {s : Screen} (h : ScreenF s) : GridF s.cur := (screenF_iff.mp h).cur

theorem opsKeep_f : OpsKeep W (fun _ => True) GridF where
  penMono _ _ := trivial
  penDefault := trivial
  same := gridF_same
  new := gridF_new
  allocateRows := gridF_allocateRows
  clear := gridF_clear
  setSize := fun sz h e => gridF_setSize h sz e
  lines := gridF_scrolled
  insertCells := fun n _ _ hi hl h e => gridF_insertCells hi hl h n e
  deleteCells := fun n _ _ _ _ h e => gridF_deleteCells h n e
  eraseRange := fun _ _ _ _ _ _ hrows hhi h e => gridF_eraseRange hrows h hhi e
  clearBelow := fun n a _ _ h => gridF_clearedFrom h n a
  clearAbove := fun n a _ _ h => gridF_clearedUpTo h n a
  eraseRow := fun _ _ _ _ _ h e => gridF_unflagCurrentRow h (fun _ _ hrr => by cases hrr; rfl) e
  eraseAll := fun _ _ _ _ _ h e => by cases e; exact gridF_allCleared h unwrapped_map_clear
  text := fun _ _ _ _ _ hi hl h e => gridF_text hi hl h e

theorem screenF_setSize {s s' : Screen} (h : ScreenF s) (r c : Nat) (e : s.setSize r c = .ok s') : ScreenF s' :=
  screenF_iff.mpr ((screenF_iff.mp h).setSize (fun sz h e => gridF_setSize h sz e) r c e)

def CbF (W : Nat → Option Nat) (cb : CbPolicy) : Prop :=
  ∀ e s s', EventOk e → ScreenInv W s → ScreenF s → cb e s = .ok s' → ScreenF s'

theorem CbF.keeps {cb : CbPolicy} (h : CbF W cb) : CbKeepsCond W (ScreenP (fun _ => True) GridF) cb :=
  fun e s s' he hs hx hc => screenF_iff.mp (h e s s' he hs (screenF_iff.mpr hx) hc)

theorem cbSizes_f {cb : CbPolicy} (h : CbSizes cb) : CbF W cb := cbSizes_keepsCond h fun r c h e => screenF_setSize h r c e

theorem cbNone_f : CbF W cbNone := cbSizes_f cbNone_sizes

theorem cbResize_f : CbF W cbResize := cbSizes_f cbResize_sizes

/-- **every reachable screen satisfies `Inv` and the wrap-flag conditions**: every history of
`process` / `set_size` / `set_scrollback` calls from `Parser::new`, any bytes, any chunking -/
theorem reachable_f (hW32 : W 32 = some 1) {cb : CbPolicy} (hcb : CbInv W cb) (hcx : CbF W cb)
    (rows cols sb : Nat) (hr : 1 ≤ rows) (hc : 1 ≤ cols) (hr' : rows ≤ 65535) (hc' : cols ≤ 65535)
    (ops : List Op) (hv : ∀ op ∈ ops, op.Valid) :
    ∃ p, (Parser.new rows cols sb >>= fun p0 => ops.foldlM (applyOp W cb) p0) = .ok p ∧ ParserInv W p ∧
      ScreenF p.ws.screen := by
  obtain ⟨p, e, hi, hx⟩ := reachable_keeps opsKeep_f hW32 hcb hcx.keeps rows cols sb hr hc hr' hc' ops hv
  exact ⟨p, e, hi, screenF_iff.mpr hx⟩

end Vt.InvF
