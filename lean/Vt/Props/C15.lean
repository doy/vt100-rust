/-
  C15 — row-wise redraw (rows_formatted, rows_diff, cursor_state, attributes).

  What `rows_formatted` passes to its rows as `wrapping`, and `rows_examples`: two kernel-evaluated full-width redraws
  (`rowsReproduce`: the drawing protocol of C15full, lines positioned by `Term.moveTo`, on a new parser; observable
  states compared but for the input modes) of screens with a combining mark, a wide character, a wrapped line and an
  erased coloured line (tests of the model).
-/
import Vt.Spec.Obs
import Vt.Props.C02
namespace Vt.C15
open Vt

def rowsNoWrap (start width : Nat) : List Row → Nat → M (List (List Nat))
  | [], _ => pure []
  | r :: rs, i => do
    let (bs, _, _) ← r.writeContentsFormatted start width i false none none
    let rest ← rowsNoWrap start width rs (i + 1)
    pure (bs :: rest)

/-- for a proper sub-window (`start ≠ 0` or `width ≠ cols`) `rows_formatted` passes
`wrapping = false` to every row, whatever the rows' wrap flags are: each row of a sub-window is
self-contained and must be positioned explicitly by the caller -/
theorem subwindow_never_wraps (start width : Nat) :
    ∀ (rs : List Row) (i : Nat),
      Screen.rowsFormattedLoop false start width rs i false = rowsNoWrap start width rs i := by
  intro rs
  induction rs with
  | nil => intro i; rfl
  | cons r rs ih =>
    intro i
    simp only [Screen.rowsFormattedLoop, rowsNoWrap, Bool.false_eq_true, ↓reduceIte, ih]

theorem rows_formatted_subwindow (s : Screen) (start width : Nat)
    (h : (start == 0 && width == s.grid.size.cols) = false) :
    s.rowsFormatted start width = (s.cur.visibleRows >>= fun rs => rowsNoWrap start width rs 0) := by
  simp only [Screen.rowsFormatted, h, subwindow_never_wraps]

theorem rowsFormattedLoop_length (full : Bool) (start width : Nat) :
    ∀ (rs : List Row) (i : Nat) (w : Bool) (out : List (List Nat)),
      Screen.rowsFormattedLoop full start width rs i w = .ok out → out.length = rs.length := by
  intro rs
  induction rs with
  | nil => intro i w out h; simp [Screen.rowsFormattedLoop] at h; subst h; rfl
  | cons r rs ih =>
    intro i w out h
    simp only [Screen.rowsFormattedLoop] at h
    obtain ⟨⟨bs, p, a⟩, _, h⟩ := bind_eq_ok.mp h
    obtain ⟨rest, hrest, h⟩ := bind_eq_ok.mp h
    simp only [pure_eq_ok, Except.ok.injEq] at h
    subst h
    simp [ih _ _ _ hrest]

def rowsReproduce (S : Screen) : M Bool := do
  let q ← Parser.new S.cur.size.rows S.cur.size.cols 0
  let rs ← S.rowsFormatted 0 S.cur.size.cols
  let vr ← S.cur.visibleRows
  let bytes := (rs.zip (vr.zipIdx)).foldl (fun (acc : List Nat × Bool) p =>
      let (row, (vrow, i)) := p
      (acc.1 ++ [0x1b, 0x5b, 0x6d] ++ (if acc.2 then [] else Term.moveTo ⟨i, 0⟩) ++ row, vrow.wrapped))
    (([] : List Nat), false)
  let cur ← S.cursorStateFormatted
  let q ← q.process W0 cbNone (bytes.1 ++ [0x1b, 0x5b, 0x6d] ++ cur ++ S.attributesFormatted)
  let a ← obs S
  let b ← obs q.screen
  pure (obsEq (S.cur.scrollbackOffset != 0) { a with modes := b.modes } b)

theorem rows_examples :
    isOkTrue (do
      let p ← C02.run 3 4 0 [[0x1b, 0x5b, 0x33, 0x31, 0x3b, 0x34, 0x6d, 97, 0xCC, 0x81, 0xE4, 0xB8, 0x80, 98, 99, 100, 101, 102]]
      rowsReproduce p.screen) = true ∧
    isOkTrue (do
      let p ← C02.run 4 5 0 [[120, 121, 13, 10, 10, 0x1b, 0x5b, 0x34, 0x32, 0x6d, 122, 0x1b, 0x5b, 0x4b, 0x1b, 0x5b, 0x31, 0x3b, 0x35, 0x48, 113]]
      rowsReproduce p.screen) = true := by
  refine ⟨by decide +kernel, by decide +kernel⟩

end Vt.C15
