/-
  Vt.Props.C01cursor — the cursor fix-up of `write_cursor_position_formatted`, `cursor_fixup`, and with it the grid
  part of a full redraw, `grid_formatted_reproduces_any`.  Inside its line the cursor is reached by a move.  In the
  pending-wrap column:

    (a) the emitter's loop left the receiver's cursor there: nothing is written;
    (b) the last column of the cursor line is occupied: `retype_last` (C01grid) on that line;
    (c) it is empty and some line above has an occupied last column (`search_spec`): that line's last character is
        typed again (unless the emitter's cursor is already pending there) and LF brings the cursor down, keeping
        the column (`emitted_lfs`);
    (d) no such line (`park_at_end`): `SP`, `ESC 7`, `BS`, `ESC [ X`, `ESC 8` on the cursor line itself.

  The excursions (b), (c) and (d) write on a line that is already drawn.  They open it as `shape R k Rk` and use the
  receiver's side of the line simulations (`DiffRow.type_at`, `emitted_space`, `emitted_ech`, `Lo`), which ask of
  the line only `LineWf` — a line that shows a `SrcOk` line with full-size buffers has it.
-/
import Vt.Props.C01grid
import Vt.Lemmas.Recv2
namespace Vt.C01
open Vt Vt.Recv Vt.C19 Vt.C09 Vt.RowDraw Vt.GridDraw Vt.Tok Vt.C03 Vt.DiffRow Vt.C15wrap

variable {W : Nat → Option Nat} {cb : CbPolicy}

theorem emitted_lfs {q : Parser} (hr : Ready q) {srows : List Row} {cols : Nat} :
    ∀ (n : Nat) {out : List Nat} {pp : Pos} {R : RS}, Emitted W cb q out R →
      RowsInv srows cols srows.length false pp R → pp.row + n < srows.length →
      ∃ R', Emitted W cb q (out ++ List.replicate n 10) R' ∧
        RowsInv srows cols srows.length false ⟨pp.row + n, pp.col⟩ R' ∧ R'.pen = R.pen ∧
        R'.g.scrollbackOffset = R.g.scrollbackOffset
  | 0, out, pp, R, hem, hinv, _ => ⟨R, by simpa using hem, by simpa using hinv, rfl, rfl⟩
  | n + 1, out, pp, R, hem, hinv, hn => by
    obtain ⟨R1, h1, i1, p1, o1⟩ := emitted_lfs hr n hem hinv (by omega)
    have hpos1 : R1.g.pos = ⟨pp.row + n, pp.col⟩ := i1.pos
    have hlf := lf_eq i1.canvas (by rw [hpos1, i1.nrows]; show pp.row + n + 1 < _; omega)
    have h2 := emitted_step W cb hr h1 (step_lf W cb)
      (r' := { R1 with g := withPos R1.g ⟨R1.g.pos.row + 1, R1.g.pos.col⟩ }) (by
        simp only [pure_eq_ok] at hlf ⊢
        rw [hlf]; rfl)
    refine ⟨{ R1 with g := withPos R1.g ⟨R1.g.pos.row + 1, R1.g.pos.col⟩ }, ?_, ?_, p1, o1⟩
    · rw [List.replicate_succ', ← List.append_assoc]; exact h2
    · have := rowsInv_frame i1 { R1 with g := withPos R1.g ⟨R1.g.pos.row + 1, R1.g.pos.col⟩ } rfl rfl rfl rfl rfl
      rw [hpos1] at this ⊢
      exact this

def retypeBytes (prev : Option Pos) (pa : Attrs) (pos : Pos) (cell : Cell) : List Nat :=
  Grid.moveOpt prev pos ++ (cell.attrs.writeEscapeCodeDiff pa ++ cell.contents.take cell.len ++
    pa.writeEscapeCodeDiff cell.attrs)

/-- the found line is re-typed unless the emitter knows its cursor is already pending there -/
def needRetype (cols : Nat) (prev : Option Pos) (i : Nat) : Bool :=
  match prev with
  | some pp => pp.row != i || pp.col < cols
  | none => true

/-- **the upward search**: either no candidate line has an occupied end, or the first one that has is
re-typed (unless the emitter is already pending there) and line feeds follow.  (`site` numbers the `unwrap()`s of the source:
the cell at the end of the line is there whichever of them asks for it.) -/
theorem search_spec (Sg : Grid) (hS : SrcRows W Sg.size.cols Sg.rows) (hc1 : 1 ≤ Sg.size.cols) (prev : Option Pos) (pa : Attrs) :
    ∀ (is : List Nat) (his : ∀ i ∈ is, i < Sg.rows.length),
      ((∀ i (hi : i ∈ is), ¬ lastOcc (Sg.rows[i]'(his i hi)).cells) ∧ Sg.cursorSearch prev pa is = .ok none) ∨
      (∃ i, ∃ hi : i ∈ is, lastOcc (Sg.rows[i]'(his i hi)).cells ∧ ∃ c cell, Sg.endOfRowPos i = .ok ⟨i, c⟩ ∧
        (∀ site, Sg.drawingCellM site ⟨i, c⟩ = .ok cell) ∧ cell.hasContents = true ∧
        Sg.cursorSearch prev pa is = .ok (some ((if needRetype Sg.size.cols prev i
          then retypeBytes prev pa ⟨i, c⟩ cell else []) ++ List.replicate (Sg.pos.row - i) 10)))
  | [], _ => Or.inl ⟨fun i hi => by simp at hi, rfl⟩
  | i :: is, his => by
    have hi : i < Sg.rows.length := his i (List.mem_cons_self ..)
    have hsok := hS.ok _ (List.getElem_mem hi)
    obtain ⟨c, hc, hend, hdraw, hiff, _, _⟩ := end_cell Sg (List.getElem?_eq_getElem hi) (srcOk_cellsInv hsok) (hS.width _ (List.getElem_mem hi)) hc1
    generalize hcell : Sg.rows[i].cells[c] = cell at hdraw hiff
    have hfine : CellFine cell := hcell ▸ cellFine_of_ok (hsok.cells_ok _ (List.getElem_mem hc))
    by_cases hh : cell.hasContents = true
    · refine Or.inr ⟨i, List.mem_cons_self .., hiff.mp hh, c, cell, hend, hdraw, hh, ?_⟩
      unfold Grid.cursorSearch
      cases prev with
      | none =>
        simp only [hend, ok_bind, hdraw 414, hh, ↓reduceIte, contentsBytes_ok hfine, pure_eq_ok, retypeBytes, needRetype,
          Grid.moveOpt]
      | some pp =>
        simp only [hend, ok_bind, hdraw 414, hh, ↓reduceIte, contentsBytes_ok hfine, pure_eq_ok, retypeBytes, needRetype,
          Grid.moveOpt]
        by_cases hc : (pp.row != i || decide (pp.col < Sg.size.cols)) = true
        · simp only [hc, ↓reduceIte]
        · simp only [hc, Bool.false_eq_true, ↓reduceIte, List.nil_append]
    · have hh' : cell.hasContents = false := by simpa using hh
      have hno : ¬ lastOcc (Sg.rows[i]'hi).cells := fun h => hh (hiff.mpr h)
      have e : Sg.cursorSearch prev pa (i :: is) = Sg.cursorSearch prev pa is := by
        conv => lhs; unfold Grid.cursorSearch
        simp only [hend, ok_bind, hdraw 414, hh', Bool.false_eq_true, ↓reduceIte]
      rcases search_spec Sg hS hc1 prev pa is (fun j hj => his j (List.mem_cons_of_mem _ hj)) with ⟨hall, e2⟩ | ⟨j, hj, hocc, c', cell', h1, h2, h3, e2⟩
      · refine Or.inl ⟨fun j hj => ?_, by rw [e, e2]⟩
        rcases List.mem_cons.mp hj with rfl | hj'
        · exact hno
        · exact hall j hj'
      · exact Or.inr ⟨j, List.mem_cons_of_mem _ hj, hocc, c', cell', h1, h2, h3, by rw [e, e2]⟩

set_option linter.unusedVariables false in -- `hem`: `hmv` already says the bytes so far were processed
/-- (d) the receiver side of `SP`, pen, `ESC 7`, `BS`, `ESC [ X`, `ESC 8`, pen back at the end of a line whose
last cell is empty: the cursor ends in the pending-wrap column, the line looks as before -/
theorem park_at_end (hW : WOk W) {q : Parser} (hr : Ready q) (Sg : Grid)
    (hS : SrcRows W Sg.size.cols Sg.rows)
    {out : List Nat} {pp : Pos} {pa : Attrs} {R : RS}
    (hem : Emitted W cb q out R) (hpen : R.pen = pa) (hpawf : Attrs.wf pa)
    (hinv : RowsInv Sg.rows Sg.size.cols Sg.rows.length false pp R)
    (mv : Pos → List Nat) (hmv : Moves (W := W) (cb := cb) q out R Sg.rows.length Sg.size.cols mv)
    (k : Nat) (hk : k < Sg.rows.length) (cell : Cell)
    (hcell : Sg.rows[k].cells[Sg.size.cols - 1]? = some cell) (hh : cell.hasContents = false)
    (hnc : cell.cont = false) (hno : ¬ lastOcc Sg.rows[k].cells) :
    ∃ Rf, Emitted W cb q (out ++ (mv ⟨k, Sg.size.cols - 1⟩ ++ [32] ++ cell.attrs.writeEscapeCodeDiff pa ++
            Term.saveCursor ++ Term.backspace ++ Term.eraseChar 1 ++ Term.restoreCursor ++
            pa.writeEscapeCodeDiff cell.attrs)) Rf ∧ Rf.pen = pa ∧
      RowsInv Sg.rows Sg.size.cols Sg.rows.length false ⟨k, Sg.size.cols⟩ Rf ∧
      Rf.g.scrollbackOffset = R.g.scrollbackOffset := by
  have hcv := hinv.canvas
  have hsc1 : 1 ≤ Sg.size.cols := by rw [← hinv.hcols]; exact hcv.cols_pos
  have hsok := hS.ok _ (List.getElem_mem hk)
  have hswd := hS.width _ (List.getElem_mem hk)
  have hc1 : Sg.size.cols - 1 + 1 = Sg.rows[k].cells.length := (Nat.sub_add_cancel hsc1).trans hswd.symm
  have hl1 : Sg.size.cols - 1 < Sg.rows[k].cells.length := hc1 ▸ Nat.lt_succ_self _
  obtain rfl : Sg.rows[k].cells[Sg.size.cols - 1] = cell := by
    rw [List.getElem?_eq_getElem hl1] at hcell; exact Option.some.inj hcell
  obtain ⟨Rk, hRk, hdone, _⟩ := hinv.row k hk
  obtain ⟨hvk, -, hwk⟩ := hdone hk
  have hRkw : Rk.wrapped = false := by
    rw [hwk]
    simp only [Bool.false_eq_true, and_false, ↓reduceIte]
    cases hw : Sg.rows[k].wrapped with
    | false => rfl
    | true => exact absurd (hS.wrapOcc _ (List.getElem_mem hk) hw) hno
  let c1 := Sg.size.cols - 1
  let a := Sg.rows[k].cells[c1].attrs
  have hsl : Sg.rows[k].cells.length = R.g.size.cols := by rw [hswd, hinv.hcols]
  have hkr : k < R.g.size.rows := by rw [hinv.nrows]; exact hk
  let K : Ctx W cb := ⟨q, hr, R, hcv, k, hkr, Sg.rows[k].cells, hsl⟩
  obtain ⟨hl, hget⟩ := full_get hvk
  have hlo : Lo Sg.rows[k].cells c1 Rk := ⟨hl, fun j hj _ => hget j hj⟩
  have hvcell : view Sg.rows[k].cells[c1] = blankA a := by
    rw [hsok.blank_view _ hl1 hh, hnc]; rfl
  have hemA := hmv ⟨k, c1⟩ hk (Nat.sub_lt hsc1 Nat.one_pos)
  rw [shape_at hRk, hpen] at hemA
  obtain ⟨cellF, hemB, hFc, hwfT⟩ := emitted_space K hW.space hemA (lineWf_of_drawn hinv hS.ok hRk) hl hl1
  let T := typedRow W Rk c1 R.g.size.cols pa 32 cellF
  let E := C07.erasedRow T.cells T.wrapped c1 (c1 + 1) a
  have hemC := emitted_step W cb hr hemB (step_pen W cb a pa (hsok.wf _ hl1)) (r' := shape R k T ⟨k, c1 + 1⟩ a) (by simp [shape, K, T])
  -- `ESC 7` records the cursor and the pen: the same line on another base state
  let R' : RS := { g := { R.g with savedPos := ⟨k, c1 + 1⟩, savedOriginMode := R.g.originMode }, pen := R.pen, saved := a }
  let K' : Ctx W cb := ⟨q, hr, R', hcv.of_frame rfl rfl rfl rfl rfl hcv.width, k, hkr, Sg.rows[k].cells, hsl⟩
  have hemD := emitted_step W cb hr hemC (step_saveCursor W cb) (r' := shape R' k T ⟨k, c1 + 1⟩ a) rfl
  obtain ⟨hemF, hwfE⟩ := emitted_ech K' (C02.emitted_bs K' hemD) hwfT ((typedRow_length ..).trans hl) 1 (by omega)
    (Nat.le_of_eq hc1)
  have hemG := emitted_step W cb hr hemF (step_restoreCursor W cb) (r' := shape R' k E ⟨k, c1 + 1⟩ a) rfl
  have hemH := emitted_step W cb hr hemG (step_pen W cb pa a hpawf) (r' := shape R' k E ⟨k, c1 + 1⟩ pa) (by simp [shape])
  -- the line looks as before: left of the last column nothing was touched, the last cell is blank again
  have hloT : Lo Sg.rows[k].cells c1 T :=
    hlo.typed (W := W) (Nat.le_refl _) hl1 (fun _ => by rw [view_cont (hget c1 hl1)]; exact hnc) R.g.size.cols pa 32 cellF
  have hTc : T.cells[c1]'(by rw [hloT.len]; exact hl1) = cellF := by
    rw [typedRow_get _ _ _ _ _ _ c1 (by rw [hl]; exact hl1), if_pos rfl]
  obtain ⟨hloE, -⟩ := hloT.erased1 hwfT.links.paired (Nat.le_refl _) hl1 (fun _ => by rw [hTc]; exact hFc) T.wrapped a
  have hvE : E.cells.map view = Rk.cells.map view := by
    have := hloE.succ hl1 (by
      rw [erasedRow_view_in T.cells T.wrapped a (by rw [hloT.len]; exact hl1) (Nat.le_refl _) (Nat.lt_succ_self _), hvcell])
    exact (this.mono (Nat.le_of_eq hc1.symm)).full.trans hvk.symm
  have hwE : E.wrapped = Rk.wrapped := by
    rw [hRkw]
    rcases erasedRow_wrapped T.cells T.wrapped c1 (c1 + 1) a with h | h
    · exact h
    · rcases typedRow_wrapped (W := W) Rk c1 R.g.size.cols pa 32 cellF with h' | h'
      · exact h.trans h'
      · exact h.trans (h'.trans hRkw)
  have := rowsInv_shape (rowsInv_frame hinv R' rfl rfl rfl rfl rfl) k Rk E hRk hvE hwE hwfE.len22 ⟨k, c1 + 1⟩ pa
  refine ⟨shape R' k E ⟨k, c1 + 1⟩ pa, by simpa [List.append_assoc, c1, a] using hemH, rfl, ?_, rfl⟩
  rw [show (⟨k, Sg.size.cols⟩ : Pos) = ⟨k, c1 + 1⟩ from congrArg (Pos.mk k) (Nat.sub_add_cancel hsc1).symm]
  exact this

/-- **the cursor fix-up, every case**: whatever the source cursor and whatever the emitter knows of the
receiver's cursor (`prev = some pp`: it is at `pp`; `prev = none`: nothing), the bytes of
`write_cursor_position_formatted` bring the receiver's cursor to the source's — the pending-wrap column
included — and leave the drawn lines looking as they did -/
theorem cursor_fixup (hW : WOk W) {q : Parser} (hr : Ready q) (Sg : Grid)
    (hS : SrcRows W Sg.size.cols Sg.rows) (hn : Sg.rows.length = Sg.size.rows)
    (hrow : Sg.pos.row < Sg.size.rows) (hcol : Sg.pos.col ≤ Sg.size.cols)
    {out : List Nat} {pp : Pos} {pa : Attrs} {R : RS}
    (hem : Emitted W cb q out R) (hpen : R.pen = pa) (hpawf : Attrs.wf pa)
    (hinv : RowsInv Sg.rows Sg.size.cols Sg.rows.length false pp R)
    (prev : Option Pos) (hprev : ∀ p, prev = some p → p = pp ∧ p.col ≤ Sg.size.cols) :
    ∃ bytes, Sg.writeCursorPositionFormatted prev (some pa) = .ok bytes ∧
      ∃ Rf, Emitted W cb q (out ++ bytes) Rf ∧ Rf.pen = pa ∧
        RowsInv Sg.rows Sg.size.cols Sg.rows.length false Sg.pos Rf ∧
        Rf.g.scrollbackOffset = R.g.scrollbackOffset := by
  have hrl : Sg.pos.row < Sg.rows.length := by omega
  have hsc1 : 1 ≤ Sg.size.cols := by rw [← hinv.hcols]; exact hinv.canvas.cols_pos
  have hmv := moves_opt (cb := cb) hr hem hinv prev fun p hp => (hprev p hp).1
  by_cases hin : Sg.pos.col < Sg.size.cols
  · exact ⟨_, cursor_inside Sg prev _ hin, _, hmv Sg.pos hrl hin, hpen,
      rowsInv_frame hinv { R with g := withPos R.g Sg.pos } rfl rfl rfl rfl rfl, rfl⟩
  · have hpw : Sg.pos.col = Sg.size.cols := by omega
    have hposeq : Sg.pos = ⟨Sg.pos.row, Sg.size.cols⟩ := by rw [← hpw]
    by_cases hpp : prev = some Sg.pos
    · have hppeq : Sg.pos = pp := (hprev Sg.pos hpp).1
      refine ⟨[], ?_, R, by simpa using hem, hpen, by rw [hppeq]; exact hinv, rfl⟩
      simp [Grid.writeCursorPositionFormatted, hpp, Grid.moveOpt, C19.moveFromTo_self]
    · have hcond : (prev != some Sg.pos && decide (Sg.pos.col ≥ Sg.size.cols)) = true := by
        simp [hpp, hpw]
      by_cases hocc : lastOcc (Sg.rows[Sg.pos.row]'hrl).cells
      · obtain ⟨c, cell, hend, hdraw, hh, hbs, Rf, hemf, hpenf, hinvf, hofff⟩ := retype_last (cb := cb) hW hr Sg hS hem hpen hpawf
          hinv (Grid.moveOpt prev) hmv Sg.pos.row hrl hocc
        refine ⟨_, ?_, Rf, hemf, hpenf, by rw [hposeq]; exact hinvf, hofff⟩
        simp only [Grid.writeCursorPositionFormatted, hcond, ↓reduceIte, Option.getD_some, hend, ok_bind, hdraw 415, hh, hbs,
          pure_eq_ok]
      · obtain ⟨c0, hc0l, hend0, hdraw0, hiff0, _, hemp0⟩ := end_cell Sg (List.getElem?_eq_getElem hrl) (srcOk_cellsInv (hS.ok _ (List.getElem_mem hrl)))
          (hS.width _ (List.getElem_mem hrl)) hsc1
        have hh0 : Sg.rows[Sg.pos.row].cells[c0].hasContents = false := by
          cases h : Sg.rows[Sg.pos.row].cells[c0].hasContents with
          | false => rfl
          | true => exact absurd (hiff0.mp h) hocc
        obtain ⟨hc0, hcont0, _⟩ := hemp0 hh0
        subst hc0
        have hcell0 := List.getElem?_eq_getElem hc0l
        generalize Sg.rows[Sg.pos.row].cells[Sg.size.cols - 1] = cell0 at hdraw0 hh0 hcont0 hcell0
        have his : ∀ i ∈ (List.range Sg.pos.row).reverse, i < Sg.rows.length := by
          intro i hi
          simp only [List.mem_reverse, List.mem_range] at hi
          omega
        rcases search_spec Sg hS hsc1 prev pa (List.range Sg.pos.row).reverse his with ⟨_, enone⟩ | ⟨i, hi, hocci, c, cell, hend, hdraw, hh, esome⟩
        · obtain ⟨Rf, hemf, hpenf, hinvf, hofff⟩ := park_at_end (cb := cb) hW hr Sg hS hem hpen hpawf hinv
            (Grid.moveOpt prev) hmv Sg.pos.row hrl cell0 hcell0 hh0 hcont0 hocc
          refine ⟨_, ?_, Rf, hemf, hpenf, by rw [hposeq]; exact hinvf, hofff⟩
          simp only [Grid.writeCursorPositionFormatted, hcond, ↓reduceIte, Option.getD_some, hend0, ok_bind, hdraw0 415, hh0,
            Bool.false_eq_true, enone, subM_ok hsc1, hdraw0 417, pure_eq_ok]
        · -- (c) line `i` above ends occupied
          have hilt : i < Sg.pos.row := by
            simp only [List.mem_reverse, List.mem_range] at hi
            exact hi
          have hcur : Sg.writeCursorPositionFormatted prev (some pa) =
              .ok ((if needRetype Sg.size.cols prev i then retypeBytes prev pa ⟨i, c⟩ cell else []) ++
                List.replicate (Sg.pos.row - i) 10) := by
            simp only [Grid.writeCursorPositionFormatted, hcond, ↓reduceIte, Option.getD_some, hend0, ok_bind, hdraw0 415, hh0,
              Bool.false_eq_true, esome, pure_eq_ok]
          have hfin : (⟨i + (Sg.pos.row - i), Sg.size.cols⟩ : Pos) = Sg.pos := by
            rw [hposeq]; simp only [Pos.mk.injEq, and_true]; omega
          refine ⟨_, hcur, ?_⟩
          -- after the re-typing, if any, the receiver's cursor is pending at the end of line `i`
          obtain ⟨Rm, hemm, hpenm, hinvm, hoffm⟩ : ∃ Rm, Emitted W cb q (out ++
                (if needRetype Sg.size.cols prev i then retypeBytes prev pa ⟨i, c⟩ cell else [])) Rm ∧ Rm.pen = pa ∧
              RowsInv Sg.rows Sg.size.cols Sg.rows.length false ⟨i, Sg.size.cols⟩ Rm ∧
              Rm.g.scrollbackOffset = R.g.scrollbackOffset := by
            by_cases hre : needRetype Sg.size.cols prev i = true
            · obtain ⟨c2, cell2, hend2, hdraw2, _, _, Rm, hemm, hpenm, hinvm, hoffm⟩ := retype_last (cb := cb) hW hr Sg hS
                hem hpen hpawf hinv (Grid.moveOpt prev) hmv i (his i hi) hocci
              obtain rfl : c = c2 := by
                rw [hend] at hend2
                simpa using Except.ok.inj hend2
              obtain rfl : cell = cell2 := Except.ok.inj ((hdraw 0).symm.trans (hdraw2 0))
              refine ⟨Rm, ?_, hpenm, hinvm, hoffm⟩
              simp only [hre, ↓reduceIte, retypeBytes]
              simpa [List.append_assoc] using hemm
            · -- the emitter's cursor is already pending there
              have hppi : pp = ⟨i, Sg.size.cols⟩ := by
                cases prev with
                | none => simp [needRetype] at hre
                | some p =>
                  obtain ⟨rfl, h2⟩ := hprev p rfl
                  simp only [needRetype, Bool.or_eq_true, bne_iff_ne, ne_eq, decide_eq_true_eq, not_or, Decidable.not_not,
                    Nat.not_lt] at hre
                  obtain ⟨r, cc⟩ := p
                  simp only at hre h2
                  simp only [Pos.mk.injEq]
                  omega
              rw [hppi] at hinv
              exact ⟨R, by simpa [hre] using hem, hpen, hinv, rfl⟩
          obtain ⟨Rf, hemf, hinvf, hpenf, hofff⟩ := emitted_lfs (cb := cb) hr (Sg.pos.row - i) hemm hinvm
            (by simp only; omega)
          simp only [hfin] at hinvf
          exact ⟨Rf, by simpa [List.append_assoc] using hemf, hpenf.trans hpenm, hinvf, hofff.trans hoffm⟩

/-- **the grid part of a full redraw, every cursor**: inside the line or in the pending-wrap column -/
theorem grid_formatted_reproduces_any (hW : WOk W) {q : Parser} (hq : RecvOk W q) (Sg : Grid)
    (hoff : Sg.scrollbackOffset = 0) (hsz : Sg.size = (rsOf q.ws).g.size)
    (hS : SrcRows W Sg.size.cols Sg.rows) (hn : Sg.rows.length = Sg.size.rows)
    (hrow : Sg.pos.row < Sg.size.rows) (hcol : Sg.pos.col ≤ Sg.size.cols) :
    ∃ bytes pa, Sg.writeContentsFormatted = .ok (bytes, pa) ∧
      ∃ Rf, Emitted W cb q bytes Rf ∧ Rf.pen = pa ∧
        RowsInv Sg.rows Sg.size.cols Sg.rows.length false Sg.pos Rf ∧
        Rf.g.scrollbackOffset = (rsOf q.ws).g.scrollbackOffset := by
  obtain ⟨R1, hem1, hpen1, hinv1, hoff1⟩ := prefix_drawn (cb := cb) hq Sg.rows (by rw [hn, hsz])
  rw [← hsz] at hinv1
  obtain ⟨out', pp', pa', R', eloop, hem', hpen', hinv', hoff', hwf'⟩ := rows_loop hW q hq.ready hS Sg.rows 0 false ⟨0, 0⟩
    (Term.clearAttrs ++ Term.clearScreen) R1 rfl (Nat.zero_le _) (fun h => absurd h (Nat.lt_irrefl 0)) (fun _ => rfl)
    hinv1 hem1
  rw [hpen1] at eloop
  have hpawf : Attrs.wf pa' := hwf' (by rw [hpen1]; exact wf_default)
  have hvis := C19.visibleRows_offset0 Sg hoff
  obtain ⟨bytes, hcur, Rf, hemf, hpenf, hinvf, hofff⟩ := cursor_fixup (cb := cb) hW hq.ready Sg hS hn hrow hcol hem' hpen' hpawf hinv'
    (some pp') (fun p hp => by
      cases hp
      exact ⟨rfl, fmtRowsLoop_pos_le (W := W) Sg.rows 0 false ⟨0, 0⟩ Attrs.default _ (fun r hr => ⟨hS.ok r hr, hS.width r hr⟩)
        (Nat.zero_le _) eloop⟩)
  refine ⟨out' ++ bytes, pa', ?_, Rf, hemf, hpenf, hinvf, hofff.trans (hoff'.trans hoff1)⟩
  simp only [Grid.writeContentsFormatted, hvis, ok_bind, eloop, hcur, pure_eq_ok]

end Vt.C01
