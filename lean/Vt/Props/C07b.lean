/-
  C07 (continued) — erasing a column range of a line: the exact result.

  `eraseRange cs lo hi a` is the pointwise closed form of `for col in lo..hi { row.erase(col, a) }`:
    * every cell in `[lo, hi)` becomes a blank with the pen's attributes,
    * the first half of a wide character whose second half is the first erased cell (column `lo-1`)
      and the second half of a wide character whose first half is the last erased cell (column `hi`)
      are blanked too, keeping their own attributes,
    * every other cell is untouched.
  The loop is followed on the line cut around the range, `A ++ c :: D ++ Y`: one `Row::erase` blanks its cell and
  the other half of the wide pair through it (`clearWide_cut`, `erase_cut`, in terms of `cutLast` / `cutHead`), so the
  whole loop blanks `c :: D` and cuts at the two ends only (`eraseLoop_cut`). `erase_range_links` reads that list cell
  by cell (`getElem?_eraseCut`) for all `lo ≤ hi ≤ cols`; `ech_eq`, `el0_eq`, `el1_eq` instantiate it for ECH n,
  EL 0 and EL 1, including the wrap flag (cleared exactly when the last column is blanked) and the frame (nothing
  else in the grid changes).

  None of this looks at what the cells hold: the line only has to be well LINKED (`Links`: a cell is a second half iff
  its predecessor is wide, and is then not wide itself), and stays so.  The statements over `CellsInv` follow.
-/
import Vt.Lemmas.GridInv
namespace Vt.C07
open Vt

variable {W : Nat → Option Nat}

/-- the cell at column `j` after erasing `[lo, hi)` with pen attributes `a` -/
def rangeCell (lo hi : Nat) (a : Attrs) (j : Nat) (c : Cell) : Cell :=
  if lo ≤ j ∧ j < hi then c.clear a
  else if j + 1 = lo ∧ lo < hi ∧ c.wide = true then c.clear c.attrs
  else if j = hi ∧ lo < hi ∧ c.cont = true then c.clear c.attrs
  else c

def eraseRange (cs : List Cell) (lo hi : Nat) (a : Attrs) : List Cell := cs.mapIdx (rangeCell lo hi a)

theorem eraseRange_of_le (cs : List Cell) {lo hi : Nat} (h : hi ≤ lo) (a : Attrs) : eraseRange cs lo hi a = cs := by
  unfold eraseRange
  apply List.ext_getElem?
  intro j
  simp only [List.getElem?_mapIdx]
  cases cs[j]? with
  | none => rfl
  | some c =>
    simp only [Option.map_some, rangeCell]
    rw [if_neg (by omega), if_neg (by omega), if_neg (by omega)]

theorem clear_clear (c : Cell) (a b : Attrs) : (c.clear a).clear b = c.clear b := rfl

theorem eraseRange_length (cs : List Cell) (lo hi : Nat) (a : Attrs) : (eraseRange cs lo hi a).length = cs.length := by
  simp [eraseRange]

theorem mem_eraseRange {cs : List Cell} {lo hi : Nat} {a : Attrs} {x : Cell} (h : x ∈ eraseRange cs lo hi a) :
    ∃ c ∈ cs, x = c ∨ x = c.clear a ∨ x = c.clear c.attrs := by
  obtain ⟨j, hj⟩ := List.mem_iff_getElem?.mp h
  rw [eraseRange, List.getElem?_mapIdx] at hj
  obtain ⟨c, hc, rfl⟩ := Option.map_eq_some_iff.mp hj
  refine ⟨c, List.mem_of_getElem? hc, ?_⟩
  unfold rangeCell
  split
  · exact Or.inr (Or.inl rfl)
  · split
    · exact Or.inr (Or.inr rfl)
    · split
      · exact Or.inr (Or.inr rfl)
      · exact Or.inl rfl

theorem paired_adjacent {cs : List Cell} {i : Nat} {c d : Cell} (hp : pairThrough false cs = some false)
    (hc : cs[i]? = some c) (hd : cs[i + 1]? = some d) : d.cont = c.wide := by
  have := ((pairThrough_iff_links false cs).mp hp).2 i
  rwa [cellFlag, cellFlag, hc, hd] at this

/-! ### A line cut at a cell

`Row::erase` and `Row::remove` first blank the other half of the wide character through the cell they work on
(`Row::clear_wide`). On a well-formed line cut at that cell, `A ++ c :: Y`, this touches at most the last cell of `A`
(when `c` is a second half) or the first of `Y` (when `c` is wide, and `Y` then starts with its second half). -/

abbrev cutLast (b : Bool) (A : List Cell) : List Cell := cutLastF (fun c => c.clear c.attrs) b A
def cutHead (X : List Cell) : List Cell := X.modifyHead fun x => if x.cont then x.clear x.attrs else x

theorem getElem?_cutHead (Y : List Cell) (j : Nat) :
    (cutHead Y)[j]? = Y[j]?.map fun x => if j = 0 ∧ x.cont = true then x.clear x.attrs else x := by
  rw [cutHead, List.getElem?_modifyHead]
  split <;> cases Y[j]? <;> simp [*]

theorem modifyM_cut {α} (s : Nat) {A : List α} {n : Nat} (hn : A.length = n) (x : α) (Y : List α) (g : α → α) :
    modifyM s (A ++ x :: Y) n (fun o => pure (g o)) = .ok (A ++ g x :: Y) := by subst hn; simp [modifyM]

/-- `cutHead` reads off the head of `Y` the flag that `cutHeadF` is handed: under the pairing they are the same cut -/
theorem cutHead_eq {Y : List Cell} {q : Bool} (h : pairThrough q Y = some false) :
    cutHead Y = cutHeadF (fun c => c.clear c.attrs) q Y := by
  cases Y with
  | nil => cases pairThrough_nil_out h; rfl
  | cons y Y =>
    obtain ⟨hc, -⟩ := pairThrough_cons.mp h
    subst hc
    cases hy : y.cont <;> simp [cutHead, cutHeadF, hy]

theorem links_erase_cut {A Y : List Cell} {c : Cell} (h : Links (A ++ c :: Y)) (a : Attrs) :
    Links (cutLast c.cont A ++ c.clear a :: cutHead Y) := by
  rw [cutHead_eq h.split.2.1]
  exact h.cut noFlags_clear_self (noFlags_clear a) noFlags_clear_self [c]

theorem clearWide_cut {A Y : List Cell} {c : Cell} (h : Links (A ++ c :: Y)) (w : Bool) :
    Row.clearWide ⟨A ++ c :: Y, w⟩ A.length = .ok ⟨cutLast c.cont A ++ c :: cutHead Y, w⟩ := by
  obtain ⟨hA, hY, hex⟩ := h.split
  have hex := hex c (by simp)
  have hget : getM 311 (A ++ c :: Y) A.length = .ok c := by simp [getM]
  unfold Row.clearWide
  rw [hget, ok_bind]
  cases hw : c.wide with
  | true =>
    have hc : c.cont = false := by cases h : c.cont; rfl; rw [hex h] at hw; cases hw
    rw [hw] at hY
    cases Y with
    | nil => cases pairThrough_nil_out hY
    | cons d Y =>
      simp [Cell.isWide, hw, modifyM, List.set_append_right, cutLastF, cutHead, hc,
        (pairThrough_cons.mp hY).1]
  | false =>
    rw [hw] at hY
    rw [show cutHead Y = Y from cutHead_eq hY]
    cases hc : c.cont with
    | false => simp [Cell.isWide, hw, Cell.isWideContinuation, hc, cutLastF]
    | true =>
      rw [hc] at hA
      rcases List.eq_nil_or_concat A with rfl | ⟨A, q, rfl⟩
      · cases hA
      · rw [List.concat_eq_append, cutLast, cutLastF_concat]
        simp only [Cell.isWide, hw, Cell.isWideContinuation, hc, Bool.false_eq_true, ↓reduceIte, List.length_append,
          List.length_singleton, subM_ok (Nat.le_add_left 1 A.length), Nat.add_sub_cancel, ok_bind, List.append_assoc,
          List.singleton_append, modifyM_cut _ rfl]
        rfl

/-- what is right of a cell is nothing, or just the cell's second half: the cell is the last character of the line -/
def endsLine : List Cell → Bool
  | [] => true
  | [y] => y.cont
  | _ => false

theorem endsLine_append {X Y : List Cell} (h : endsLine (X ++ Y) = true) : endsLine Y = true := by
  cases X with
  | nil => exact h
  | cons x X =>
    cases Y with
    | nil => rfl
    | cons y Y => cases X <;> cases h

/-- the test by which `Row::erase` at column `n` of a line `n + 1 + Y.length` wide clears the wrap flag, `b` saying
whether the cell is wide -/
theorem endsLine_eq {b : Bool} {Y : List Cell} (h : pairThrough b Y = some false) (n : Nat) :
    (if b = true then 2 else 1) ≤ Y.length + 1 ∧
      (n == n + (Y.length + 1) - (if b = true then 2 else 1)) = endsLine Y := by
  match Y, h with
  | [], h => cases pairThrough_nil_out h; simp [endsLine]
  | [y], h => cases (pairThrough_cons.mp h).1; cases hy : y.cont <;> simp [endsLine, hy]
  | y :: z :: Y, _ => cases b <;> simp [endsLine] <;> omega

/-- **one erasure** in a well-linked line cut at the cursor: the cell is blanked with the pen's attributes, the other half
of the wide character through it with its own; the wrap flag goes when this reaches the end of the line -/
theorem erase_cut {A Y : List Cell} {c : Cell} (h : Links (A ++ c :: Y)) (w : Bool) (a : Attrs) :
    Row.erase ⟨A ++ c :: Y, w⟩ A.length a =
        .ok ⟨cutLast c.cont A ++ c.clear a :: cutHead Y, if endsLine Y then false else w⟩ ∧
      Links (cutLast c.cont A ++ c.clear a :: cutHead Y) := by
  refine ⟨?_, links_erase_cut h a⟩
  have hc : (A ++ c :: Y)[A.length]? = some c := by simp
  have hl : (cutLast c.cont A).length = A.length := length_cutLastF ..
  obtain ⟨hle, hf⟩ := endsLine_eq h.split.2.1 A.length
  rw [Row.erase, getM_eq_ok.mpr hc, ok_bind, clearWide_cut h, ok_bind, modifyM_cut 317 hl, ok_bind,
    List.length_append, hl, List.length_cons, cutHead, List.length_modifyHead, Cell.isWide,
    subM_ok (Nat.le_trans hle (Nat.le_add_left ..)), ok_bind, hf]
  rfl

theorem eraseLoop_cut (a : Attrs) : ∀ (D : List Cell) {A Y : List Cell} {c : Cell} (w : Bool),
    Links (A ++ c :: (D ++ Y)) →
    (List.range' A.length (D.length + 1)).foldlM (fun (r : Row) col => r.erase col a) ⟨A ++ c :: (D ++ Y), w⟩ =
        .ok ⟨cutLast c.cont A ++ ((c :: D).map (·.clear a) ++ cutHead Y), if endsLine Y then false else w⟩ ∧
      Links (cutLast c.cont A ++ ((c :: D).map (·.clear a) ++ cutHead Y))
  | [], A, Y, c, w, hinv => by
    obtain ⟨e, hci⟩ := erase_cut hinv w a
    exact ⟨by rw [List.range'_succ, List.foldlM_cons, e]; rfl, hci⟩
  | d :: D, A, Y, c, w, hinv => by
    obtain ⟨e, hci⟩ := erase_cut hinv w a
    rw [List.range'_succ, List.foldlM_cons, e, ok_bind]
    -- the next cell is no second half any more
    obtain ⟨d', hd', hdc, hda⟩ : ∃ d', cutHead (d :: D ++ Y) = d' :: (D ++ Y) ∧ d'.cont = false ∧ d'.clear a = d.clear a := by
      cases hd : d.cont
      · exact ⟨d, by simp [cutHead, hd], hd, rfl⟩
      · exact ⟨d.clear d.attrs, by simp [cutHead, hd], rfl, rfl⟩
    rw [hd'] at hci ⊢
    rw [List.append_cons] at hci ⊢
    have ih := eraseLoop_cut a D (if endsLine (d :: D ++ Y) then false else w) hci
    rw [hdc, List.length_append, length_cutLastF] at ih
    have hcells : cutLast false (cutLast c.cont A ++ [c.clear a]) ++ (List.map (·.clear a) (d' :: D) ++ cutHead Y) =
        cutLast c.cont A ++ (List.map (·.clear a) (c :: d :: D) ++ cutHead Y) := by
      rw [List.map_cons, hda]; exact List.append_assoc ..
    have hflag : (if endsLine Y then false else if endsLine (d :: D ++ Y) then false else w) =
        if endsLine Y then false else w := by
      by_cases hY : endsLine Y = true
      · rw [if_pos hY, if_pos hY]
      · rw [if_neg hY, if_neg hY, if_neg fun h => hY (endsLine_append (X := d :: D) h)]
    rw [hcells, hflag] at ih
    exact ih

theorem rangeCell_left {lo hi j : Nat} (h : j < lo) (hpos : lo < hi) (a : Attrs) (x : Cell) :
    rangeCell lo hi a j x = if j + 1 = lo ∧ x.wide = true then x.clear x.attrs else x := by
  rw [rangeCell, if_neg (fun h' => Nat.not_le_of_lt h h'.1),
    if_neg (fun h' : j = hi ∧ _ => Nat.lt_asymm h (h'.1 ▸ hpos))]
  simp only [hpos, true_and]

theorem rangeCell_right {lo hi : Nat} (hpos : lo < hi) (a : Attrs) (m : Nat) (x : Cell) :
    rangeCell lo hi a (hi + m) x = if m = 0 ∧ x.cont = true then x.clear x.attrs else x := by
  rw [rangeCell, if_neg (fun h' => Nat.not_lt_of_le (Nat.le_add_right ..) h'.2), if_neg (fun h' => by omega)]
  simp only [hpos, true_and, Nat.add_eq_left]

/-- the result of the loop read cell by cell. `rangeCell` looks at the `wide` flag of the cell before the range where
`cutLast` looks at the `cont` flag of the first cell in it: the two agree by the pairing invariant -/
theorem getElem?_eraseCut {A D Y : List Cell} {c : Cell} (hp : pairThrough false (A ++ (c :: D ++ Y)) = some false)
    (a : Attrs) (j : Nat) :
    (cutLast c.cont A ++ ((c :: D).map (·.clear a) ++ cutHead Y))[j]? =
      (A ++ (c :: D ++ Y))[j]?.map (rangeCell A.length (A.length + (D.length + 1)) a j) := by
  have hpos : A.length < A.length + (c :: D).length := Nat.lt_add_of_pos_right (Nat.succ_pos _)
  rw [← List.length_cons (a := c)]
  have hl : (cutLast c.cont A).length = A.length := length_cutLastF ..
  by_cases h : j < A.length
  · rw [List.getElem?_append_left (hl ▸ h), List.getElem?_append_left h, getElem?_cutLastF]
    cases hx : A[j]? with
    | none => rfl
    | some x =>
      rw [Option.map_some, Option.map_some, rangeCell_left h hpos]
      by_cases hj : j + 1 = A.length
      · rw [paired_adjacent hp (i := j) (c := x) (d := c) (by rw [List.getElem?_append_left h, hx])
          (by rw [hj, List.getElem?_append_right (Nat.le_refl _), Nat.sub_self]; rfl)]
      · rw [if_neg (fun h' => hj h'.1), if_neg (fun h' => hj h'.1)]
  · obtain ⟨n, rfl⟩ := Nat.exists_eq_add_of_le (Nat.le_of_not_lt h)
    generalize c :: D = E at hpos ⊢
    rw [List.getElem?_append_right (hl ▸ Nat.le_add_right ..), hl,
      List.getElem?_append_right (Nat.le_add_right ..), Nat.add_sub_cancel_left]
    by_cases h2 : n < E.length
    · rw [List.getElem?_append_left (by rw [List.length_map]; exact h2), List.getElem?_append_left h2, List.getElem?_map]
      cases E[n]? with
      | none => rfl
      | some x => rw [Option.map_some, Option.map_some, rangeCell, if_pos ⟨Nat.le_add_right .., Nat.add_lt_add_left h2 _⟩]
    · obtain ⟨m, rfl⟩ := Nat.exists_eq_add_of_le (Nat.le_of_not_lt h2)
      rw [List.getElem?_append_right (by rw [List.length_map]; exact Nat.le_add_right ..), List.length_map,
        List.getElem?_append_right (Nat.le_add_right ..), Nat.add_sub_cancel_left, getElem?_cutHead, ← Nat.add_assoc]
      cases Y[m]? with
      | none => rfl
      | some x => rw [Option.map_some, Option.map_some, rangeCell_right hpos]

/-- has the loop blanked the final column? (`k` = columns erased so far are `[lo, k)`).  `Row::erase` (row.rs:55) drops
the wrap flag when it blanks column `cols - 1`, or column `cols - 2` holding a wide character -/
def flagCleared (cs : List Cell) (lo k : Nat) : Bool :=
  decide (lo < k) && (k == cs.length || (k + 1 == cs.length && ((cs[k - 1]?).map (·.wide)).getD false))

theorem flagCleared_cut {A D Y : List Cell} {c : Cell} (h : Links (A ++ (c :: D ++ Y))) :
    flagCleared (A ++ (c :: D ++ Y)) A.length (A.length + (D.length + 1)) = endsLine Y := by
  have hlink : cellFlag (·.cont) Y 0 = cellFlag (·.wide) (A ++ (c :: D ++ Y)) (A.length + D.length) := by
    rw [← h.link]
    unfold cellFlag
    rw [Nat.add_assoc, List.getElem?_append_right (Nat.le_add_right ..), Nat.add_sub_cancel_left,
      List.cons_append, List.getElem?_cons_succ, List.getElem?_append_right (Nat.le_refl _), Nat.sub_self]
  have hpos : A.length < A.length + (c :: D).length := Nat.lt_add_of_pos_right (Nat.succ_pos _)
  unfold flagCleared
  rw [← List.length_cons (a := c)]
  rw [show ((A ++ (c :: D ++ Y))[A.length + (c :: D).length - 1]?.map (·.wide)).getD false = cellFlag (·.cont) Y 0
    from hlink.symm, List.length_append, List.length_append, ← Nat.add_assoc, decide_eq_true hpos, Bool.true_and]
  generalize A.length + (c :: D).length = k
  match Y with
  | [] => simp [endsLine]
  | [y] => simp [endsLine, cellFlag]
  | y :: z :: Y => simp [endsLine]

def erasedRow (cs : List Cell) (w : Bool) (lo k : Nat) (a : Attrs) : Row :=
  ⟨eraseRange cs lo k a, if flagCleared cs lo k then false else w⟩

theorem cut_range {α} {cs : List α} {lo n : Nat} (h : lo + (n + 1) ≤ cs.length) :
    ∃ A c D Y, cs = A ++ (c :: D ++ Y) ∧ lo = A.length ∧ n = D.length := by
  obtain ⟨c, hc⟩ : ∃ c, cs[lo]? = some c :=
    ⟨_, List.getElem?_eq_getElem (Nat.lt_of_lt_of_le (Nat.lt_add_of_pos_right (Nat.succ_pos n)) h)⟩
  obtain ⟨A, B, rfl, rfl⟩ := decomp1 hc
  rw [List.length_append, List.length_cons] at h
  exact ⟨A, _, B.take n, B.drop n, by rw [List.cons_append, List.take_append_drop], rfl,
    (List.length_take_of_le (Nat.le_of_succ_le_succ (Nat.le_of_add_le_add_left h))).symm⟩

theorem erase_range_links (cs : List Cell) (w : Bool) (h : Links cs) (lo : Nat) (a : Attrs) :
    ∀ (n : Nat), lo + n ≤ cs.length →
      forRange lo (lo + n) (fun col (r : Row) => r.erase col a) { cells := cs, wrapped := w } =
        .ok (erasedRow cs w lo (lo + n) a) ∧ Links (eraseRange cs lo (lo + n) a)
  | 0, _ => by
    rw [Nat.add_zero, erasedRow, eraseRange_of_le _ (Nat.le_refl lo), flagCleared, decide_eq_false (Nat.lt_irrefl lo), forRange, Nat.sub_self]
    exact ⟨rfl, h⟩
  | n + 1, hn => by
    obtain ⟨A, c, D, Y, rfl, rfl, rfl⟩ := cut_range hn
    have hcells : eraseRange (A ++ (c :: D ++ Y)) A.length (A.length + (D.length + 1)) a =
        cutLast c.cont A ++ ((c :: D).map (·.clear a) ++ cutHead Y) :=
      List.ext_getElem? fun j => by rw [eraseRange, List.getElem?_mapIdx, getElem?_eraseCut h.paired]
    rw [erasedRow, hcells, flagCleared_cut h, forRange, Nat.add_sub_cancel_left]
    exact eraseLoop_cut a D w h

/-- **C07** the erase loop over `[lo, hi)` equals the closed form, on every well-formed row -/
theorem erase_range_eq (cs : List Cell) (w : Bool) (hinv : CellsInv W cs) (lo : Nat) (a : Attrs) :
    ∀ (n : Nat), lo + n ≤ cs.length →
      forRange lo (lo + n) (fun col (r : Row) => r.erase col a) { cells := cs, wrapped := w } =
        .ok (erasedRow cs w lo (lo + n) a) ∧
      CellsInv W (eraseRange cs lo (lo + n) a) := fun n hn => by
  obtain ⟨e, hl⟩ := erase_range_links cs w hinv.links lo a n hn
  refine ⟨e, fun x hx => ?_, hl.paired⟩
  obtain ⟨c, hc, h | h | h⟩ := mem_eraseRange hx <;> rw [h]
  · exact hinv.cells_ok c hc
  · exact cellOk_clear W c a (hinv.cells_ok c hc)
  · exact cellOk_clear W c c.attrs (hinv.cells_ok c hc)

/-- the same for every `lo` and `hi`: an empty range leaves the line as it is -/
theorem erase_row_eq {r : Row} (hinv : CellsInv W r.cells) (lo hi : Nat) (a : Attrs) (hhi : hi ≤ r.cells.length) :
    forRange lo hi (fun col (r : Row) => r.erase col a) r = .ok (erasedRow r.cells r.wrapped lo hi a) ∧
      CellsInv W (eraseRange r.cells lo hi a) := by
  by_cases hle : lo ≤ hi
  · have := erase_range_eq r.cells r.wrapped hinv lo a (hi - lo) (by omega)
    rwa [show lo + (hi - lo) = hi by omega] at this
  · have hhl : hi ≤ lo := by omega
    rw [erasedRow, eraseRange_of_le _ hhl, flagCleared, decide_eq_false (by omega), forRange, Nat.sub_eq_zero_of_le hhl]
    exact ⟨rfl, hinv⟩

theorem eraseRange_len22 (cs : List Cell) (lo hi : Nat) (a : Attrs) (h : ∀ c ∈ cs, c.contents.length = 22) :
    ∀ c ∈ eraseRange cs lo hi a, c.contents.length = 22 := fun x hx => by
  obtain ⟨c, hc, e | e | e⟩ := mem_eraseRange hx <;> rw [e] <;> exact h c hc

def erasedGrid (g : Grid) (r : Row) (lo hi : Nat) (a : Attrs) : Grid :=
  { g with rows := g.rows.set g.pos.row (erasedRow r.cells r.wrapped lo hi a) }

theorem erase_line_links {g : Grid} {r : Row} (hr : g.rows[g.pos.row]? = some r) (h : Links r.cells)
    (lo hi : Nat) (hlo : lo ≤ hi) (hhi : hi ≤ r.cells.length) (a : Attrs) :
    g.modifyCurrentRow (fun row => forRange lo hi (fun col r => r.erase col a) row) =
      .ok (erasedGrid g r lo hi a) := by
  obtain ⟨e, _⟩ := erase_range_links r.cells r.wrapped h lo a (hi - lo) (by omega)
  rw [show lo + (hi - lo) = hi by omega] at e
  exact modifyCurrentRow_eq_ok.mpr ⟨_, _, hr, e, rfl⟩

structure CurLine (W : Nat → Option Nat) (g : Grid) (r : Row) : Prop where
  here : g.rows[g.pos.row]? = some r
  inv : CellsInv W r.cells
  width : r.cells.length = g.size.cols
  col : g.pos.col ≤ g.size.cols
  cols_pos : 1 ≤ g.size.cols
  cols_u16 : g.size.cols ≤ 65535

theorem curLine_of_inv {g : Grid} (h : GridInv W g true) (hl : g.rows.length = g.size.rows) :
    ∃ r, CurLine W g r := by
  have hlt : g.pos.row < g.rows.length := by rw [hl]; exact h.pos_row
  have hrow := h.row_ok _ (List.getElem_mem hlt)
  exact ⟨g.rows[g.pos.row], List.getElem?_eq_getElem hlt, ((rowOk_iff W _).mp hrow.2).2, hrow.1, h.pos_col, h.cols_pos, h.cols_u16⟩

/-- **C07** EL 0: cursor to end of line -/
theorem el0_eq {g : Grid} {r : Row} (h : CurLine W g r) (a : Attrs) :
    g.eraseRowForward a = .ok (erasedGrid g r g.pos.col g.size.cols a) :=
  erase_line_links h.here h.inv.links _ _ h.col (by rw [h.width]; exact Nat.le_refl _) a

/-- **C07** EL 1: start of line to the cursor inclusive (the pending-wrap position counts as the last
column) -/
theorem el1_eq {g : Grid} {r : Row} (h : CurLine W g r) (a : Attrs) :
    g.eraseRowBackward a = .ok (erasedGrid g r 0 (min g.pos.col (g.size.cols - 1) + 1) a) := by
  unfold Grid.eraseRowBackward
  simp only [subM_ok h.cols_pos, ok_bind]
  exact erase_line_links h.here h.inv.links _ _ (Nat.zero_le _) (by have := h.cols_pos; rw [h.width]; omega) a

/-- **C07** ECH n: the next `n` cells, cut at the end of the line -/
theorem ech_eq {g : Grid} {r : Row} (h : CurLine W g r) (n : Nat) (a : Attrs) :
    g.eraseCells n a = .ok (erasedGrid g r g.pos.col (min (satAddU16 g.pos.col n) g.size.cols) a) := by
  unfold Grid.eraseCells
  refine erase_line_links h.here h.inv.links _ _ ?_ (by rw [h.width]; exact Nat.min_le_right _ _) a
  have := h.col
  have := h.cols_u16
  simp only [satAddU16, U16_MAX]
  omega

theorem erasedRow_cell (cs : List Cell) (w : Bool) (lo hi : Nat) (a : Attrs) (j : Nat) :
    (erasedRow cs w lo hi a).cells[j]? = cs[j]?.map (rangeCell lo hi a j) := by
  simp [erasedRow, eraseRange, List.getElem?_mapIdx]

theorem rangeCell_inside (lo hi : Nat) (a : Attrs) (j : Nat) (c : Cell) (h : lo ≤ j ∧ j < hi) :
    (rangeCell lo hi a j c).hasContents = false ∧ (rangeCell lo hi a j c).attrs = a ∧
    (rangeCell lo hi a j c).wide = false ∧ (rangeCell lo hi a j c).cont = false := by
  simp [rangeCell, h, Cell.clear, Cell.hasContents]

theorem rangeCell_outside (lo hi : Nat) (a : Attrs) (j : Nat) (c : Cell) (h : j + 1 < lo ∨ hi < j) :
    rangeCell lo hi a j c = c := by
  unfold rangeCell
  rw [if_neg (by omega), if_neg (by omega), if_neg (by omega)]

theorem rangeCell_neighbour (lo hi : Nat) (a : Attrs) (j : Nat) (c : Cell) (hj : ¬ (lo ≤ j ∧ j < hi)) :
    rangeCell lo hi a j c = c ∨
      ((c.wide = true ∨ c.cont = true) ∧ rangeCell lo hi a j c = c.clear c.attrs) := by
  unfold rangeCell
  rw [if_neg hj]
  split
  · rename_i h1; exact Or.inr ⟨Or.inl h1.2.2, rfl⟩
  · split
    · rename_i h2; exact Or.inr ⟨Or.inr h2.2.2, rfl⟩
    · exact Or.inl rfl

def belowCleared (g : Grid) (a : Attrs) : Grid :=
  { g with rows := g.rows.take (g.pos.row + 1) ++ (g.rows.drop (g.pos.row + 1)).map (fun (r : Row) => r.clear a) }
def aboveCleared (g : Grid) (a : Attrs) : Grid :=
  { g with rows := (g.rows.take g.pos.row).map (fun (r : Row) => r.clear a) ++ g.rows.drop g.pos.row }

/-- **C07** ED 0: the rest of the cursor line as EL 0, every line below blanked (wrap flag cleared) -/
theorem ed0_eq {g : Grid} {r : Row} (h : CurLine W g r) (a : Attrs) :
    g.eraseAllForward a = .ok (erasedGrid (belowCleared g a) r g.pos.col g.size.cols a) := by
  have hlt := getElem?_lt h.here
  have h' : CurLine W (belowCleared g a) r := by
    refine ⟨?_, h.inv, h.width, h.col, h.cols_pos, h.cols_u16⟩
    show (g.rows.take (g.pos.row + 1) ++ _)[g.pos.row]? = some r
    rw [List.getElem?_append_left (by simp [List.length_take]; omega), List.getElem?_take_of_lt (by omega)]
    exact h.here
  exact el0_eq h' a

/-- **C07** ED 1: the start of the cursor line as EL 1, every line above blanked -/
theorem ed1_eq {g : Grid} {r : Row} (h : CurLine W g r) (a : Attrs) :
    g.eraseAllBackward a = .ok (erasedGrid (aboveCleared g a) r 0 (min g.pos.col (g.size.cols - 1) + 1) a) := by
  have hlt := getElem?_lt h.here
  have h' : CurLine W (aboveCleared g a) r := by
    refine ⟨?_, h.inv, h.width, h.col, h.cols_pos, h.cols_u16⟩
    show (List.map _ (g.rows.take g.pos.row) ++ g.rows.drop g.pos.row)[g.pos.row]? = some r
    rw [List.getElem?_append_right (by simp [List.length_take]; omega)]
    simp only [List.length_map, List.length_take, Nat.min_eq_left (Nat.le_of_lt hlt), Nat.sub_self,
      List.getElem?_drop, Nat.add_zero]
    exact h.here
  exact el1_eq h' a

end Vt.C07
