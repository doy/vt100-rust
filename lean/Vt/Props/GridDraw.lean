/-
  Vt.Props.GridDraw — all the lines of a redraw: the loop of `Grid::write_contents_formatted` over the
  visible rows, on a receiver that has just been cleared.

  `rows_loop`: after the loop the receiver's lines show the source lines — same cell views, same wrap
  flags (each flag set by the receiver's own autowrap when the next line was begun) — its cursor and pen
  are the `prev_pos` / `prev_attrs` the loop returns, and it is no more scrolled back than it was.
-/
import Vt.Props.RowDraw
namespace Vt.GridDraw
open Vt Vt.Recv Vt.C19 Vt.C09 Vt.RowDraw

variable {W : Nat → Option Nat} {cb : CbPolicy}

theorem emitted_comp {p0 p1 : Parser} (h0 : Ready p0) {out : List Nat} {r : RS}
    (e1 : p0.process W cb out = .ok p1) (w1 : p1.ws = withRS p0.ws r) (r1 : Ready p1)
    {bs : List Nat} {r2 : RS} (h2 : Emitted W cb p1 bs r2) : Emitted W cb p0 (out ++ bs) r2 := by
  obtain ⟨p2, e2, w2, r2'⟩ := h2
  exact ⟨p2, process_then W cb h0 e1 r1 e2, by rw [w2, w1, withRS_withRS], r2'⟩

def BlankRow (cols : Nat) (R : Row) : Prop :=
  R.wrapped = false ∧ R.cells.map view = List.replicate cols blankV ∧ ∀ c ∈ R.cells, c.contents.length = 22

theorem BlankRow.line {cols : Nat} {R : Row} (h : BlankRow cols R) (src : List Cell) (hs : src.length = cols) :
    Line src 0 R := by
  refine ⟨h.1, ?_, h.2.2⟩
  rw [h.2.1]; simp [hs]

/-- what the loop assumes of the source rows; all of it follows from `Inv`, `Inv⁺` and `emitInvB` -/
structure SrcRows (W : Nat → Option Nat) (cols : Nat) (rows : List Row) : Prop where
  width : ∀ r ∈ rows, r.cells.length = cols
  ok : ∀ r ∈ rows, SrcOk W r.cells
  wrapOcc : ∀ r ∈ rows, r.wrapped = true → lastOcc r.cells
  lastUnwrapped : ∀ r, rows.getLast? = some r → r.wrapped = false

theorem SrcRows.end_unwrapped {cols : Nat} {srows : List Row} (hS : SrcRows W cols srows) {i : Nat} {w : Bool}
    (hi : srows.drop i = []) (hil : i ≤ srows.length) (hwv : ∀ h : 0 < i, w = (srows[i - 1]'(by omega)).wrapped)
    (hw0 : i = 0 → w = false) : i = srows.length ∧ w = false := by
  obtain rfl : i = srows.length := by
    have := congrArg List.length hi
    simp only [List.length_drop, List.length_nil] at this
    omega
  refine ⟨rfl, ?_⟩
  by_cases hn : srows.length = 0
  · exact hw0 hn
  · rw [hwv (by omega)]
    apply hS.lastUnwrapped
    rw [List.getLast?_eq_getElem?]
    exact List.getElem?_eq_getElem (by omega)

/-- the state of the receiver between the lines of the loop: lines `< i` drawn, lines `≥ i` blank; when
line `i - 1` is wrapped its flag is still to be set by the first character typed on line `i` -/
structure RowsInv (srows : List Row) (cols i : Nat) (wrapping : Bool) (pp : Pos) (R : RS) : Prop where
  canvas : Canvas R.g
  hcols : R.g.size.cols = cols
  nrows : R.g.size.rows = srows.length
  pos : R.g.pos = pp
  row : ∀ k (hk : k < srows.length), ∃ Rk, R.g.rows[k]? = some Rk ∧
    (k < i → Rk.cells.map view = srows[k].cells.map view ∧ (∀ c ∈ Rk.cells, c.contents.length = 22) ∧
      Rk.wrapped = (if k + 1 = i ∧ wrapping = true then false else srows[k].wrapped)) ∧
    (i ≤ k → BlankRow cols Rk)
  wrap : wrapping = true → ∃ (_ : 1 ≤ i) (hl : i ≤ srows.length), pp = ⟨i - 1, cols⟩ ∧
    lastOcc (srows[i - 1]'(by omega)).cells ∧ (srows[i - 1]'(by omega)).wrapped = true

theorem occ_of_views {a b : Cell} (h : view a = view b) :
    (a.hasContents || a.cont) = (b.hasContents || b.cont) := by
  simp only [view, View.mk.injEq] at h
  simp [Cell.hasContents, h.1, h.2.2.1]

theorem lastOcc_of_views {a b : List Cell} (h : a.map view = b.map view) (hb : lastOcc b) :
    ∃ last, a[b.length - 1]? = some last ∧ (last.hasContents || last.cont) = true := by
  obtain ⟨hpos, hoc⟩ := hb
  have hl : a.length = b.length := by simpa using congrArg List.length h
  have hlt : b.length - 1 < a.length := by omega
  refine ⟨a[b.length - 1], List.getElem?_eq_getElem hlt, ?_⟩
  have hv : view a[b.length - 1] = view (b[b.length - 1]'(by omega)) := by
    rw [← List.getElem_map view, ← List.getElem_map view]
    exact List.getElem_of_eq h (by rw [List.length_map]; exact hlt)
  rw [occ_of_views hv]
  rcases hoc with h | h <;> simp [h]

/-- `B`: the receiver at the start of line `i`, with the flag of the line above set if that line is wrapped -/
theorem rowsInv_next {srows : List Row} {cols : Nat} (hS : SrcRows W cols srows) {i : Nat} (hi : i < srows.length)
    {wrapping : Bool} {pp : Pos} {R : RS} (hinv : RowsInv srows cols i wrapping pp R)
    {Ri : Row} (hfull : Line srows[i].cells cols Ri) {np : Pos}
    (hnp : lastOcc srows[i].cells → np = ⟨i, cols⟩)
    {B : RS} (hcv : Canvas B.g) (hsize : B.g.size = R.g.size)
    (hother : ∀ k, k ≠ i → B.g.rows[k]? =
      (if wrapping = true ∧ k + 1 = i then (R.g.rows[k]?).map (fun r => r.wrap true) else R.g.rows[k]?)) (na : Attrs) :
    RowsInv srows cols (i + 1) srows[i].wrapped np (shape B i Ri np na) := by
  have hwd := hS.width _ (List.getElem_mem hi)
  have hfull' : Line srows[i].cells srows[i].cells.length Ri := by rw [hwd]; exact hfull
  obtain ⟨hv, hw⟩ := Vt.RowDraw.Line.full hfull'
  have hiB : i < B.g.size.rows := by rw [hsize, hinv.nrows]; exact hi
  refine ⟨shape_canvas hcv (by rw [hfull.length (by omega), hwd, hsize, hinv.hcols]) np na, hsize ▸ hinv.hcols,
    hsize ▸ hinv.nrows, rfl, ?_, ?_⟩
  · intro k hk
    by_cases hki : k = i
    · subst hki
      refine ⟨Ri, shape_row hcv hiB Ri np na, fun _ => ⟨hv, hfull.len22, ?_⟩, fun h => by omega⟩
      rw [hw]
      by_cases hws : srows[k].wrapped = true <;> simp [hws]
    · obtain ⟨Rk, hRk, hdone, hblank⟩ := hinv.row k hk
      have h1 : (shape B i Ri np na).g.rows[k]? = _ := (List.getElem?_set_ne (Ne.symm hki)).trans (hother k hki)
      rw [hRk] at h1
      by_cases hcw : wrapping = true ∧ k + 1 = i
      · rw [if_pos hcw] at h1
        refine ⟨Rk.wrap true, h1, fun _ => ?_, fun h => by omega⟩
        obtain ⟨d1, d2, _⟩ := hdone (by omega)
        refine ⟨d1, d2, ?_⟩
        rw [if_neg (by omega)]
        obtain ⟨_, _, _, _, hwt⟩ := hinv.wrap hcw.1
        obtain rfl : k = i - 1 := by omega
        exact hwt.symm
      · rw [if_neg hcw] at h1
        refine ⟨Rk, h1, fun hlt => ?_, fun hge => hblank (by omega)⟩
        obtain ⟨d1, d2, d3⟩ := hdone (by omega)
        refine ⟨d1, d2, ?_⟩
        rw [d3, if_neg (fun h => hcw ⟨h.2, h.1⟩), if_neg (fun h => hki (by omega))]
  · intro hwr
    exact ⟨by omega, by omega, by simpa using hnp (hS.wrapOcc _ (List.getElem_mem hi) hwr),
      by simpa using hS.wrapOcc _ (List.getElem_mem hi) hwr, by simpa using hwr⟩

theorem shape_rows_get (B : RS) (i : Nat) (Ri : Row) (np : Pos) (na : Attrs) (k : Nat) :
    (shape B i Ri np na).g.rows[k]? = if k = i ∧ i < B.g.rows.length then some Ri else B.g.rows[k]? := by
  simp only [shape, List.getElem?_set]
  by_cases hk : i = k
  · subst hk
    by_cases hl : i < B.g.rows.length <;> simp [hl]
  · simp [hk, show ¬ k = i from fun h => hk h.symm]

theorem rows_step (hW : WOk W) (p0 : Parser) (h0 : Ready p0) {srows : List Row} {cols : Nat}
    (hS : SrcRows W cols srows) {i : Nat} (hi : i < srows.length) {wrapping : Bool} {pp : Pos} {R : RS} {out : List Nat}
    (hinv : RowsInv srows cols i wrapping pp R) (hem : Emitted W cb p0 out R) :
    ∃ bs np na R', srows[i].writeContentsFormatted 0 cols i wrapping (some pp) (some R.pen) = .ok (bs, np, na) ∧
      Emitted W cb p0 (out ++ bs) R' ∧ R'.pen = na ∧ RowsInv srows cols (i + 1) srows[i].wrapped np R' ∧
      R'.g.scrollbackOffset = R.g.scrollbackOffset ∧ (Attrs.wf R.pen → Attrs.wf na) := by
  have hmem : srows[i] ∈ srows := List.getElem_mem hi
  have hwd := hS.width _ hmem
  obtain ⟨Ri0, hRi0, _, hblank⟩ := hinv.row i hi
  have hbl := (hblank (Nat.le_refl _)).line srows[i].cells hwd
  have hir : i < R.g.size.rows := by rw [hinv.nrows]; exact hi
  have hil : i < R.g.rows.length := by rw [hinv.canvas.alloc]; exact hir
  obtain ⟨p1, e1, w1, r1⟩ := hem
  obtain rfl : rsOf p1.ws = R := by rw [w1, rsOf_withRS]
  by_cases hw : wrapping = true
  · subst hw
    obtain ⟨hi1, _, hpp, hocc, _⟩ := hinv.wrap rfl
    have hi1l : i - 1 < srows.length := by omega
    obtain ⟨Rp, hRp, hdone, _⟩ := hinv.row (i - 1) hi1l
    obtain ⟨last, hlast, hoccR⟩ := lastOcc_of_views (hdone (by omega)).1 hocc
    rw [hS.width _ (List.getElem_mem hi1l)] at hlast
    have hrow := row_formatted_draws_wrap (cb := cb) hW p1 r1 hinv.canvas i hi1 hir srows[i] (hwd.trans hinv.hcols.symm)
      (hS.ok _ hmem) Ri0 hRi0 hbl Rp hRp last (by rw [hinv.hcols]; exact hlast) hoccR
      (by rw [hinv.pos, hinv.hcols]; exact hpp)
    rw [hinv.pos, hwd] at hrow
    obtain ⟨bs, np, na, ewc, ⟨Ri, hemr, hfull⟩, hnp⟩ := hrow
    refine ⟨bs, np, na, shape (wrapBase (rsOf p1.ws) i Rp) i Ri np na, ewc, emitted_comp h0 e1 w1 r1 hemr, rfl, ?_, rfl,
      (C12.MPred.iff.mp (DiffRow.row_formatted_keeps (hS.ok _ hmem) ..) _ ewc).2.2⟩
    refine rowsInv_next hS hi hinv hfull hnp (wrapBase_canvas hinv.canvas i hRp) rfl (fun k hk => ?_) na
    simp only [wrapBase, List.getElem?_set, true_and]
    by_cases hk1 : k + 1 = i
    · obtain rfl : i - 1 = k := by omega
      rw [if_pos rfl, if_pos hk1, hRp]
      simp [show i - 1 < (rsOf p1.ws).g.rows.length by omega]
    · rw [if_neg (by omega), if_neg hk1]
  · have hw' : wrapping = false := by simpa using hw
    subst hw'
    have hrow := row_formatted_draws (cb := cb) hW p1 r1 hinv.canvas i hir srows[i] (hwd.trans hinv.hcols.symm)
      (hS.ok _ hmem) Ri0 hRi0 hbl
    rw [hinv.pos, hwd] at hrow
    obtain ⟨bs, np, na, ewc, ⟨Ri, hemr, hfull⟩, hnp⟩ := hrow
    refine ⟨bs, np, na, shape (rsOf p1.ws) i Ri np na, ewc, emitted_comp h0 e1 w1 r1 hemr, rfl, ?_, rfl,
      (C12.MPred.iff.mp (DiffRow.row_formatted_keeps (hS.ok _ hmem) ..) _ ewc).2.2⟩
    exact rowsInv_next hS hi hinv hfull hnp hinv.canvas rfl (fun k _ => by simp) na

/-- emitter side only: the cursor fix-up asks it of the position the loop hands over -/
theorem fmtRowsLoop_pos_le {cols : Nat} : ∀ (rs : List Row) (i : Nat) (wrapping : Bool) (pp : Pos) (pa : Attrs)
    (out : List Nat), (∀ r ∈ rs, SrcOk W r.cells ∧ r.cells.length = cols) → pp.col ≤ cols →
    ∀ {out' pp' pa'}, Grid.fmtRowsLoop cols rs i wrapping pp pa out = .ok (out', pp', pa') → pp'.col ≤ cols
  | [], i, wrapping, pp, pa, out, _, hpp, out', pp', pa', e => by
    simp only [Grid.fmtRowsLoop, pure_eq_ok, Except.ok.injEq, Prod.mk.injEq] at e
    rw [← e.2.1]; exact hpp
  | r :: rs, i, wrapping, pp, pa, out, hrs, hpp, out', pp', pa', e => by
    obtain ⟨hS, hlen⟩ := hrs r (List.mem_cons_self ..)
    simp only [Grid.fmtRowsLoop] at e
    obtain ⟨⟨bs, np, na⟩, hr, e⟩ := bind_eq_ok.mp e
    have := (C12.MPred.iff.mp (DiffRow.row_formatted_keeps hS ..) _ hr).2.1 (by rw [hlen]; exact hpp)
    rw [hlen] at this
    exact fmtRowsLoop_pos_le rs (i + 1) r.wrapped np na _ (fun r' hr' => hrs r' (List.mem_cons_of_mem _ hr')) this e

theorem rows_loop (hW : WOk W) (p0 : Parser) (h0 : Ready p0) {srows : List Row} {cols : Nat}
    (hS : SrcRows W cols srows) : ∀ (rs : List Row) (i : Nat) (wrapping : Bool) (pp : Pos) (out : List Nat) (R : RS),
    srows.drop i = rs → (hil : i ≤ srows.length) →
    (∀ h : 0 < i, wrapping = (srows[i - 1]'(by omega)).wrapped) → (i = 0 → wrapping = false) →
    RowsInv srows cols i wrapping pp R → Emitted W cb p0 out R →
    ∃ out' pp' pa' R', Grid.fmtRowsLoop cols rs i wrapping pp R.pen out = .ok (out', pp', pa') ∧
      Emitted W cb p0 out' R' ∧ R'.pen = pa' ∧ RowsInv srows cols srows.length false pp' R' ∧
      R'.g.scrollbackOffset = R.g.scrollbackOffset ∧ (Attrs.wf R.pen → Attrs.wf pa')
  | [], i, wrapping, pp, out, R, hrs, hil, hwv, hw0, hinv, hem => by
    obtain ⟨rfl, rfl⟩ := hS.end_unwrapped hrs hil hwv hw0
    exact ⟨out, pp, R.pen, R, rfl, hem, rfl, hinv, rfl, id⟩
  | r :: rest, i, wrapping, pp, out, R, hrs, hil, hwv, hw0, hinv, hem => by
    obtain ⟨hi, hr, hrest⟩ := C02.drop_eq_cons hrs
    obtain ⟨bs, np, na, R1, ewc, hem1, hpen1, hinv1, hoff1, hwf1⟩ := rows_step hW p0 h0 hS hi hinv hem
    obtain ⟨out', pp', pa', R', e', hem', hpen', hinv', hoff', hwf'⟩ := rows_loop hW p0 h0 hS rest (i + 1) srows[i].wrapped np
      (out ++ bs) R1 hrest (by omega) (fun _ => by simp) (fun h => by omega) hinv1 hem1
    refine ⟨out', pp', pa', R', ?_, hem', hpen', hinv', hoff'.trans hoff1, fun h => hwf' (hpen1 ▸ hwf1 h)⟩
    rw [← hr]
    simp only [Grid.fmtRowsLoop, ewc, ok_bind]
    rw [← hpen1]
    exact e'

end Vt.GridDraw
