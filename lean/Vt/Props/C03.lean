/-
  C03 — totality: no input or accessor argument can panic, overflow or hang.

  In the model every Rust panic site is an explicit `.error` (Vt/Model/Prim.lean), so "returns
  normally" is "`= .ok _`".  Non-termination is excluded at the level of the model by
  construction: every model function is accepted by Lean's termination checker (structural
  recursion, or well-founded recursion on the parameter list for `sgr`), with no fuel that could
  run out except `Vte.advanceLoop`, whose fuel is `bytes.length + 1` and each iteration consumes
  at least one byte.
  What the property rests on, most of it in other modules (each `= .ok _` for ALL argument values):
  * constructors / API: `Vt.C13.inv_new`, `Vt.C13.setScrollback_total`, `Vt.C16.grid_setSize_eq`,
    `Vt.C16.screen_setSize_eq`;
  * every cursor movement for every parameter: `Vt.C06.*_spec`;
  * every unimplemented or reporting sequence: `Vt.C18.*` (state unchanged ⇒ total);
  * SGR for every parameter list: `sgr_total`; modes: `Vt.C10.*`;
  * accessors: `cell_total`, `row_wrapped_total`, `visibleRows_total` (Lemmas/Window) — any argument values
    (`input_mode_formatted`, `input_mode_diff`, `attributes_formatted` are pure functions in the model: no panic site);
  * cost clause: `Vt.C08.su_bounded`, `sd_bounded`, `scrollDown_trips`, `insertLines_trips`,
    `ich_trips`, and the byte-parameter saturation `param_bounded` (vte never hands over a value
    above 65535).
  The central theorem — `process_total` / `reachable_inv`: every action from every `Inv` state returns normally and
  keeps `Inv` — is in InvPerform (with Lemmas/{RowInv,RowOps,GridInv,GridTotal,CellInv,TextInv,VteOk}); the accessor half is
  C03b (`accessors_total`); Bytes adds that the emitters return bytes.  The "bound" theorems listed under the cost
  clause are facts about the trip-count expressions the model shares with the code (`min count rows`), not more.
-/
import Vt.Lemmas.Sgr
import Vt.Lemmas.Window
namespace Vt.C03

theorem cell_total (s : Screen) (h : s.cur.scrollbackOffset ≤ s.cur.scrollback.length) (r c : Nat) :
    ∃ o, s.cell r c = .ok o := by
  obtain ⟨rs, hrs⟩ := visibleRows_total s.cur h
  simp [Screen.cell, Grid.visibleCell, Grid.visibleRow, hrs]

theorem row_wrapped_total (s : Screen) (h : s.cur.scrollbackOffset ≤ s.cur.scrollback.length) (r : Nat) :
    ∃ b, s.rowWrapped r = .ok b := by
  obtain ⟨rs, hrs⟩ := visibleRows_total s.cur h
  simp [Screen.rowWrapped, Grid.visibleRow, hrs]

theorem sgr_total (unh : WS → M WS) (hunh : ∀ w, ∃ w', unh w = .ok w') :
    ∀ (ps : List (List Nat)) (ws : WS), ∃ ws', sgrLoop unh ps ws = .ok ws' := by
  intro ps
  induction ps using Sgr.drop_induction with
  | nil => exact fun ws => ⟨ws, sgrLoop_nil unh ws⟩
  | cons p rest ih =>
    intro ws
    rw [sgrLoop_cons]
    cases Sgr.step p rest with
    | apply f k => exact ih k _
    | report =>
      obtain ⟨w1, hw1⟩ := hunh ws
      rw [hw1]
      exact ih 0 w1
    | reportStop => exact hunh ws
    | stop => exact ⟨ws, rfl⟩

/-- vte's parameter accumulation saturates: no parameter above 65535 ever reaches the screen -/
theorem param_bounded (v : Vte) (b : Nat) (h : v.param ≤ 65535) : (v.actionParamnext b).param ≤ 65535 := by
  simp only [Vte.actionParamnext]
  split
  · exact h
  · simp only; omega

theorem ich_trips (g : Grid) (count : Nat) : min count g.size.cols ≤ g.size.cols := by omega

end Vt.C03
