/-
  Vt.Props.DiffIrrel — when `wrapping = true` makes no difference to what `Row::write_contents_diff` emits (emitter level, no
  receiver).

  The three wrap-through branches (the repair in `diffStart`, the move-less first character in `fmtCellStep`, the space padding
  in `eraseMove`) are taken only while the emitter's cursor `prev_pos` is still on the line above, in one of its last two
  columns.  `Unparked` says it is not; every step of the emitter leaves the cursor where it was or moves it onto this line
  (`MovedOnto`, an instance of `Fmt.All`), so it stays so, and under it `wrapping = true` emits exactly what `wrapping = false`
  emits (`writeContentsDiff_irrel`).  Namespace `Vt.C02`.
-/
import Vt.Props.RowCtx
namespace Vt.C02
open Vt Vt.C19 Vt.C03 Vt.RowDraw
open Vt.Fmt (start)

theorem drop_eq_cons {α} {l : List α} {i : Nat} {x : α} {xs : List α} (h : l.drop i = x :: xs) :
    ∃ hi : i < l.length, l[i] = x ∧ l.drop (i + 1) = xs := by
  have hi : i < l.length := by
    rcases Nat.lt_or_ge i l.length with h' | h'
    · exact h'
    · rw [List.drop_eq_nil_of_le h'] at h; cases h
  rw [List.drop_eq_getElem_cons hi] at h
  exact ⟨hi, (List.cons.inj h).1, (List.cons.inj h).2⟩

theorem zip_drop_cons {α β : Type} {l1 : List α} {l2 : List β} (hl : l2.length = l1.length) {i : Nat} {a : α} {b : β}
    {rest : List (α × β)} (h : (l1.zip l2).drop i = (a, b) :: rest) :
    ∃ (hi : i < l1.length), l1[i] = a ∧ l2[i]'(by rw [hl]; exact hi) = b ∧ (l1.zip l2).drop (i + 1) = rest := by
  obtain ⟨hiz, hx, hrest⟩ := drop_eq_cons h
  rw [List.getElem_zip] at hx
  injection hx with ha hb
  exact ⟨by simpa only [List.length_zip, hl, Nat.min_self] using hiz, ha, hb, hrest⟩

theorem zip_drop_nil {α β : Type} {l1 : List α} {l2 : List β} (hl : l2.length = l1.length) {i : Nat} (hi : i ≤ l1.length)
    (h : (l1.zip l2).drop i = []) : i = l1.length := by
  have := congrArg List.length h
  simp only [List.length_drop, List.length_nil, List.length_zip, hl, Nat.min_self] at this
  omega

theorem window_zip_full {S P : List Cell} (hpl : P.length = S.length) :
    Row.window (S.zip P) 0 S.length = C14.enumFrom 0 (S.zip P) := by
  rw [C14.window_enum, List.drop_zero]
  rw [List.take_of_length_le (by simp [List.length_zip, hpl])]

/-- the emitter's cursor is NOT on the line above `row` in one of its last two columns (`cols-1`: a wide character
typed there wraps; `cols`: the pending-wrap column) -/
def Unparked (cols row : Nat) (p : Pos) : Prop := ¬ (p.row + 1 = row ∧ cols ≤ p.col + 1)

/-- the emitter's cursor is NOT in the pending-wrap column of the line above `row` -/
def NotFull (cols row : Nat) (p : Pos) : Prop := ¬ (p.row + 1 = row ∧ cols ≤ p.col)

instance (cols row : Nat) (p : Pos) : Decidable (Unparked cols row p) := by unfold Unparked; infer_instance
instance (cols row : Nat) (p : Pos) : Decidable (NotFull cols row p) := by unfold NotFull; infer_instance

theorem unparked_of_row {cols row : Nat} {p : Pos} (h : p.row = row) : Unparked cols row p := by
  unfold Unparked; omega

theorem Unparked.notFull {cols row : Nat} {p : Pos} (h : Unparked cols row p) : NotFull cols row p := by
  unfold Unparked at h; unfold NotFull; omega

/-- the cell pair at column 0 (if it is in the list) is not a CHANGED WIDE character -/
def FirstOk (l : List (Nat × (Cell × Cell))) : Prop :=
  ∀ x ∈ l, x.1 = 0 → ¬ (x.2.1.eq x.2.2 = false ∧ x.2.1.isWide = true)

/-- what makes `wrapping` irrelevant for the cells in `l`: the cursor is not in the pending-wrap column of the line
above, and if it is in the column before that one, the first cell is not a changed wide character -/
def Irrel (cols row : Nat) (p : Pos) (l : List (Nat × (Cell × Cell))) : Prop :=
  NotFull cols row p ∧ (Unparked cols row p ∨ FirstOk l)

/-- each step of the emitter on line `row` leaves its cursor where it was (`p0`) or moves it onto that line -/
abbrev MovedOnto (row : Nat) (p0 : Pos) : Row.FmtSt → Prop :=
  Fmt.All (fun _ => True) (fun p => p = p0 ∨ p.row = row) (fun _ _ => True) (fun _ => True)

theorem moved_kept (row : Nat) (p0 : Pos) :
    Fmt.Kept row (fun _ => True) (fun p => p = p0 ∨ p.row = row) (fun _ _ => True) (fun _ => True) :=
  ⟨fun _ _ => trivial, fun _ => ⟨trivial, Or.inr rfl⟩⟩

theorem moved_refl (row : Nat) (st : Row.FmtSt) : MovedOnto row st.prevPos st :=
  ⟨trivial, Or.inl rfl, fun _ _ _ => trivial, trivial⟩

theorem moved_cell (row : Nat) (p0 : Pos) (col : Nat) (c : Cell) :
    Fmt.CellOk row (fun _ => True) (fun p => p = p0 ∨ p.row = row) (fun _ _ => True) col c :=
  ⟨trivial, Or.inr rfl, trivial⟩

theorem moved_keeps {cols row : Nat} {p : Pos} {st' : Row.FmtSt} (h : MovedOnto row p st') :
    (NotFull cols row p → NotFull cols row st'.prevPos) ∧ (Unparked cols row p → Unparked cols row st'.prevPos) := by
  rcases h.pos with h | h
  · rw [h]; exact ⟨id, id⟩
  · unfold NotFull Unparked; constructor <;> intro _ <;> omega

theorem fold_moved (cols row : Nat) (w : Bool) (l : List (Nat × (Cell × Cell))) (st : Row.FmtSt) :
    C12.MPred (MovedOnto row st.prevPos) (l.foldlM (Row.diffStep cols row w) st) :=
  C12.foldlM_pred l st (fun p _ _ h => Fmt.diffStep_all (moved_kept row _) cols w h (moved_cell row _ p.1 p.2.1))
    (moved_refl row st)

theorem bind_congr_of {α β} {P : α → Prop} {m : M α} (h : C12.MPred P m) {f g : α → M β} (hfg : ∀ a, P a → f a = g a) :
    m >>= f = m >>= g := by
  cases m with
  | error e => rfl
  | ok a => exact hfg a h

theorem eraseMove_irrel (cols row : Nat) (st : Row.FmtSt) (c : Nat) (a : Attrs) (h : NotFull cols row st.prevPos) :
    Row.eraseMove cols row true st c a = Row.eraseMove cols row false st c a := by
  unfold NotFull at h
  have hc : (true && st.prevPos.row + 1 == ({ row := row, col := c } : Pos).row && decide (st.prevPos.col ≥ cols)) = false := by
    simp only [Bool.true_and, Bool.and_eq_false_imp, beq_iff_eq, decide_eq_false_iff_not]
    intro h1; omega
  simp only [Row.eraseMove, hc, Bool.false_and, Bool.false_eq_true, ↓reduceIte]

theorem flush_irrel (cols row : Nat) (st : Row.FmtSt) (col : Nat) (c : Cell) (h : NotFull cols row st.prevPos) :
    C03.flush cols row true st col c = C03.flush cols row false st col c := by
  unfold C03.flush
  cases he : st.erase with
  | none => rfl
  | some pa => simp only [eraseMove_irrel cols row st pa.1 pa.2 h]

theorem emit_irrel (cols row : Nat) (st : Row.FmtSt) (col : Nat) (c : Cell) (d : Bool)
    (h2 : Unparked cols row st.prevPos ∨ col ≠ 0 ∨ (NotFull cols row st.prevPos ∧ ¬ (d = true ∧ c.isWide = true))) :
    C03.emitCell cols row true st col c d = C03.emitCell cols row false st col c d := by
  by_cases hd : d = true
  · have hmv : (!true || st.prevPos.row + 1 != ({ row := row, col := col } : Pos).row ||
        decide (st.prevPos.col < cols - if c.isWide = true then 1 else 0) ||
        ({ row := row, col := col } : Pos).col != 0) = true := by
      simp only [Bool.not_true, Bool.false_or, Bool.or_eq_true, bne_iff_ne, ne_eq, decide_eq_true_eq]
      by_cases h1 : st.prevPos.row + 1 = row
      · by_cases h0 : col = 0
        · refine Or.inl (Or.inr ?_)
          rcases h2 with h2 | h2 | ⟨h, h2⟩
          · unfold Unparked at h2; split <;> omega
          · exact absurd h0 h2
          · unfold NotFull at h
            have : c.isWide = false := by
              cases hw : c.isWide
              · rfl
              · exact absurd ⟨hd, hw⟩ h2
            rw [this]; simp only [Bool.false_eq_true, ↓reduceIte]; omega
        · exact Or.inr h0
      · exact Or.inl (Or.inl h1)
    unfold C03.emitCell
    simp only [hmv, Bool.not_false, Bool.true_or, ↓reduceIte]
  · have hd' : d = false := by simpa using hd
    subst hd'
    unfold C03.emitCell
    simp

theorem fmtCellStep_irrel (cols row : Nat) (st : Row.FmtSt) (col : Nat) (c : Cell) (d : Bool)
    (h : NotFull cols row st.prevPos)
    (h2 : Unparked cols row st.prevPos ∨ col ≠ 0 ∨ ¬ (d = true ∧ c.isWide = true)) :
    Row.fmtCellStep cols row true st col c d = Row.fmtCellStep cols row false st col c d := by
  rw [C03.fmtCellStep_eq, C03.fmtCellStep_eq, flush_irrel cols row st col c h]
  refine bind_congr_of (Fmt.flush_all (moved_kept row _) cols false (moved_refl row st) col c) fun st1 h1 => ?_
  obtain ⟨a, b⟩ := moved_keeps (cols := cols) h1
  exact emit_irrel cols row st1 col c d (h2.imp b fun h' => h'.imp id fun h'' => ⟨a h, h''⟩)

theorem diffStep_irrel (cols row : Nat) (st : Row.FmtSt) (p : Nat × (Cell × Cell)) (l : List (Nat × (Cell × Cell)))
    (h : Irrel cols row st.prevPos (p :: l)) :
    Row.diffStep cols row true st p = Row.diffStep cols row false st p := by
  obtain ⟨hn, hu⟩ := h
  obtain ⟨col, cell, prevCell⟩ := p
  unfold Row.diffStep
  simp only
  split
  · rfl
  · refine fmtCellStep_irrel cols row _ col cell _ hn (hu.imp id fun hu => ?_)
    by_cases h0 : col = 0
    · exact Or.inr (by simpa using hu (col, cell, prevCell) (List.mem_cons_self ..) h0)
    · exact Or.inl h0

theorem fold_irrel (cols row : Nat) (l : List (Nat × (Cell × Cell))) (st : Row.FmtSt) (h : Irrel cols row st.prevPos l) :
    l.foldlM (Row.diffStep cols row true) st = l.foldlM (Row.diffStep cols row false) st := by
  induction l generalizing st with
  | nil => rw [List.foldlM_nil, List.foldlM_nil]
  | cons p l ih =>
    rw [List.foldlM_cons, List.foldlM_cons, diffStep_irrel cols row st p l h]
    refine bind_congr_of (Fmt.diffStep_all (moved_kept row _) cols false (moved_refl row st) (moved_cell ..)) fun st1 h1 =>
      ih st1 ?_
    obtain ⟨a, b⟩ := moved_keeps (cols := cols) h1
    exact ⟨a h.1, h.2.imp b fun hf x hx => hf x (List.mem_cons_of_mem _ hx)⟩

theorem fmtFinish_irrel (cols row : Nat) (st : Row.FmtSt) (h : NotFull cols row st.prevPos) :
    Row.fmtFinish cols row true st = Row.fmtFinish cols row false st := by
  unfold Row.fmtFinish
  cases he : st.erase with
  | none => rfl
  | some pa =>
    obtain ⟨pc, a⟩ := pa
    simp only [eraseMove_irrel cols row st pc a h]

theorem writeContentsDiff_false_pw (r prev : Row) (start width row : Nat) (pw pw' : Bool) (pp : Pos) (pa : Attrs) :
    r.writeContentsDiff prev start width row false pw pp pa = r.writeContentsDiff prev start width row false pw' pp pa := by
  unfold Row.writeContentsDiff
  rw [diffStart_false, diffStart_false]

/-- `diffStart` repairs nothing when the line above was wrapped already, or the emitter's cursor is not parked at its
end, or this line's first cell is changed -/
theorem diffStart_norepair (r prev : Row) (start row : Nat) (pw : Bool) (pp : Pos) (pa : Attrs)
    (h : pw = true ∨ Unparked r.cols row pp ∨ ∃ (h0 : start < r.cells.length) (h0p : start < prev.cells.length),
      view r.cells[start] ≠ view prev.cells[start]) :
    Row.diffStart r prev start row true pw pp pa = .ok ⟨false, pp, pa, none, []⟩ := by
  refine diffStart_quiet r prev start row true pw pp pa fun fc pfc h1 h2 => ?_
  rcases h with h | h | ⟨h0, h0p, hv⟩
  · simp [h]
  · unfold Unparked at h
    simp only [Bool.true_and, Bool.and_eq_false_imp, Bool.and_eq_true, Bool.not_eq_eq_eq_not, Bool.not_true, beq_iff_eq,
      decide_eq_false_iff_not, and_imp]
    intro _ _ h3
    split <;> omega
  · rw [List.getElem?_eq_getElem h0] at h1
    rw [List.getElem?_eq_getElem h0p] at h2
    cases Option.some.inj h1
    cases Option.some.inj h2
    have : r.cells[start].eq prev.cells[start] = false :=
      Bool.eq_false_iff.mpr (fun he => hv ((eq_iff_view _ _).mp he))
    simp [this]

/-- **`wrapping = true` emits what `wrapping = false` emits** unless the emitter's cursor is parked at the end of the
line above: in its pending-wrap column, or — when the line's first cell is a changed wide character, or the line above
has just become wrapped — in the column before it -/
theorem writeContentsDiff_irrel (r prev : Row) (start width row : Nat) (pw : Bool) (pp : Pos) (pa : Attrs)
    (h : Irrel r.cols row pp (Row.window (r.cells.zip prev.cells) start width))
    (h2 : Unparked r.cols row pp ∨ pw = true) :
    r.writeContentsDiff prev start width row true pw pp pa = r.writeContentsDiff prev start width row false pw pp pa := by
  unfold Row.writeContentsDiff
  rw [diffStart_norepair r prev start row pw pp pa (h2.symm.imp_right Or.inl), diffStart_false]
  simp only [ok_bind, Fmt.start]
  rw [fold_irrel r.cols row _ ⟨false, pp, pa, none, []⟩ h]
  exact bind_congr_of (fold_moved ..) fun st1 h1 => by rw [fmtFinish_irrel r.cols row st1 ((moved_keeps h1).1 h.1)]

end Vt.C02
