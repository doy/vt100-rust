/-
  Vt.Props.DiffWrap2 — C02 for changed soft-wrapped lines, part 2: lines that FOLLOW a line wrapped in S
  (`wrapping = true`), on the receiver.  (The emitter's side — when `wrapping` makes no difference — is Props/DiffIrrel.)

  What is typed while the receiver's cursor is still parked at the end of the line above makes the receiver wrap — the line
  above gets flagged (`Ctx.wrapped`) and the character lands in column 0 of this line, whatever the line holds
  (`type_wrap`, `type_wrap_cell`).  The two first emissions of the emitter that rely on it: a cell with text typed
  without a move (`pend_text0`), and SP BS in place of the move before an erase run from column 0 (`pend_eraseMove`;
  `Zed`: the line after that space, `Zed.erase`: after the run has been erased).  SP BS ECH 1 over an unchanged blank first
  cell (`repair_blank`) is what both `diffStart`'s repair and the preamble of `write_contents_formatted` write.
  Namespace `Vt.C02`.
-/
import Vt.Props.DiffWrap1
namespace Vt.C02
open Vt Vt.Recv Vt.C19 Vt.C09 Vt.RowDraw Vt.C03 Vt.Bytes Vt.DiffRow Vt.C15wrap

variable {W : Nat → Option Nat} {cb : CbPolicy}

/-- **a cell typed from the parked position**: the receiver's cursor is on line `i - 1`, in a column `c0` from which
the cell's first character does not fit (its last column is occupied: `WCtx`).  The receiver wraps — line `i - 1` is
flagged — and the cell lands in column 0 of line `i`, whatever that line holds (`typedRow`). -/
theorem type_wrap (K : Ctx W cb) (X : WCtx K) (hW32 : W 32 = some 1)
    {out : List Nat} {Ri0 : Row} {pen : Attrs} (c0 : Nat)
    (hem : Emitted W cb K.p0 out (shape K.r0 K.i Ri0 ⟨K.i - 1, c0⟩ pen)) (hwf : LineWf Ri0)
    (hl : Ri0.cells.length = K.r0.g.size.cols) {bytes : List Nat} {f : Nat} {zs : List Nat}
    (hstep : Step W cb bytes (fun r => typeChars W r.pen (f :: zs) r.g >>= fun g' => pure { r with g := g' }))
    (hfirst : ¬ (W f = none ∧ f < 256)) (hwidth : 1 ≤ (W f).getD 1) (hzero : ∀ z ∈ zs, W z = some 0)
    (hpre : prefixOk (Utf8.encode f).length zs) (hfit : C05.effWidth W f ≤ K.r0.g.size.cols)
    (hc0 : c0 > K.r0.g.size.cols - C05.effWidth W f) :
    ∃ cellF, Emitted W cb K.p0 (out ++ bytes)
        (shape (K.wrapped X).r0 K.i (typedRow W Ri0 0 K.r0.g.size.cols pen f cellF) ⟨K.i, 0 + C05.effWidth W f⟩ pen) ∧
      view cellF = typedView W pen f zs ∧ LineWf (typedRow W Ri0 0 K.r0.g.size.cols pen f cellF) := by
  obtain ⟨cellF, et, hvF, hwf'⟩ := shape_type (K.wrapped X) hW32 hwf hl 0 pen f zs hfirst hwidth hzero hpre
    (by show 0 + C05.effWidth W f ≤ K.r0.g.size.cols; omega)
  have hwrap := typeChars_wraps_gen W K.canvas X.hi1 K.hi hl X.hp X.hlast X.hocc pen f zs hfit hfirst c0 hc0
  refine ⟨cellF, emitted_step W cb K.ready hem hstep ?_, hvF, hwf'⟩
  have : (shape K.r0 K.i Ri0 ⟨K.i - 1, c0⟩ pen).pen = pen := rfl
  rw [this, hwrap, show typeChars W pen (f :: zs) (shape (wrapBase K.r0 K.i X.Rp) K.i Ri0 ⟨K.i, 0⟩ pen).g = _ from et]
  rfl

/-- the cell `c` (its pen set already) typed from the parked position -/
theorem type_wrap_cell (K : Ctx W cb) (X : WCtx K) (hW : WOk W)
    {out : List Nat} {Ri0 : Row} (c0 : Nat) {c : Cell}
    (hem : Emitted W cb K.p0 out (shape K.r0 K.i Ri0 ⟨K.i - 1, c0⟩ c.attrs)) (hwf : LineWf Ri0)
    (hl : Ri0.cells.length = K.r0.g.size.cols) (hok : cellOk W c = true) (hemit : cellEmitOk W K.src.length 0 c = true)
    (hh : c.hasContents = true) (hc0 : K.src.length ≤ c0 + (if c.wide = true then 1 else 0)) :
    ∃ f cellF, Emitted W cb K.p0 (out ++ c.contents.take c.len)
        (shape (K.wrapped X).r0 K.i (typedRow W Ri0 0 K.r0.g.size.cols c.attrs f cellF)
          ⟨K.i, 0 + (if c.wide = true then 2 else 1)⟩ c.attrs) ∧
      view cellF = view c ∧ C05.effWidth W f = (if c.wide = true then 2 else 1) ∧
      LineWf (typedRow W Ri0 0 K.r0.g.size.cols c.attrs f cellF) := by
  obtain ⟨f, zs, ht⟩ := textCell_of hW hok hemit hh
  have hwe : C05.effWidth W f = (if c.wide = true then 2 else 1) := ht.eff
  have hfit : C05.effWidth W f ≤ K.r0.g.size.cols := by
    have := ht.fits; rw [K.hsrc] at this; unfold C05.effWidth; omega
  have hc0' : c0 > K.r0.g.size.cols - C05.effWidth W f := by
    have hc1 := K.canvas.cols_pos
    rw [← K.hsrc] at hfit ⊢
    rw [hwe] at hfit ⊢
    by_cases hwide : c.wide = true
    · simp only [hwide, ↓reduceIte] at hc0 hfit ⊢; omega
    · simp only [hwide, Bool.false_eq_true, ↓reduceIte] at hc0 hfit ⊢; omega
  have hstep := step_text W cb (c.contents.take c.len) ht.valid (by rw [ht.chars]; exact ht.plain) ht.noesc
  rw [ht.chars] at hstep
  obtain ⟨cellF, h3, hvF, hci⟩ := type_wrap K X hW.space c0 hem hwf hl hstep ht.first ht.width ht.zero ht.pre hfit hc0'
  rw [hwe] at h3
  exact ⟨f, cellF, h3, by rw [hvF, ht.view], hwe, hci⟩

/-- the receiving line after a narrow character (a space) has been typed at column 0 of a line that showed `P`: it
still shows `P` from column 2 on; column 1 shows `P` too unless it held the second half of a wide character -/
structure Zed (S P : List Cell) (R : Row) : Prop where
  len : R.cells.length = S.length
  plen : P.length = S.length
  c0 : ∀ (h : 0 < S.length), (R.cells[0]'(by rw [len]; exact h)).wide = false
  c1 : ∀ (hk : 1 < S.length), view (R.cells[1]'(by rw [len]; exact hk)) = view (P[1]'(by rw [plen]; exact hk)) ∨
    ((P[1]'(by rw [plen]; exact hk)).cont = true ∧ (R.cells[1]'(by rw [len]; exact hk)).wide = false ∧
      (R.cells[1]'(by rw [len]; exact hk)).cont = false)
  hi : ∀ k (hk : k < S.length), 1 < k → view (R.cells[k]'(by rw [len]; exact hk)) = view (P[k]'(by rw [plen]; exact hk))

theorem Zed.erase {S P : List Cell} (hS : SrcOk W S) {R : Row} (h : Zed S P R) {j : Nat} (h1j : 1 ≤ j) (hjl : j ≤ S.length)
    (a : Attrs) (hrun : ∀ k (hk : k < S.length), k < j → view S[k] = blankA a) (w : Bool) :
    Mid' S P j (C07.erasedRow R.cells w 0 j a) :=
  erase_run hS h.plen ⟨h.len, fun k _ hk => absurd hk (Nat.not_lt_zero k)⟩ h1j hjl a (fun k hk _ => hrun k hk)
    (fun k hk hkj => h.hi k hk (by omega))
    (fun hk => if hj1 : j = 1 then by subst hj1; exact h.c1 hk else Or.inl (h.hi j hk (by omega))) w

theorem Zed.flag_kept {S P : List Cell} (hk : Keep S P) {R : Row} (h : Zed S P R) {j : Nat} (h1j : 1 ≤ j) (hjl : j ≤ S.length)
    (a : Attrs) (hrun : ∀ k (hk : k < S.length), k < j → view S[k] = blankA a) :
    C07.flagCleared R.cells 0 j = false := by
  refine C02.flag_kept hk h.len h.plen h1j hjl a (fun k hk _ => hrun k hk) (fun hjS hw => ?_)
  rcases Nat.lt_trichotomy (j - 1) 1 with h0 | h1 | h2
  · obtain h0 : j - 1 = 0 := by omega
    simp only [h0] at hw
    rw [h.c0 (by omega)] at hw; exact absurd hw (by simp)
  · simp only [h1] at hw ⊢
    rcases h.c1 (by omega) with hv | ⟨_, hnw, _⟩
    · rw [← view_wide hv]; exact hw
    · rw [hw] at hnw; exact absurd hnw (by simp)
  · rw [← view_wide (h.hi (j - 1) hjS h2)]; exact hw

theorem Zed.erase_holds {S P : List Cell} (F : FlagSpec S P) {R : Row} (h : Zed S P R) {w : Bool} (hq : F.holds w)
    (hw : R.wrapped = w) {j : Nat} (h1j : 1 ≤ j) (hjl : j ≤ S.length) (a : Attrs)
    (hrun : ∀ k (hk : k < S.length), k < j → view S[k] = blankA a) :
    F.holds (C07.erasedRow R.cells R.wrapped 0 j a).wrapped :=
  hw ▸ F.erased hq _ 0 j a fun hb => h.flag_kept (F.keep hb) h1j hjl a hrun

theorem zed_of_space {S P : List Cell} (hP : WideNext P) (hW32 : W 32 = some 1) {Ri0 : Row} (h : Mid' S P 0 Ri0)
    (cols : Nat) (pen : Attrs) (cellF : Cell) (hF : cellF.wide = false) :
    Zed S P (typedRow W Ri0 0 cols pen 32 cellF) ∧ (typedRow W Ri0 0 cols pen 32 cellF).wrapped = Ri0.wrapped := by
  have hew : C05.effWidth W 32 = 1 := by simp [C05.effWidth, hW32]
  obtain ⟨hhi, hmid⟩ := h.typed1_right hW32 hP cols pen 32 hew cellF
  refine ⟨⟨(typedRow_length ..).trans h.len, h.plen, fun h0 => ?_, hmid, hhi⟩, ?_⟩
  · rw [typedRow_get _ _ _ _ _ _ 0 (by rw [h.len]; exact h0), if_pos rfl]; exact hF
  · rw [typedRow_wrapped_eq, hew]
    simp

theorem shows_of_mid {S P : List Cell} {e : Nat} {R : Row} (h : Mid' S P e R)
    (hlo : ∀ k (hk : k < S.length), k < e → view S[k] = view (P[k]'(by rw [h.plen]; exact hk)))
    (hmid : ∀ (hk : e < S.length), (P[e]'(by rw [h.plen]; exact hk)).cont = false) :
    R.cells.map view = P.map view := by
  apply List.ext_getElem?
  intro k
  simp only [List.getElem?_map]
  by_cases hk : k < S.length
  · rw [List.getElem?_eq_getElem (show k < R.cells.length by rw [h.len]; exact hk),
      List.getElem?_eq_getElem (show k < P.length by rw [h.plen]; exact hk)]
    simp only [Option.map_some, Option.some.injEq]
    rcases Nat.lt_trichotomy k e with hke | hke | hke
    · rw [h.lo k hk hke, hlo k hk hke]
    · subst hke
      rcases h.mid hk with hv | ⟨hpc, _⟩
      · exact hv
      · rw [hmid hk] at hpc; exact absurd hpc (by simp)
    · exact h.hi k hk hke
  · rw [List.getElem?_eq_none (by rw [h.len]; omega), List.getElem?_eq_none (by rw [h.plen]; omega)]

theorem mid_advance {S P : List Cell} (hP : SrcOk W P) {Ri : Row} (h : Mid' S P 0 Ri) (j : Nat)
    (heq : ∀ k (hk : k < S.length), k < j → view S[k] = view (P[k]'(by rw [h.plen]; exact hk))) :
    Mid' S P j Ri := by
  obtain ⟨_, hshow⟩ := full_get (shows_of_mid h (fun k _ hk => absurd hk (Nat.not_lt_zero k))
    (fun hk => by rw [hP.cont_iff 0 (by rw [h.plen]; exact hk)]; rfl))
  exact ⟨h.len, h.plen, fun k hk hkj => by rw [hshow k (by rw [h.plen]; exact hk), heq k hk hkj], fun k hk _ => hshow k _,
    fun hk => Or.inl (hshow j _)⟩

theorem emitted_bs (K : Ctx W cb) {out : List Nat} {R : Row} {c : Nat} {pen : Attrs}
    (hem : Emitted W cb K.p0 out (shape K.r0 K.i R ⟨K.i, c + 1⟩ pen)) :
    Emitted W cb K.p0 (out ++ Term.backspace) (shape K.r0 K.i R ⟨K.i, c⟩ pen) :=
  emitted_step W cb K.ready hem (step_backspace W cb) (by simp [shape, Grid.colDec])

/-- a space typed at the pending-wrap position of the line above, then BS: the wrap is recorded, the cursor is at the
start of this line, whose first cell holds the space — whatever the line held -/
theorem space_bs_wrap (K : Ctx W cb) (X : WCtx K) (hW : WOk W)
    {out : List Nat} {Ri0 : Row} (pen : Attrs)
    (hem : Emitted W cb K.p0 out (shape K.r0 K.i Ri0 ⟨K.i - 1, K.r0.g.size.cols⟩ pen)) (hwf : LineWf Ri0)
    (hl : Ri0.cells.length = K.r0.g.size.cols) :
    ∃ cellF, Emitted W cb K.p0 (out ++ [32] ++ Term.backspace)
        (shape (K.wrapped X).r0 K.i (typedRow W Ri0 0 K.r0.g.size.cols pen 32 cellF) ⟨K.i, 0⟩ pen) ∧
      cellF.wide = false ∧ LineWf (typedRow W Ri0 0 K.r0.g.size.cols pen 32 cellF) := by
  have hc1 := K.canvas.cols_pos
  obtain ⟨hfirst, hwidth, hew, hplain⟩ := space_facts hW.space
  obtain ⟨cellF, h1, hv, hci⟩ := type_wrap K X hW.space K.r0.g.size.cols hem hwf hl (step_space W cb) hfirst hwidth
    (fun z hz => by cases hz) trivial (by rw [hew]; exact hc1) (by rw [hew]; omega)
  rw [hew] at h1
  exact ⟨cellF, emitted_bs (K.wrapped X) h1, (hplain hv).1, hci⟩

/-- the first cell of the line holds text and is changed: pen change, then the text — typed without a move, so
that the receiver wraps.  From there on the loop invariant holds, on the receiver with the wrap recorded. -/
theorem pend_text0 (K : Ctx W cb) (D : DCtx W K.src.length) (F : FlagSpec K.src D.prv) (X : WCtx K) (hW : WOk W) (hS : SrcOk W K.src)
    (hne : 0 < K.src.length) {pa : Attrs} {c0 : Nat} {Ri0 : Row}
    (hem0 : Emitted W cb K.p0 [] (shape K.r0 K.i Ri0 ⟨K.i - 1, c0⟩ pa)) (hmid0 : MidF F 0 Ri0) (hwf0 : LineWf Ri0)
    (hh : K.src[0].hasContents = true) (hc0 : K.src.length ≤ c0 + (if K.src[0].isWide = true then 1 else 0)) :
    C03.emitCell K.src.length K.i true ⟨K.src[0].isWide, ⟨K.i - 1, c0⟩, pa, none, []⟩ 0 K.src[0] true =
        .ok (afterTextW K.i ⟨K.src[0].isWide, ⟨K.i - 1, c0⟩, pa, none, []⟩ K.src[0]) ∧
      CellLoop (K.wrapped X) D F.holds 1 (afterTextW K.i ⟨K.src[0].isWide, ⟨K.i - 1, c0⟩, pa, none, []⟩ K.src[0]) := by
  have hok := hS.cells_ok _ (List.getElem_mem hne)
  have hnc : K.src[0].cont = false := by rw [hS.cont_iff 0 hne]; simp
  have e3 := emit_text_wrap_eq K.src.length K.i c0 ⟨K.src[0].isWide, ⟨K.i - 1, c0⟩, pa, none, []⟩ K.src[0] hh
    (cellFine_of_ok hok) X.hi1 rfl hc0
  have hl : Ri0.cells.length = K.r0.g.size.cols := by rw [hmid0.mid.len, K.hsrc]
  obtain ⟨f, cellF, h3, hvF, hwe, hwf'⟩ := type_wrap_cell K X hW c0 (K.emitted_pen hem0 (hS.wf 0 hne))
    hwf0 hl hok (hS.emit_ok 0 hne) hh hc0
  have hd : DiffAt (K.wrapped X) D.prv F.holds (0 + (if K.src[0].wide = true then 2 else 1))
      (afterTextW K.i ⟨K.src[0].isWide, ⟨K.i - 1, c0⟩, pa, none, []⟩ K.src[0]) :=
    ⟨_, h3, hmid0.mid.typeCell hW.space hS (wideNext_of_src D.hP) hwf0.links hne hnc _ _ f hwe cellF hvF,
      (F.keeps hS).typed hmid0.mid hmid0.flag hne hnc _ K.hsrc.symm _ f cellF hwe, hwf'⟩
  exact ⟨e3, CellLoop.succ (K := K.wrapped X) (D := D) hne rfl
    (fun _ (hnh : K.src[0].hasContents = false) _ => by rw [hh] at hnh; exact absurd hnh (by simp))
    (fun (hw : K.src[0].wide = true) => ⟨rfl, by rw [if_pos hw] at hd; exact hd⟩)
    (fun (hw : K.src[0].wide = false) => Between.of_drawn rfl (by rw [if_neg (by simp [hw])] at hd; exact hd))
    (fun _ => ⟨rfl, rfl⟩)⟩

/-- the wrap-forcing variant of the emitter's move before an erase run that starts in column 0 is flushed: a
space and a BS instead of a cursor move, then the pen -/
theorem pend_eraseMove (K : Ctx W cb) (D : DCtx W K.src.length) (F : FlagSpec K.src D.prv) (X : WCtx K) (hW : WOk W) {pa : Attrs}
    {Ri0 : Row} (hem0 : Emitted W cb K.p0 [] (shape K.r0 K.i Ri0 ⟨K.i - 1, K.r0.g.size.cols⟩ pa)) (hmid0 : MidF F 0 Ri0)
    (hwf0 : LineWf Ri0) (a : Attrs) (hwf : Attrs.wf a) (pw : Bool) (er : Option (Nat × Attrs)) :
    ∃ out R1, Row.eraseMove K.src.length K.i true ⟨pw, ⟨K.i - 1, K.r0.g.size.cols⟩, pa, er, []⟩ 0 a = ⟨pw, ⟨K.i, 0⟩, a, er, out⟩ ∧
      LineWf R1 ∧ Emitted W cb K.p0 out (shape (K.wrapped X).r0 K.i R1 ⟨K.i, 0⟩ a) ∧ Zed K.src D.prv R1 ∧
      R1.wrapped = Ri0.wrapped := by
  have hl : Ri0.cells.length = K.r0.g.size.cols := by rw [hmid0.mid.len, K.hsrc]
  have hcw : (true && (⟨K.i - 1, K.r0.g.size.cols⟩ : Pos).row + 1 == ({ row := K.i, col := 0 } : Pos).row &&
      decide ((⟨K.i - 1, K.r0.g.size.cols⟩ : Pos).col ≥ K.src.length)) = true := by
    have := X.hi1
    simp [K.hsrc]; omega
  obtain ⟨cellF, h1, hF, hwf1⟩ := space_bs_wrap K X hW pa hem0 hwf0 hl
  obtain ⟨hz, hzw⟩ := zed_of_space (S := K.src) (wideNext_of_src D.hP) hW.space hmid0.mid K.r0.g.size.cols pa cellF hF
  simp only [Row.eraseMove, hcw, ↓reduceIte, Nat.lt_irrefl, gt_iff_lt, Fmt.pen_pair]
  exact ⟨_, _, rfl, hwf1, (K.wrapped X).emitted_pen h1 hwf, hz, hzw⟩

/-- the repair when the first cell is blank: pen, SP (typed from the parked position: the receiver wraps), BS, ECH 1 -/
theorem repair_blank (K : Ctx W cb) (D : DCtx W K.src.length) (F : FlagSpec K.src D.prv) (X : WCtx K) (hW : WOk W) (hS : SrcOk W K.src)
    (hne : 0 < K.src.length) {Ri0 : Row} (hmid0 : MidF F 0 Ri0) (hwf0 : LineWf Ri0) {pen : Attrs}
    (hem0 : Emitted W cb K.p0 [] (shape K.r0 K.i Ri0 ⟨K.i - 1, K.r0.g.size.cols⟩ pen))
    (hv0 : view K.src[0] = view (D.prv[0]'(by rw [D.hprv]; exact hne))) (hh : K.src[0].hasContents = false) :
    ∃ R2, Emitted W cb K.p0
        ((if (pen != K.src[0].attrs) = true then K.src[0].attrs.writeEscapeCodeDiff pen else []) ++
          (([32] ++ Term.backspace) ++ Term.eraseChar 1))
        (shape (K.wrapped X).r0 K.i R2 ⟨K.i, 0⟩ K.src[0].attrs) ∧ MidF F 0 R2 ∧ LineWf R2 := by
  have hl : Ri0.cells.length = K.r0.g.size.cols := by rw [hmid0.mid.len, K.hsrc]
  have hc0 : K.src[0].cont = false := by rw [hS.cont_iff 0 hne]; simp
  obtain ⟨cellF, h3, hF, hwf1⟩ := space_bs_wrap K X hW K.src[0].attrs (K.emitted_pen hem0 (hS.wf 0 hne)) hwf0 hl
  obtain ⟨hz, hzw⟩ := zed_of_space (S := K.src) (wideNext_of_src D.hP) hW.space hmid0.mid K.r0.g.size.cols K.src[0].attrs cellF hF
  obtain ⟨hech', hwf2⟩ := emitted_ech (K.wrapped X) h3 hwf1 hz.len 1 Nat.one_ne_zero (by show 0 + 1 ≤ K.src.length; omega)
  have hech : Emitted W cb K.p0 _ (shape (K.wrapped X).r0 K.i _ ⟨K.i, 0⟩ _) := hech'
  have hrun : ∀ k (hk : k < K.src.length), k < 1 → view K.src[k] = blankA K.src[0].attrs := by
    intro k hk hk1
    obtain rfl : k = 0 := by omega
    exact blank_blankA hS 0 hne hh hc0
  have hmid1 := hz.erase hS (Nat.le_refl 1) hne K.src[0].attrs hrun
    (typedRow W Ri0 0 K.r0.g.size.cols K.src[0].attrs 32 cellF).wrapped
  have hshow := shows_of_mid hmid1 (fun k hk hk1 => by obtain rfl : k = 0 := (by omega); exact hv0) (fun hk => by
    rw [D.hP.cont_iff 1 (by rw [D.hprv]; exact hk), if_neg Nat.one_ne_zero]
    show (D.prv[0]'(by rw [D.hprv]; exact hne)).wide = false
    rw [← view_wide hv0]
    exact blank_narrow (hS.cells_ok _ (List.getElem_mem hne)) hh)
  exact ⟨_, by simpa [List.append_assoc] using hech, ⟨mid_zero D.hprv hshow,
    hz.erase_holds F hmid0.flag hzw (Nat.le_refl 1) hne K.src[0].attrs hrun⟩, hwf2⟩

end Vt.C02
