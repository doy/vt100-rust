/-
  Vt.Props.DiffGrid — C02 for screens without soft-wrapped lines: the special case of `DiffWrap` / `DiffGrid2` in which
  every line is plain.  `state_diff_unwrapped` asks nothing else of the lines of P and S — text, wide characters,
  combining characters, attributes, blanks — and its conclusion re-establishes its hypotheses, so diffs chain.

  All listed C02 findings (F8a, F8b, F9, F12) need a wrapped line or a scrolled view.
-/
import Vt.Props.DiffGrid2
namespace Vt.C02
open Vt Vt.Recv Vt.C19 Vt.C09 Vt.RowDraw Vt.GridDraw Vt.Tok Vt.C03 Vt.C01 Vt.Bytes Vt.DiffRow

variable {W : Nat → Option Nat} {cb : CbPolicy}

structure RowsInvD (srows prows : List Row) (cols i : Nat) (pp : Pos) (R : RS) : Prop where
  canvas : Canvas R.g
  hcols : R.g.size.cols = cols
  nrows : R.g.size.rows = srows.length
  plen : prows.length = srows.length
  pos : R.g.pos = pp
  row : ∀ k (hk : k < srows.length), ∃ Rk, R.g.rows[k]? = some Rk ∧ Rk.wrapped = false ∧
    (k < i → Rk.cells.map view = srows[k].cells.map view) ∧
    (i ≤ k → Rk.cells.map view = (prows[k]'(by rw [plen]; exact hk)).cells.map view)

theorem rowsInvW_of_D {srows prows : List Row} (hsu : ∀ r ∈ srows, r.wrapped = false) (hpu : ∀ r ∈ prows, r.wrapped = false)
    {cols i : Nat} {pp : Pos} {R : RS} (h : RowsInvD srows prows cols i pp R) : RowsInvW srows prows cols i pp R := by
  refine ⟨h.canvas, h.hcols, h.nrows, h.plen, h.pos, fun k hk => ?_, fun _ _ hs => ?_⟩
  · obtain ⟨Rk, hRk, hu, hlo, hhi⟩ := h.row k hk
    refine ⟨Rk, hRk, fun hki => ⟨hlo hki, ?_⟩, fun hik => ⟨hhi hik, by rw [hu, hpu _ (List.getElem_mem _)]⟩⟩
    rw [hu, hsu _ (List.getElem_mem hk)]
    split <;> simp
  · rw [hsu _ (List.getElem_mem _)] at hs
    exact absurd hs (by simp)

theorem rowsInvD_of_W {srows prows : List Row} (hsu : ∀ r ∈ srows, r.wrapped = false) (hpu : ∀ r ∈ prows, r.wrapped = false)
    {cols i : Nat} {pp : Pos} {R : RS} (h : RowsInvW srows prows cols i pp R) : RowsInvD srows prows cols i pp R := by
  refine ⟨h.canvas, h.hcols, h.nrows, h.plen, h.pos, fun k hk => ?_⟩
  obtain ⟨Rk, hRk, hlo, hhi⟩ := h.row k hk
  refine ⟨Rk, hRk, ?_, fun hki => (hlo hki).1, fun hik => (hhi hik).1⟩
  by_cases hki : k < i
  · rw [(hlo hki).2, hsu _ (List.getElem_mem hk)]
    split <;> simp
  · rw [(hhi (by omega)).2, hpu _ (List.getElem_mem _)]

/-- `prev_wrapping` matters only to a line that is wrapped onto -/
theorem diffRowsLoop_false_pw (cols : Nat) (rs : List (Row × Row)) (i : Nat) (pw pw' : Bool) (pp : Pos) (pa : Attrs)
    (out : List Nat) :
    Grid.diffRowsLoop cols rs i false pw pp pa out = Grid.diffRowsLoop cols rs i false pw' pp pa out := by
  cases rs with
  | nil => rfl
  | cons x rs =>
    obtain ⟨r, pr⟩ := x
    rw [Grid.diffRowsLoop, Grid.diffRowsLoop, writeContentsDiff_false_pw r pr 0 cols i pw pw']

/-- **the loop over the lines** when no line is wrapped: `diff_rows_loop_w`, where then `wrapping` is `false` throughout
and no side condition is asked -/
theorem diff_rows_loop (hW : WOk W) (hcb : C13.CbInv W cb) (p0 : Parser) (h0 : Ready p0) (hpi : C13.ParserInv W p0)
    {srows prows : List Row} {cols : Nat} (hS : SrcRows W cols srows) (hP : SrcRows W cols prows)
    (hsu : ∀ r ∈ srows, r.wrapped = false) (hpu : ∀ r ∈ prows, r.wrapped = false) (hpl : prows.length = srows.length) :
    ∀ (rs : List (Row × Row)) (i : Nat) (pw : Bool) (pp : Pos) (out : List Nat) (R : RS),
    (srows.zip prows).drop i = rs → i ≤ srows.length →
    RowsInvD srows prows cols i pp R → Emitted W cb p0 out R → Bytes out → pp.col ≤ cols →
    ∃ out' pp' pa' R', Grid.diffRowsLoop cols rs i false pw pp R.pen out = .ok (out', pp', pa') ∧
      Emitted W cb p0 out' R' ∧ R'.pen = pa' ∧ RowsInvD srows prows cols srows.length pp' R' ∧ Bytes out' ∧
      pp'.col ≤ cols ∧ R'.g.scrollbackOffset = R.g.scrollbackOffset ∧ (Attrs.wf R.pen → Attrs.wf pa') := by
  intro rs i pw pp out R hrs hil hinv hem hb hpp
  -- the parser invariant, once: every line of the receiver is well formed
  have hg := (emitted_inv hW.space hcb hpi hb hem).1
  obtain ⟨out', pp', pa', R', e, hem', hpen', hinv', _, rest⟩ := diff_rows_loop_w hW p0 h0 hS hP hpl rs i pp out R hrs hil
    (rowsInvW_of_D hsu hpu hinv) hem
    (fun _ Rk h => lineWf_of_inv ((rowOk_iff W Rk).mp (hg.row_ok Rk (List.mem_of_getElem? h)).2).2) hpp
    (fun k pos _ r p hr _ =>
      ⟨fun h => absurd h (by rw [hsu r (List.mem_of_getElem? hr)]; simp),
        fun h => absurd h (by rw [wrapAbove_of_unwrapped hsu]; simp)⟩)
  rw [wrapAbove_of_unwrapped hsu, wrapAbove_of_unwrapped hpu] at e
  exact ⟨out', pp', pa', R', (diffRowsLoop_false_pw cols rs i pw false pp R.pen out).trans e, hem', hpen',
    rowsInvD_of_W hsu hpu hinv', C12.MPred.iff.mp (diffRowsLoop_bytes cols rs i false false pp R.pen out hb) _ e, rest⟩

/-- **C02 for screens without soft-wrapped lines**: `P` and `S` satisfy the invariants (`SrcScreen`: every reachable
screen that is not scrolled back), have the same size, and none of their lines is soft-wrapped.  A receiver `q`
satisfying the parser invariant that reproduces `P`, fed the bytes of `S.state_diff(P)`, reproduces `S`, still
satisfies the parser invariant, and reports no event — so the step chains along any sequence of such snapshots -/
theorem state_diff_unwrapped (hW : WOk W) (hcb : C13.CbInv W cb) {q : Parser} (P S : Screen) (hq : Reproduces q P)
    (hqi : C13.ParserInv W q) (hsz : S.cur.size = P.cur.size) (hS : SrcScreen W S) (hP : SrcScreen W P)
    (hsu : ∀ r ∈ S.cur.rows, r.wrapped = false) (hpu : ∀ r ∈ P.cur.rows, r.wrapped = false) :
    ∃ bytes q', S.stateDiff P = .ok bytes ∧ q.process W cb bytes = .ok q' ∧ Reproduces q' S ∧ C13.ParserInv W q' ∧
      q'.ws.events = q.ws.events :=
  state_diff_mixed hW hcb P S hq hqi hsz hS hP (fun i _ => lineOk_of_unwrapped hsu hpu i)

structure Snap (W : Nat → Option Nat) (size : Size) (S : Screen) : Prop where
  inv : emitInvB W S = true
  off : S.cur.scrollbackOffset = 0
  size : S.cur.size = size
  unwrapped : ∀ r ∈ S.cur.rows, r.wrapped = false

theorem links_of_snaps {size : Size} : ∀ (P : Screen) (Ss : List Screen), Snap W size P → (∀ S ∈ Ss, Snap W size S) →
    Links W P Ss
  | _, [], _, _ => trivial
  | P, S :: rest, hP, hall =>
    have hS := hall S (List.mem_cons_self ..)
    ⟨⟨hP.inv, hS.inv, hP.off, hS.off, by rw [hS.size, hP.size], fun i _ => lineOk_of_unwrapped hS.unwrapped hP.unwrapped i⟩,
      links_of_snaps S rest hS (fun T hT => hall T (List.mem_cons_of_mem _ hT))⟩

/-- **C02 along chains**: a single receiver fed `diff(S1,S0)`, `diff(S2,S1)`, … stays a reproduction of the latest
snapshot -/
theorem chain_unwrapped (hW : WOk W) (hcb : C13.CbInv W cb) (size : Size) :
    ∀ (Ss : List Screen) (q : Parser) (P : Screen), Reproduces q P → C13.ParserInv W q → Snap W size P →
      (∀ S ∈ Ss, Snap W size S) →
      ∃ q', feedDiffs W cb q P Ss = .ok q' ∧ Reproduces q' ((P :: Ss).getLast (by simp)) ∧ C13.ParserInv W q' ∧
        q'.ws.events = q.ws.events :=
  fun Ss q P hq hqi hP hall => chain_mixed hW hcb Ss q P hq hqi (links_of_snaps P Ss hP hall)

/-- **C02, as the property states it, for screens without soft-wrapped lines**: a new parser fed
`S0.state_formatted()` and then the diffs of any chain of snapshots ends in the observable state of the last one, and
reports no event -/
theorem diff_chain_after_redraw (hW : WOk W) (hcb : C13.CbInv W cb) (S0 : Screen) (Ss : List Screen)
    (h0 : Snap W S0.cur.size S0) (hall : ∀ S ∈ Ss, Snap W S0.cur.size S) (sb : Nat) :
    ∃ q b0 q0 qn, Parser.new S0.cur.size.rows S0.cur.size.cols sb = .ok q ∧ S0.stateFormatted = .ok b0 ∧
      q.process W cb b0 = .ok q0 ∧ feedDiffs W cb q0 S0 Ss = .ok qn ∧
      obs qn.screen = obs ((S0 :: Ss).getLast (by simp)) ∧ qn.ws.events = [] := by
  have hlast : Snap W S0.cur.size ((S0 :: Ss).getLast (by simp)) := by
    rcases List.mem_cons.mp (List.getLast_mem (l := S0 :: Ss) (by simp)) with h | h
    · rw [h]; exact h0
    · exact hall _ h
  exact diff_chain_after_redraw_wrapped hW hcb S0 Ss h0.inv h0.off (linksW_of_links S0 Ss (links_of_snaps S0 Ss h0 hall))
    ⟨hlast.inv, hlast.off⟩ sb

/-- the hypotheses are satisfiable by screens that differ in their cells: text, a wide character, colours, an erased
cell; no line wrapped (kernel-evaluated; a test) -/
theorem snap_nonvacuous :
    isOkTrue (do
      let p ← C02.run 3 6 0 [[97, 98, 0xe4, 0xb8, 0x80, 99]]
      let s ← C02.run 3 6 0 [[97, 98, 0xe4, 0xb8, 0x80, 99, 0x1b, 0x5b, 0x31, 0x3b, 0x32, 0x48, 0x1b, 0x5b, 0x33, 0x31, 0x6d, 120, 121,
        0x1b, 0x5b, 0x32, 0x3b, 0x31, 0x48, 122, 0x1b, 0x5b, 0x31, 0x3b, 0x36, 0x48, 0x1b, 0x5b, 0x58]]
      pure (emitInvB W0 p.screen && emitInvB W0 s.screen && p.screen.cur.scrollbackOffset == 0 &&
            s.screen.cur.scrollbackOffset == 0 && s.screen.cur.size == p.screen.cur.size &&
            p.screen.cur.rows.all (fun r => !r.wrapped) && s.screen.cur.rows.all (fun r => !r.wrapped) &&
            s.screen.cur.rows != p.screen.cur.rows)) = true := by
  decide +kernel

end Vt.C02
