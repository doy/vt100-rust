/-
  C04 (continued) — chunk independence of `vte::Parser::advance` for every split that leaves no
  partial UTF-8 sequence pending (the carry buffer is empty before and after the first piece): for every automaton
  state and every byte string (valid, invalid or truncated UTF-8 elsewhere, escape sequences and OSC / DCS strings
  cut anywhere).
  The excluded case — a cut inside a multi-byte character in Ground — is where vte 0.14.1's
  `advance_partial_utf8` can lose characters (known finding F10, `F10_witness`; C04cut says on which of these cuts).
-/
import Vt.Props.C04
import Vt.Lemmas.Tokens
namespace Vt.C04

@[simp] theorem carry_resetParams (v : Vte) : v.resetParams.carry = v.carry := rfl
@[simp] theorem carry_escDispatch (v : Vte) (b : Nat) : (v.escDispatch b).1.carry = v.carry := rfl

/-- every Ground iteration consumes at least one byte -/
theorem ground_n_pos (v : Vte) (bytes : List Nat) (hne : bytes ≠ []) : 1 ≤ (v.advanceGround bytes).2.2 :=
  (v.advanceGround_consumed hne).1

theorem advanceLoop_fuel : ∀ (fuel fuel' : Nat) (v : Vte) (bytes : List Nat),
    bytes.length < fuel → bytes.length < fuel' →
    Vte.advanceLoop fuel v bytes = Vte.advanceLoop fuel' v bytes :=
  Vte.advanceLoop_fuel

/-- **C04** `vte::Parser::advance(a ++ b)` = `advance(a)` then `advance(b)`, whenever no partial UTF-8
sequence is pending before `a` or after `a` -/
theorem advance_append (v : Vte) (a b : List Nat) (hc : v.carry = []) (hfin : (v.advance a).1.carry = []) :
    v.advance (a ++ b) = (((v.advance a).1.advance b).1, (v.advance a).2 ++ ((v.advance a).1.advance b).2) := by
  rw [Vte.advance_eq_run hc] at hfin ⊢
  rw [Vte.advance_eq_run hc, Vte.advance_eq_run hfin, (Vte.run_pending hc a).append b, Vte.feed_of_carry hfin]

/-- **C04** (screen and events): `process(a ++ b)` = `process(a)` then `process(b)` — the same screen, the
same callback events in the same order, the same automaton state, failing identically if anything
fails — for every cut that leaves no partial UTF-8 sequence pending -/
theorem process_append (W : Nat → Option Nat) (cb : CbPolicy) (p : Parser) (a b : List Nat)
    (hc : p.vte.carry = []) (hfin : (p.vte.advance a).1.carry = []) :
    p.process W cb (a ++ b) = (p.process W cb a >>= fun p' => p'.process W cb b) := by
  simp only [Parser.process, advance_append p.vte a b hc hfin, List.foldlM_append]
  cases (p.vte.advance a).2.foldlM (perform W cb) p.ws with
  | error e => rfl
  | ok ws => rfl

/-- **C04** `process_append` for any number of chunks -/
theorem process_chunks (W : Nat → Option Nat) (cb : CbPolicy) : ∀ (chunks : List (List Nat)) (p : Parser),
    p.vte.carry = [] →
    (∀ k, k < chunks.length → (p.vte.advance (chunks.take (k + 1)).flatten).1.carry = []) →
    chunks.foldlM (fun p c => p.process W cb c) p = p.process W cb chunks.flatten
  | [], p, hc, _ => by
    simp only [List.foldlM_nil, List.flatten_nil]
    exact (process_nil W cb p hc).symm
  | c :: cs, p, hc, h => by
    have h0 : (p.vte.advance c).1.carry = [] := by simpa using h 0 (by simp)
    simp only [List.foldlM_cons, List.flatten_cons]
    rw [process_append W cb p c cs.flatten hc h0]
    cases hp : p.process W cb c with
    | error e => rfl
    | ok p' =>
      simp only [ok_bind]
      have hv := process_vte W cb p p' c hp
      apply process_chunks W cb cs p' (by rw [hv]; exact h0)
      intro k hk
      have := h (k + 1) (by simp only [List.length_cons]; omega)
      simp only [List.take_succ_cons, List.flatten_cons] at this
      rw [advance_append p.vte c _ hc h0] at this
      rw [hv]
      exact this

/-- the hypotheses of `process_append` are met by a cut in the middle of a CSI sequence and after a
complete multi-byte character (kernel-evaluated; a test of the model) -/
theorem process_append_nonvacuous :
    (Vte.new.carry = [] ∧ (Vte.new.advance [0x61, 0xC3, 0xA9, 0x1b, 0x5b, 0x33]).1.carry = []) ∧
    (Vte.new.advance [0x61, 0xC3]).1.carry ≠ [] := by
  decide +kernel

end Vt.C04

namespace Vt.C09

/-- the form the byte-level round trips use: chunks that each leave the parser ready -/
theorem process_then (W : Nat → Option Nat) (cb : CbPolicy) {q q1 q2 : Parser} (hq : Ready q) {X Y : List Nat}
    (e1 : q.process W cb X = .ok q1) (r1 : Ready q1) (e2 : q1.process W cb Y = .ok q2) :
    q.process W cb (X ++ Y) = .ok q2 := by
  rw [C04.process_append W cb q X Y hq.2 (C04.process_vte W cb q q1 X e1 ▸ r1.2), e1]
  exact e2

end Vt.C09
