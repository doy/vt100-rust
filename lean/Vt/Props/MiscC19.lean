import Vt.Props.C19b
import Vt.Props.C12
import Vt.Props.C02
/-
  C19: `rows_diff` of a screen against itself, or against one that looks the same (`ScreenSame`), is one EMPTY byte
  string per row, for every window and at every scrollback offset (`offset ≤ scrollback.length` is part of `Inv`);
  the `_inv` forms state the number of rows as `s.cur.size.rows`.  Companion of `contents_diff_self`, `state_diff_self`
  and the `_look_alike` theorems of Vt/Props/C19b.lean.
-/
namespace Vt.MiscC19
open Vt Vt.C19

theorem rowsDiffLoop_self (start width : Nat) : ∀ (rs : List Row) (i : Nat),
    Screen.rowsDiffLoop start width (rs.zip rs) i = .ok (List.replicate rs.length [])
  | [], _ => rfl
  | r :: rs, i => by
    simp only [List.zip_cons_cons, Screen.rowsDiffLoop, row_diff_self, ok_bind,
      rowsDiffLoop_self start width rs (i + 1), List.length_cons, List.replicate_succ]
    rfl

/-- **C19** `rows_diff` of a screen against itself: one EMPTY byte string per visible row, for every
column window `(start, width)` and every scrollback offset -/
theorem rows_diff_self (s : Screen) (h : s.cur.scrollbackOffset ≤ s.cur.scrollback.length)
    (start width : Nat) :
    s.rowsDiff s start width = .ok (List.replicate s.cur.rows.length []) := by
  obtain ⟨v, e, hl⟩ := C12.visibleRows_length s.cur h
  simp only [Screen.rowsDiff, e, ok_bind, rowsDiffLoop_self, hl]

/-- **C19** equal-looking screens: `s.rows_diff(t, start, width)` is empty on every line -/
theorem rows_diff_look_alike {s t : Screen} (hst : ScreenSame s t)
    (hs : s.cur.scrollbackOffset ≤ s.cur.scrollback.length) (start width : Nat) :
    s.rowsDiff t start width = .ok (List.replicate s.cur.rows.length []) := by
  rw [← rows_diff_self s hs start width]
  exact (rows_diff_same (screenSame_refl s hs) hst start width).symm

/-- ... and the other way round (`ScreenSame` is used from left to right only) -/
theorem rows_diff_look_alike' {s t : Screen} (hst : ScreenSame s t)
    (ht : t.cur.scrollbackOffset ≤ t.cur.scrollback.length) (start width : Nat) :
    t.rowsDiff s start width = .ok (List.replicate t.cur.rows.length []) := by
  rw [← rows_diff_self t ht start width]
  exact rows_diff_same (screenSame_refl t ht) hst start width

theorem rows_diff_self_inv {W : Nat → Option Nat} (s : Screen) (hi : Inv W s) (start width : Nat) :
    s.rowsDiff s start width = .ok (List.replicate s.cur.size.rows []) := by
  obtain ⟨hg, hl⟩ := ((inv_iff W s).mp hi).cur
  rw [rows_diff_self s hg.sb_off, hl]

theorem rows_diff_look_alike_inv {W : Nat → Option Nat} {s t : Screen} (hi : Inv W s)
    (hst : ScreenSame s t) (start width : Nat) :
    s.rowsDiff t start width = .ok (List.replicate s.cur.size.rows []) := by
  obtain ⟨hg, hl⟩ := ((inv_iff W s).mp hi).cur
  rw [rows_diff_look_alike hst hg.sb_off, hl]

/-- every element is empty (the form a caller iterating over the rows uses) -/
theorem rows_diff_self_get {W : Nat → Option Nat} (s : Screen) (hi : Inv W s) (start width : Nat) :
    ∃ res, s.rowsDiff s start width = .ok res ∧ res.length = s.cur.size.rows ∧ ∀ bs ∈ res, bs = [] := by
  refine ⟨_, rows_diff_self_inv s hi start width, by simp, ?_⟩
  intro bs hbs
  exact (List.mem_replicate.mp hbs).2

/-- test: `t` = "ab" typed; `s` = "xy" typed, cursor home, "ab" typed over it, and a scroll region set and
the cursor put back (`ESC[1;2r` `ESC[1;3H`): `s ≠ t` as records (stale bytes are equal here, but the margins
differ), `s.rows_diff(t, 0, 4)` and `s.rows_diff(t, 1, 2)` are `[[], [], []]`.  Kernel-evaluated. -/
theorem rows_diff_look_alike_example :
    isOkTrue (do
      let t ← C02.run 3 4 0 [[97, 98]]
      let s ← C02.run 3 4 0 [[120, 121, 0x1b, 0x5b, 72, 97, 98, 0x1b, 0x5b, 49, 59, 50, 114, 0x1b, 0x5b, 49, 59, 51, 72]]
      let d ← s.screen.rowsDiff t.screen 0 4
      let d' ← s.screen.rowsDiff t.screen 1 2
      pure (decide (s.screen ≠ t.screen) && decide (d = [[], [], []]) && decide (d' = [[], [], []]))) = true := by
  decide +kernel

end Vt.MiscC19
