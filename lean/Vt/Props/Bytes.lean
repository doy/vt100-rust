/-
  Vt.Props.Bytes — every byte string the model's emitters return consists of numbers < 256.

  `Bytes l := ∀ b ∈ l, b < 256` (Lemmas/BytesTerm, with the pieces: escape sequences, `itoa`, cell contents).
  Partial-correctness style: if an emitter returns `.ok bs` then `Bytes bs`.  All results are unconditional, because
  the only data-dependent bytes are `Cell.contentsBytes`, which has passed the `from_utf8` check.
-/
import Vt.Props.C03b
namespace Vt.Bytes
open Vt

/-! `MPred P x` (Lemmas/MRel) says that `P` holds of what `x` returns, if it returns, and is closed under `>>=`, `pure`, `if`
and `foldlM`: each emitter's lemma follows the emitter's text.  The cell loop itself is `Fmt.All` with nothing asked but
`Bytes` of the output (Lemmas/FmtStep). -/

open Vt.C03 Vt.Fmt
open Vt.C12 (MPred)

theorem row_formatted_bytes (r : Row) (start width row : Nat) (w : Bool) (pp : Option Pos) (pa : Option Attrs) :
    MPred (fun res => Bytes res.1) (r.writeContentsFormatted start width row w pp pa) :=
  (wcf_all (kept_bytes row) Bytes.nil trivial trivial (fun _ _ => ⟨trivial, trivial, trivial⟩) start width w
    (fun _ _ => trivial) trivial).mono fun _ h => h.1

theorem row_diff_bytes (r prev : Row) (start width row : Nat) (w pw : Bool) (pp : Pos) (pa : Attrs) :
    MPred (fun res => Bytes res.1) (r.writeContentsDiff prev start width row w pw pp pa) :=
  (wcd_all (kept_bytes row) Bytes.nil trivial (fun _ _ => ⟨trivial, trivial, trivial⟩) prev start width w pw
    trivial trivial).mono fun _ h => h.1

theorem moveOpt_bytes (pp : Option Pos) (p : Pos) : Bytes (Grid.moveOpt pp p) := by
  unfold Grid.moveOpt
  split
  · exact moveFromTo_bytes _ _
  · exact moveTo_bytes _

theorem cursorSearch_bytes (g : Grid) (pp : Option Pos) (pa : Attrs) :
    ∀ is : List Nat, MPred (fun o => ∀ out, o = some out → Bytes out) (g.cursorSearch pp pa is)
  | [] => .pure fun _ h => nomatch h
  | i :: is => by
    have hrd : ∀ cell : Cell, MPred Bytes (do
        let bs ← cell.contentsBytes
        pure (cell.attrs.writeEscapeCodeDiff pa ++ bs ++ pa.writeEscapeCodeDiff cell.attrs) : M (List Nat)) := fun cell =>
      .bind (contentsBytes_ret cell) fun _ hbs => .pure (Bytes.append (Bytes.append (writeEscapeCodeDiff_bytes _ _) hbs)
        (writeEscapeCodeDiff_bytes _ _))
    have hjp : ∀ out : List Nat, Bytes out → MPred (fun o => ∀ out, o = some out → Bytes out)
        (pure (some (out ++ List.replicate (g.pos.row - i) 10)) : M (Option (List Nat))) :=
      fun out ho => .pure fun _ e => Option.some.inj e ▸ Bytes.append ho (bytes_replicate (by omega))
    rw [Grid.cursorSearch]
    refine .bind_any _ fun pos => .bind_any _ fun cell => .ite (fun _ => ?_) fun _ => cursorSearch_bytes g pp pa is
    cases pp with
    | some q =>
      exact .ite (fun _ => .bind (hrd cell) fun _ h => .bind (Q := Bytes) (.pure (Bytes.append (moveFromTo_bytes _ _) h)) hjp)
        fun _ => .bind (Q := Bytes) (.pure Bytes.nil) hjp
    | none => exact .bind (hrd cell) fun _ h => .bind (Q := Bytes) (.pure (Bytes.append (moveTo_bytes _) h)) hjp

theorem cursor_ret (g : Grid) (pp : Option Pos) (pa : Option Attrs) : MPred Bytes (g.writeCursorPositionFormatted pp pa) := by
  unfold Grid.writeCursorPositionFormatted
  refine .ite (fun _ => .bind_any _ fun _ => .bind_any _ fun cell => .ite
    (fun _ => .bind (contentsBytes_ret cell) fun _ hb => .pure (Bytes.append (Bytes.append (Bytes.append (moveOpt_bytes _ _)
      (writeEscapeCodeDiff_bytes _ _)) hb) (writeEscapeCodeDiff_bytes _ _)))
    fun _ => .bind (cursorSearch_bytes g pp _ _) fun found hf => ?_) fun _ => .pure (moveOpt_bytes _ _)
  cases found with
  | some out => exact .pure (hf out rfl)
  | none =>
    refine .bind_any _ fun _ => .bind_any _ fun _ => .pure ?_
    simp only [bytes_append, bytes_cons, bytes_nil, moveOpt_bytes, writeEscapeCodeDiff_bytes,
      saveCursor_bytes, backspace_bytes, eraseChar_bytes, restoreCursor_bytes, and_true, true_and]
    omega

theorem fmtRowsLoop_bytes (cols : Nat) : ∀ (rs : List Row) (i : Nat) (w : Bool) (pp : Pos) (pa : Attrs)
    (out : List Nat), Bytes out → MPred (fun res => Bytes res.1) (Grid.fmtRowsLoop cols rs i w pp pa out)
  | [], _, _, _, _, _, h => .pure h
  | r :: rs, i, w, pp, pa, _, h => by
    rw [Grid.fmtRowsLoop]
    exact .bind (row_formatted_bytes r 0 cols i w (some pp) (some pa)) fun res hr =>
      fmtRowsLoop_bytes cols rs (i + 1) r.wrapped res.2.1 res.2.2 _ (Bytes.append h hr)

theorem diffRowsLoop_bytes (cols : Nat) : ∀ (rs : List (Row × Row)) (i : Nat) (w pw : Bool) (pp : Pos) (pa : Attrs)
    (out : List Nat), Bytes out → MPred (fun res => Bytes res.1) (Grid.diffRowsLoop cols rs i w pw pp pa out)
  | [], _, _, _, _, _, _, h => .pure h
  | (r, pr) :: rs, i, w, pw, pp, pa, _, h => by
    rw [Grid.diffRowsLoop]
    exact .bind (row_diff_bytes r pr 0 cols i w pw pp pa) fun res hr =>
      diffRowsLoop_bytes cols rs (i + 1) r.wrapped pr.wrapped res.2.1 res.2.2 _ (Bytes.append h hr)

theorem grid_formatted_bytes (g : Grid) : MPred (fun res => Bytes res.1) g.writeContentsFormatted := by
  unfold Grid.writeContentsFormatted
  exact .bind_any _ fun _ => .bind (fmtRowsLoop_bytes _ _ 0 false ⟨0, 0⟩ Attrs.default _ (Bytes.append clearAttrs_bytes clearScreen_bytes))
    fun _ hl => .bind (cursor_ret g _ _) fun _ hc => .pure (Bytes.append hl hc)

theorem grid_diff_bytes (g prev : Grid) (pa : Attrs) : MPred (fun res => Bytes res.1) (g.writeContentsDiff prev pa) := by
  unfold Grid.writeContentsDiff
  exact .bind_any _ fun _ => .bind_any _ fun _ => .bind (diffRowsLoop_bytes _ _ 0 false false prev.pos pa [] Bytes.nil)
    fun _ hl => .bind (cursor_ret g _ _) fun _ hc => .pure (Bytes.append hl hc)

theorem writeContentsFormatted_bytes (s : Screen) : MPred Bytes s.writeContentsFormatted :=
  .bind (grid_formatted_bytes _) fun _ hg =>
    .pure (Bytes.append (Bytes.append (hideCursor_bytes _) hg) (writeEscapeCodeDiff_bytes _ _))

theorem contentsFormatted_bytes' (s : Screen) {bs : List Nat} (e : s.contentsFormatted = .ok bs) : Bytes bs :=
  MPred.iff.mp (writeContentsFormatted_bytes s) bs e

theorem inputModeFormatted_bytes (s : Screen) : Bytes s.inputModeFormatted :=
  Bytes.append (Bytes.append (Bytes.append (Bytes.append (applicationKeypad_bytes _) (applicationCursor_bytes _))
    (bracketedPaste_bytes _)) (mouseProtocolMode_bytes _ _)) (mouseProtocolEncoding_bytes _ _)

theorem stateFormatted_bytes' (s : Screen) {bs : List Nat} (e : s.stateFormatted = .ok bs) : Bytes bs :=
  MPred.iff.mp (MPred.bind (writeContentsFormatted_bytes s) fun _ hc => .pure (Bytes.append hc (inputModeFormatted_bytes s))) bs e

theorem writeContentsDiff_bytes (s p : Screen) : MPred Bytes (s.writeContentsDiff p) :=
  .bind (grid_diff_bytes _ _ _) fun _ hg =>
    .pure (Bytes.append (Bytes.append (ite_bytes (hideCursor_bytes _) Bytes.nil) hg) (writeEscapeCodeDiff_bytes _ _))

theorem inputModeDiff_bytes (s p : Screen) : Bytes (s.inputModeDiff p) :=
  Bytes.append (Bytes.append (Bytes.append (Bytes.append
    (ite_bytes (applicationKeypad_bytes _) Bytes.nil) (ite_bytes (applicationCursor_bytes _) Bytes.nil))
    (ite_bytes (bracketedPaste_bytes _) Bytes.nil)) (mouseProtocolMode_bytes _ _))
    (mouseProtocolEncoding_bytes _ _)

theorem stateDiff_bytes' (s p : Screen) {bs : List Nat} (e : s.stateDiff p = .ok bs) : Bytes bs :=
  MPred.iff.mp (MPred.bind (writeContentsDiff_bytes s p) fun _ hc => .pure (Bytes.append hc (inputModeDiff_bytes s p))) bs e

theorem attributesFormatted_bytes (s : Screen) : Bytes s.attributesFormatted :=
  Bytes.append clearAttrs_bytes (writeEscapeCodeDiff_bytes _ _)

theorem cursorStateFormatted_ret (s : Screen) : MPred Bytes s.cursorStateFormatted :=
  .bind (cursor_ret _ _ _) fun _ hc => .pure (Bytes.append (hideCursor_bytes _) hc)

theorem rowsFormattedLoop_bytes (fw : Bool) (start width : Nat) : ∀ (rs : List Row) (i : Nat) (w : Bool),
    MPred (fun res => ∀ bs ∈ res, Bytes bs) (Screen.rowsFormattedLoop fw start width rs i w)
  | [], _, _ => .pure fun _ h => nomatch h
  | r :: rs, i, w => .bind (row_formatted_bytes r start width i w none none) fun _ hr =>
      .bind (rowsFormattedLoop_bytes fw start width rs _ _) fun _ hrest => .pure fun bs hbs =>
        (List.mem_cons.mp hbs).elim (fun h => h ▸ hr) (hrest bs)

theorem rowsFormatted_ret (s : Screen) (start width : Nat) :
    MPred (fun res => ∀ bs ∈ res, Bytes bs) (s.rowsFormatted start width) :=
  .bind_any _ fun _ => rowsFormattedLoop_bytes _ start width _ 0 false

theorem rowsDiffLoop_bytes (start width : Nat) : ∀ (rs : List (Row × Row)) (i : Nat),
    MPred (fun res => ∀ bs ∈ res, Bytes bs) (Screen.rowsDiffLoop start width rs i)
  | [], _ => .pure fun _ h => nomatch h
  | (r, pr) :: rs, i => .bind (row_diff_bytes r pr start width i false false ⟨i, start⟩ Attrs.default) fun _ hr =>
      .bind (rowsDiffLoop_bytes start width rs _) fun _ hrest => .pure fun bs hbs =>
        (List.mem_cons.mp hbs).elim (fun h => h ▸ hr) (hrest bs)

theorem rowsDiff_ret (s p : Screen) (start width : Nat) :
    MPred (fun res => ∀ bs ∈ res, Bytes bs) (s.rowsDiff p start width) :=
  .bind_any _ fun _ => .bind_any _ fun _ => rowsDiffLoop_bytes start width _ 0

/-! ### under `cellOk` / `GridInv` / `Inv`: the same statements; the hypotheses are not used -/

variable {W : Nat → Option Nat}

theorem row_formatted_bytes_ok {r : Row} (_hr : ∀ c ∈ r.cells, cellOk W c = true) (start width row : Nat)
    (w : Bool) (pp : Option Pos) (pa : Option Attrs) {bs : List Nat} {np : Pos} {na : Attrs}
    (e : r.writeContentsFormatted start width row w pp pa = .ok (bs, np, na)) : Bytes bs :=
  MPred.iff.mp (row_formatted_bytes r start width row w pp pa) _ e

theorem row_diff_bytes_ok {r prev : Row} (_hr : ∀ c ∈ r.cells, cellOk W c = true)
    (_hp : ∀ c ∈ prev.cells, cellOk W c = true) (start width row : Nat) (w pw : Bool) (pp : Pos) (pa : Attrs)
    {bs : List Nat} {np : Pos} {na : Attrs}
    (e : r.writeContentsDiff prev start width row w pw pp pa = .ok (bs, np, na)) : Bytes bs :=
  MPred.iff.mp (row_diff_bytes r prev start width row w pw pp pa) _ e

theorem grid_cursor_bytes_inv {g : Grid} (_h : GridInv W g true) (pp : Option Pos) (pa : Option Attrs)
    {bs : List Nat} (e : g.writeCursorPositionFormatted pp pa = .ok bs) : Bytes bs :=
  MPred.iff.mp (cursor_ret g pp pa) bs e

theorem grid_formatted_bytes_inv {g : Grid} (_h : GridInv W g true) {bs : List Nat} {pa : Attrs}
    (e : g.writeContentsFormatted = .ok (bs, pa)) : Bytes bs :=
  MPred.iff.mp (grid_formatted_bytes g) _ e

theorem grid_diff_bytes_inv {g prev : Grid} (_h : GridInv W g true) (_hp : GridInv W prev true) (a : Attrs)
    {bs : List Nat} {pa : Attrs} (e : g.writeContentsDiff prev a = .ok (bs, pa)) : Bytes bs :=
  MPred.iff.mp (grid_diff_bytes g prev a) _ e

/-- `state_formatted()` returns bytes -/
theorem stateFormatted_bytes {S : Screen} {bs : List Nat} (_h : Inv W S) (e : S.stateFormatted = .ok bs) :
    Bytes bs := stateFormatted_bytes' S e

/-- `state_diff(prev)` returns bytes -/
theorem stateDiff_bytes {S P : Screen} {bs : List Nat} (_h : Inv W S) (_hp : Inv W P)
    (e : S.stateDiff P = .ok bs) : Bytes bs := stateDiff_bytes' S P e

theorem contentsFormatted_bytes {S : Screen} {bs : List Nat} (_h : Inv W S) (e : S.contentsFormatted = .ok bs) :
    Bytes bs := contentsFormatted_bytes' S e

theorem contentsDiff_bytes {S P : Screen} {bs : List Nat} (_h : Inv W S) (_hp : Inv W P)
    (e : S.contentsDiff P = .ok bs) : Bytes bs := MPred.iff.mp (writeContentsDiff_bytes S P) bs e

theorem cursorStateFormatted_bytes {S : Screen} {bs : List Nat} (_h : Inv W S)
    (e : S.cursorStateFormatted = .ok bs) : Bytes bs := MPred.iff.mp (cursorStateFormatted_ret S) bs e

theorem rowsFormatted_bytes {S : Screen} (_h : Inv W S) (start width : Nat) {res : List (List Nat)}
    (e : S.rowsFormatted start width = .ok res) : ∀ bs ∈ res, Bytes bs := MPred.iff.mp (rowsFormatted_ret S start width) res e

theorem rowsDiff_bytes {S P : Screen} (_h : Inv W S) (_hp : Inv W P) (start width : Nat) {res : List (List Nat)}
    (e : S.rowsDiff P start width = .ok res) : ∀ bs ∈ res, Bytes bs := MPred.iff.mp (rowsDiff_ret S P start width) res e

/-! with the totality theorems of C03: on `Inv` screens the emitters return, and return bytes -/

theorem stateFormatted_total_bytes {S : Screen} (h : Inv W S) : ∃ bs, S.stateFormatted = .ok bs ∧ Bytes bs := by
  obtain ⟨bs, e⟩ := C03.state_formatted_total h
  exact ⟨bs, e, stateFormatted_bytes' S e⟩

theorem stateDiff_total_bytes {S P : Screen} (h : Inv W S) (hp : Inv W P) :
    ∃ bs, S.stateDiff P = .ok bs ∧ Bytes bs := by
  obtain ⟨bs, e⟩ := C03.state_diff_total h hp
  exact ⟨bs, e, stateDiff_bytes' S P e⟩

theorem contentsFormatted_total_bytes {S : Screen} (h : Inv W S) :
    ∃ bs, S.contentsFormatted = .ok bs ∧ Bytes bs := by
  obtain ⟨bs, e⟩ := C03.contents_formatted_total h
  exact ⟨bs, e, contentsFormatted_bytes' S e⟩

theorem contentsDiff_total_bytes {S P : Screen} (h : Inv W S) (hp : Inv W P) :
    ∃ bs, S.contentsDiff P = .ok bs ∧ Bytes bs := by
  obtain ⟨bs, e⟩ := C03.contents_diff_total h hp
  exact ⟨bs, e, MPred.iff.mp (writeContentsDiff_bytes S P) bs e⟩

end Vt.Bytes
