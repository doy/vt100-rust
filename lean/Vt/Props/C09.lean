/-
  C09 — SGR: the pen is what SGR semantics define, and pen encodings round-trip.

  `sgr_*` are the head-step laws of `Screen::sgr`, one per clause of the property text, for every pen, every remaining
  parameter list and every callback continuation `unh`.  The round trip of `Attrs::write_escape_code_diff` (through
  `term::Attrs::write_buf`) and of `attributes_formatted` is stated here on parameter groups; the bytes are C09b.
-/
import Vt.Lemmas.WPred
namespace Vt.C09
open Vt

section head
variable (unh : WS → M WS) (rest : List (List Nat)) (ws : WS)

theorem sgr_reset : sgrLoop unh ([0] :: rest) ws = sgrLoop unh rest (ws.modAttrs (fun _ => Attrs.default)) := by
  rw [sgrLoop_cons]; rfl
theorem sgr_bold : sgrLoop unh ([1] :: rest) ws = sgrLoop unh rest (ws.modAttrs (fun a => { a with intensity := .bold })) := by
  rw [sgrLoop_cons]; rfl
theorem sgr_dim : sgrLoop unh ([2] :: rest) ws = sgrLoop unh rest (ws.modAttrs (fun a => { a with intensity := .dim })) := by
  rw [sgrLoop_cons]; rfl
theorem sgr_italic : sgrLoop unh ([3] :: rest) ws = sgrLoop unh rest (ws.modAttrs (fun a => { a with italic := true })) := by
  rw [sgrLoop_cons]; rfl
theorem sgr_underline : sgrLoop unh ([4] :: rest) ws = sgrLoop unh rest (ws.modAttrs (fun a => { a with underline := true })) := by
  rw [sgrLoop_cons]; rfl
theorem sgr_inverse : sgrLoop unh ([7] :: rest) ws = sgrLoop unh rest (ws.modAttrs (fun a => { a with inverse := true })) := by
  rw [sgrLoop_cons]; rfl
theorem sgr_normal : sgrLoop unh ([22] :: rest) ws = sgrLoop unh rest (ws.modAttrs (fun a => { a with intensity := .normal })) := by
  rw [sgrLoop_cons]; rfl
theorem sgr_no_italic : sgrLoop unh ([23] :: rest) ws = sgrLoop unh rest (ws.modAttrs (fun a => { a with italic := false })) := by
  rw [sgrLoop_cons]; rfl
theorem sgr_no_underline : sgrLoop unh ([24] :: rest) ws = sgrLoop unh rest (ws.modAttrs (fun a => { a with underline := false })) := by
  rw [sgrLoop_cons]; rfl
theorem sgr_no_inverse : sgrLoop unh ([27] :: rest) ws = sgrLoop unh rest (ws.modAttrs (fun a => { a with inverse := false })) := by
  rw [sgrLoop_cons]; rfl
theorem sgr_fg_default : sgrLoop unh ([39] :: rest) ws = sgrLoop unh rest (ws.setFg .default) := by
  rw [sgrLoop_cons]; rfl
theorem sgr_bg_default : sgrLoop unh ([49] :: rest) ws = sgrLoop unh rest (ws.setBg .default) := by
  rw [sgrLoop_cons]; rfl

theorem sgr_single {n : Nat} {f : Attrs → Attrs} (h38 : n ≠ 38) (h48 : n ≠ 48) (h : Sgr.single n = some f) :
    sgrLoop unh ([n] :: rest) ws = sgrLoop unh rest (ws.modAttrs f) := by
  rw [sgrLoop_cons, Sgr.step_single _ h38 h48, h]; rfl

theorem sgr_fg_idx (n : Nat) (h : 30 ≤ n ∧ n ≤ 37) :
    sgrLoop unh ([n] :: rest) ws = sgrLoop unh rest (ws.setFg (.idx (n - 30))) :=
  sgr_single unh rest ws (by omega) (by omega) (Sgr.single_fg h)
theorem sgr_bg_idx (n : Nat) (h : 40 ≤ n ∧ n ≤ 47) :
    sgrLoop unh ([n] :: rest) ws = sgrLoop unh rest (ws.setBg (.idx (n - 40))) :=
  sgr_single unh rest ws (by omega) (by omega) (Sgr.single_bg h)
theorem sgr_fg_bright (n : Nat) (h : 90 ≤ n ∧ n ≤ 97) :
    sgrLoop unh ([n] :: rest) ws = sgrLoop unh rest (ws.setFg (.idx (n - 82))) :=
  sgr_single unh rest ws (by omega) (by omega) (Sgr.single_fg_bright h)
theorem sgr_bg_bright (n : Nat) (h : 100 ≤ n ∧ n ≤ 107) :
    sgrLoop unh ([n] :: rest) ws = sgrLoop unh rest (ws.setBg (.idx (n - 92))) :=
  sgr_single unh rest ws (by omega) (by omega) (Sgr.single_bg_bright h)

/-- semicolon forms: every number is a group of its own -/
theorem sgr_256 {n : Nat} {set : Color → Attrs → Attrs} (hl : Sgr.layer n = some set) (i : Nat) (h : i ≤ 255) :
    sgrLoop unh ([n] :: [5] :: [i] :: rest) ws = sgrLoop unh rest (ws.modAttrs (set (.idx i))) := by
  simp only [sgrLoop_cons, Sgr.step, hl, Sgr.behind, h, ↓reduceIte]; rfl
theorem sgr_rgb {n : Nat} {set : Color → Attrs → Attrs} (hl : Sgr.layer n = some set) (r g b : Nat)
    (h : r ≤ 255 ∧ g ≤ 255 ∧ b ≤ 255) :
    sgrLoop unh ([n] :: [2] :: [r] :: [g] :: [b] :: rest) ws = sgrLoop unh rest (ws.modAttrs (set (.rgb r g b))) := by
  simp only [sgrLoop_cons, Sgr.step, hl, Sgr.behind, h, and_self, ↓reduceIte]; rfl
/-- colon forms: one group -/
theorem sgr_fg_256_colon (i : Nat) (h : i ≤ 255) :
    sgrLoop unh ([38, 5, i] :: rest) ws = sgrLoop unh rest (ws.setFg (.idx i)) := by
  rw [sgrLoop_cons, show Sgr.step [38, 5, i] rest = _ from if_pos h]; rfl
theorem sgr_bg_256_colon (i : Nat) (h : i ≤ 255) :
    sgrLoop unh ([48, 5, i] :: rest) ws = sgrLoop unh rest (ws.setBg (.idx i)) := by
  rw [sgrLoop_cons, show Sgr.step [48, 5, i] rest = _ from if_pos h]; rfl
theorem sgr_fg_rgb_colon (r g b : Nat) (h : r ≤ 255 ∧ g ≤ 255 ∧ b ≤ 255) :
    sgrLoop unh ([38, 2, r, g, b] :: rest) ws = sgrLoop unh rest (ws.setFg (.rgb r g b)) := by
  rw [sgrLoop_cons, show Sgr.step [38, 2, r, g, b] rest = _ from if_pos h]; rfl
theorem sgr_bg_rgb_colon (r g b : Nat) (h : r ≤ 255 ∧ g ≤ 255 ∧ b ≤ 255) :
    sgrLoop unh ([48, 2, r, g, b] :: rest) ws = sgrLoop unh rest (ws.setBg (.rgb r g b)) := by
  rw [sgrLoop_cons, show Sgr.step [48, 2, r, g, b] rest = _ from if_pos h]; rfl

theorem sgr_unknown_skip (n : Nat) (h38 : n ≠ 38) (h48 : n ≠ 48) (h : Sgr.single n = none) :
    sgrLoop unh ([n] :: rest) ws = (unh ws >>= fun ws => sgrLoop unh rest ws) := by
  rw [sgrLoop_cons, Sgr.step_single _ h38 h48, h]

/-- never produced by vte, which always hands over one group -/
theorem sgr_empty : sgr unh [] ws = pure (ws.modAttrs (fun _ => Attrs.default)) := by
  simp [sgr]

theorem sgr_nonempty (p : List Nat) : sgr unh (p :: rest) ws = sgrLoop unh (p :: rest) ws := by
  simp [sgr]

def PenOnly (a b : WS) : Prop := ∃ at', b.screen = { a.screen with attrs := at' }

/-- if the `unhandled` callback leaves everything but the pen alone (`impl Callbacks for ()`
leaves the pen alone too), `sgr` changes nothing but the pen -/
theorem sgrLoop_frame (hunh : ∀ w w', unh w = .ok w' → PenOnly w w') :
    ∀ (ps : List (List Nat)) (ws ws' : WS), sgrLoop unh ps ws = .ok ws' → PenOnly ws ws' := by
  intro ps ws ws' h
  rw [sgrLoop_eq_run] at h
  -- the loop is a run of calls of `unh` and pen changes: each keeps "the screen `ws` started from, with some pen"
  refine C12.MPred.iff.mp (C12.WPred.steps (P := fun s => ∃ a, s = { ws.screen with attrs := a })
    (fun st hst w ⟨a, ha⟩ => ?_) ws ⟨_, rfl⟩) ws' h
  obtain rfl | ⟨t, rfl, -⟩ := mem_sgrLoopProg hst
  · exact C12.MPred.iff.mpr fun w' e => let ⟨b, hb⟩ := hunh w w' e; ⟨b, by rw [hb, ha]⟩
  · exact C12.MPred.pure ⟨t a, by simp only [ha]⟩

end head

def Color.wf : Color → Prop
  | .default => True
  | .idx i => i ≤ 255
  | .rgb r g b => r ≤ 255 ∧ g ≤ 255 ∧ b ≤ 255

def Attrs.wf (a : Attrs) : Prop := Color.wf a.fg ∧ Color.wf a.bg

/-- vte hands each `;`-separated number over as its own group -/
def groups (ps : List Nat) : List (List Nat) := ps.map (fun p => [p])

def Acts (ps : List Nat) (f : Attrs → Attrs) : Prop :=
  ∀ (unh : WS → M WS) (rest : List (List Nat)) (ws : WS),
    sgrLoop unh (groups ps ++ rest) ws = sgrLoop unh rest (ws.modAttrs f)

theorem Acts.nil : Acts [] id := fun _ _ _ => rfl

theorem Acts.append {xs ys : List Nat} {f g : Attrs → Attrs} (hx : Acts xs f) (hy : Acts ys g) :
    Acts (xs ++ ys) (g ∘ f) := by
  intro unh rest ws
  rw [groups, List.map_append, List.append_assoc]
  exact (hx unh _ ws).trans (hy unh rest _)

theorem acts_fgParams (c : Color) (hc : Color.wf c) : Acts (Term.fgParams c) (Sgr.setFg c) := by
  intro unh rest ws
  cases c with
  | default => exact sgr_fg_default unh rest ws
  | idx i =>
    simp only [Term.fgParams]
    split
    · exact (sgr_fg_idx unh rest ws (i + 30) (by omega)).trans (by rw [Nat.add_sub_cancel]; rfl)
    · split
      · exact (sgr_fg_bright unh rest ws (i + 82) (by omega)).trans (by rw [Nat.add_sub_cancel]; rfl)
      · exact sgr_256 unh rest ws (n := 38) rfl i hc
  | rgb r g b => exact sgr_rgb unh rest ws (n := 38) rfl r g b hc

theorem acts_bgParams (c : Color) (hc : Color.wf c) : Acts (Term.bgParams c) (Sgr.setBg c) := by
  intro unh rest ws
  cases c with
  | default => exact sgr_bg_default unh rest ws
  | idx i =>
    simp only [Term.bgParams]
    split
    · exact (sgr_bg_idx unh rest ws (i + 40) (by omega)).trans (by rw [Nat.add_sub_cancel]; rfl)
    · split
      · exact (sgr_bg_bright unh rest ws (i + 92) (by omega)).trans (by rw [Nat.add_sub_cancel]; rfl)
      · exact sgr_256 unh rest ws (n := 48) rfl i hc
  | rgb r g b => exact sgr_rgb unh rest ws (n := 48) rfl r g b hc

/-! `term::Attrs::write_buf` writes one independent part per field of the builder -/

def fgPart (o : Option Color) : List Nat := match o with | some c => Term.fgParams c | none => []
def bgPart (o : Option Color) : List Nat := match o with | some c => Term.bgParams c | none => []
def intPart (o : Option Intensity) : List Nat :=
  match o with | some .normal => [22] | some .bold => [1] | some .dim => [2] | none => []
def flagPart (on off : Nat) (o : Option Bool) : List Nat :=
  match o with | some true => [on] | some false => [off] | none => []

theorem params_eq (s : Term.SgrAttrs) :
    s.params = fgPart s.fg ++ bgPart s.bg ++ intPart s.intensity ++ flagPart 3 23 s.italic ++
      flagPart 4 24 s.underline ++ flagPart 7 27 s.inverse := by
  obtain ⟨fg, bg, inten, it, ul, inv⟩ := s
  rfl

theorem fgParams_len (c : Color) : 1 ≤ (Term.fgParams c).length ∧ (Term.fgParams c).length ≤ 5 := by
  cases c <;> simp only [Term.fgParams] <;> (repeat' split) <;> simp

theorem bgParams_len (c : Color) : 1 ≤ (Term.bgParams c).length ∧ (Term.bgParams c).length ≤ 5 := by
  cases c <;> simp only [Term.bgParams] <;> (repeat' split) <;> simp

theorem fgPart_eq_nil {o : Option Color} : fgPart o = [] ↔ o = none := by
  cases o with
  | none => exact iff_of_true rfl rfl
  | some c => exact iff_of_false (List.ne_nil_of_length_pos (fgParams_len c).1) nofun

theorem bgPart_eq_nil {o : Option Color} : bgPart o = [] ↔ o = none := by
  cases o with
  | none => exact iff_of_true rfl rfl
  | some c => exact iff_of_false (List.ne_nil_of_length_pos (bgParams_len c).1) nofun

theorem intPart_eq_nil {o : Option Intensity} : intPart o = [] ↔ o = none := by
  rcases o with _ | _ | _ | _ <;> simp [intPart]

theorem flagPart_eq_nil {on off : Nat} {o : Option Bool} : flagPart on off o = [] ↔ o = none := by
  rcases o with _ | _ | _ <;> simp [flagPart]

theorem params_ne_nil (s : Term.SgrAttrs) (h : s.isEmpty = false) : s.params ≠ [] := by
  intro hnil
  simp only [params_eq, List.append_eq_nil_iff, fgPart_eq_nil, bgPart_eq_nil, intPart_eq_nil, flagPart_eq_nil] at hnil
  simp [Term.SgrAttrs.isEmpty, hnil] at h

def applySgrAttrs (s : Term.SgrAttrs) (a : Attrs) : Attrs :=
  { fg := s.fg.getD a.fg, bg := s.bg.getD a.bg, intensity := s.intensity.getD a.intensity,
    italic := s.italic.getD a.italic, underline := s.underline.getD a.underline,
    inverse := s.inverse.getD a.inverse }

def SgrAttrs.wf (s : Term.SgrAttrs) : Prop :=
  (∀ c, s.fg = some c → Color.wf c) ∧ (∀ c, s.bg = some c → Color.wf c)

theorem acts_fgPart (o : Option Color) (h : ∀ c, o = some c → Color.wf c) :
    Acts (fgPart o) (fun a => { a with fg := o.getD a.fg }) := by
  cases o with
  | none => exact Acts.nil
  | some c => exact acts_fgParams c (h c rfl)

theorem acts_bgPart (o : Option Color) (h : ∀ c, o = some c → Color.wf c) :
    Acts (bgPart o) (fun a => { a with bg := o.getD a.bg }) := by
  cases o with
  | none => exact Acts.nil
  | some c => exact acts_bgParams c (h c rfl)

theorem acts_intPart (o : Option Intensity) : Acts (intPart o) (fun a => { a with intensity := o.getD a.intensity }) := by
  rcases o with _ | _ | _ | _
  · exact Acts.nil
  · exact fun unh rest ws => sgr_normal unh rest ws
  · exact fun unh rest ws => sgr_bold unh rest ws
  · exact fun unh rest ws => sgr_dim unh rest ws

theorem acts_italic (o : Option Bool) : Acts (flagPart 3 23 o) (fun a => { a with italic := o.getD a.italic }) := by
  rcases o with _ | _ | _
  · exact Acts.nil
  · exact fun unh rest ws => sgr_no_italic unh rest ws
  · exact fun unh rest ws => sgr_italic unh rest ws

theorem acts_underline (o : Option Bool) :
    Acts (flagPart 4 24 o) (fun a => { a with underline := o.getD a.underline }) := by
  rcases o with _ | _ | _
  · exact Acts.nil
  · exact fun unh rest ws => sgr_no_underline unh rest ws
  · exact fun unh rest ws => sgr_underline unh rest ws

theorem acts_inverse (o : Option Bool) : Acts (flagPart 7 27 o) (fun a => { a with inverse := o.getD a.inverse }) := by
  rcases o with _ | _ | _
  · exact Acts.nil
  · exact fun unh rest ws => sgr_no_inverse unh rest ws
  · exact fun unh rest ws => sgr_inverse unh rest ws

theorem acts_params (s : Term.SgrAttrs) (hs : SgrAttrs.wf s) : Acts s.params (applySgrAttrs s) := by
  rw [params_eq]
  exact (((((acts_fgPart s.fg hs.1).append (acts_bgPart s.bg hs.2)).append (acts_intPart s.intensity)).append
    (acts_italic s.italic)).append (acts_underline s.underline)).append (acts_inverse s.inverse)

theorem sgr_sgrAttrs (unh : WS → M WS) (s : Term.SgrAttrs) (hs : SgrAttrs.wf s) (ws : WS) :
    sgrLoop unh (groups s.params) ws = .ok (ws.modAttrs (applySgrAttrs s)) := by
  have h := acts_params s hs unh [] ws
  rwa [List.append_nil, sgrLoop_nil] at h

/-- the parameter groups vte hands to `sgr` for the bytes of `write_escape_code_diff`
(`none`: no bytes are written).  The byte-level half (bytes ↦ these groups through the
vte model) is `sgr_bytes_parse` (C09b). -/
def diffGroups (self other : Attrs) : Option (List (List Nat)) :=
  if self != other && self == Attrs.default then some [[0]]
  else
    let b := Attrs.diffBuilder self other
    if b.isEmpty then none else some (groups b.params)

theorem diffBuilder_eq (a b : Attrs) : Attrs.diffBuilder a b =
    { fg := if a.fg == b.fg then none else some a.fg
      bg := if a.bg == b.bg then none else some a.bg
      intensity := if a.intensity == b.intensity then none else some a.intensity
      italic := if a.italic == b.italic then none else some a.italic
      underline := if a.underline == b.underline then none else some a.underline
      inverse := if a.inverse == b.inverse then none else some a.inverse } := by
  -- a choice between two builders is a choice in every field; each step leaves five fields the same on both sides
  have h : ∀ (c : Bool) (x y : Term.SgrAttrs), (if c then x else y) =
      { fg := if c then x.fg else y.fg, bg := if c then x.bg else y.bg,
        intensity := if c then x.intensity else y.intensity, italic := if c then x.italic else y.italic,
        underline := if c then x.underline else y.underline, inverse := if c then x.inverse else y.inverse } := by
    intro c x y; cases c <;> rfl
  unfold Attrs.diffBuilder
  simp only [h, ite_self]

theorem getD_diff {α} [BEq α] [LawfulBEq α] (x y : α) : (if x == y then none else some x).getD y = x := by
  split
  · exact (eq_of_beq ‹_›).symm
  · rfl

theorem apply_diffBuilder (a b : Attrs) : applySgrAttrs (Attrs.diffBuilder a b) b = a := by
  simp only [diffBuilder_eq, applySgrAttrs, getD_diff]

theorem diffBuilder_wf (a b : Attrs) (h : Attrs.wf a) : SgrAttrs.wf (Attrs.diffBuilder a b) := by
  rw [diffBuilder_eq]
  constructor <;> intro c hc <;> dsimp only at hc <;> split at hc
  · cases hc
  · cases hc; exact h.1
  · cases hc
  · cases hc; exact h.2

theorem diffBuilder_empty (a b : Attrs) (h : (Attrs.diffBuilder a b).isEmpty = true) : a = b := by
  have := apply_diffBuilder a b
  generalize Attrs.diffBuilder a b = bld at h this
  obtain ⟨fg, bg, inten, it, ul, inv⟩ := bld
  simp only [Term.SgrAttrs.isEmpty, Bool.and_eq_true, Option.isNone_iff_eq_none] at h
  obtain ⟨⟨⟨⟨⟨h1, h2⟩, h3⟩, h4⟩, h5⟩, h6⟩ := h
  subst h1 h2 h3 h4 h5 h6
  exact this.symm

/-- **every pen-to-pen change the crate emits turns the first pen into the second**
(`b` = receiver's pen, `a` = target pen), at the level of the parameter groups. -/
theorem attrs_diff_roundtrip_params (unh : WS → M WS) (a b : Attrs) (hwf : Attrs.wf a) (ws : WS)
    (hb : ws.screen.attrs = b) :
    match diffGroups a b with
    | none => a = b
    | some gs => sgr unh gs ws = .ok (ws.modAttrs (fun _ => a)) := by
  unfold diffGroups
  by_cases h : (a != b && a == Attrs.default) = true
  · rw [if_pos h]
    simp only [Bool.and_eq_true, beq_iff_eq] at h
    show sgr unh [[0]] ws = _
    rw [sgr_nonempty, sgr_reset, sgrLoop_nil, h.2]; rfl
  · rw [if_neg h]
    by_cases h2 : (Attrs.diffBuilder a b).isEmpty = true
    · simp only [h2, ↓reduceIte]
      exact diffBuilder_empty a b h2
    · simp only [h2, Bool.false_eq_true, ↓reduceIte]
      obtain ⟨p, ps, hp⟩ := List.exists_cons_of_ne_nil (params_ne_nil _ (by simpa using h2))
      have hs : sgr unh (groups (Attrs.diffBuilder a b).params) ws = sgrLoop unh (groups (Attrs.diffBuilder a b).params) ws := by
        rw [hp]; rfl
      rw [hs, sgr_sgrAttrs unh _ (diffBuilder_wf a b hwf), WS.modAttrs, hb, apply_diffBuilder]; rfl

/-- `attributes_formatted` = `ESC[m` then the change from the default pen: sets exactly the pen
on any receiver (parameter level: first `[[0]]`, then `diffGroups pen default`). -/
theorem attributes_formatted_params (unh : WS → M WS) (pen : Attrs) (hwf : Attrs.wf pen) (ws : WS) :
    ∃ ws1, sgr unh [[0]] ws = .ok ws1 ∧
      match diffGroups pen Attrs.default with
      | none => ws1 = ws.modAttrs (fun _ => pen)
      | some gs => sgr unh gs ws1 = .ok (ws.modAttrs (fun _ => pen)) := by
  refine ⟨ws.modAttrs (fun _ => Attrs.default), ?_, ?_⟩
  · rw [sgr_nonempty, sgr_reset, sgrLoop_nil]; rfl
  · have := attrs_diff_roundtrip_params unh pen Attrs.default hwf (ws.modAttrs (fun _ => Attrs.default)) rfl
    revert this
    cases diffGroups pen Attrs.default with
    | none => intro h; rw [h]
    | some gs => exact id

/-- non-vacuity of the `some` case -/
example : diffGroups { fg := .idx 9, bg := .rgb 1 2 3, intensity := .bold } { underline := true }
    = some [[91], [48], [2], [1], [2], [3], [1], [24]] := by decide

end Vt.C09
