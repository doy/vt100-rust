/-
  Vt.Props.DiffCells — the receiving line in the middle of a diff, as a list of cells: no parser, no emitter.

  `Mid' S P e Ri`: the line shows the current line `S` before column `e` and the previous line `P` after it (`Lo`: the first
  half alone).  What the three things a diff does at column `e` do to it, read off the closed forms `C07.erasedRow` and
  `C05.printedRow`: an unchanged cell is skipped (`Mid'.skip1 / skip2`), a run of blanks is erased (`erase_run`, `Mid'.erase`),
  a cell is typed (`Mid'.typeNarrow / typeWide / typeCell`) — wide characters of `P` under and next to the cursor included.
  `KeepsFlag` says of a predicate on the wrap flag that those writes preserve it (`Mid`, `Mid'` with the flag off, is the
  instance "off" written out; the simulation does not use it).
  `Links` is determined by what a line shows (`links_of_views`); `LineWf`, which adds the 22-byte buffers, is kept by erasing
  (`erasedRow_wf`).
  Last, the line a column window's loop runs on: the current line masked with the previous line left of the window (`maskP`).

  `Mid'`, `WideNext` and their lemmas are in namespace `Vt.C15wrap`, the rest in `Vt.DiffRow`.
-/
import Vt.Props.DiffType
import Vt.Props.RowCtx
namespace Vt.DiffRow
open Vt Vt.Recv Vt.C19 Vt.C09 Vt.RowDraw Vt.C03

variable {W : Nat → Option Nat} {cb : CbPolicy}

theorem view_wide {a b : Cell} (h : view a = view b) : a.wide = b.wide := by
  simp only [view, View.mk.injEq] at h; exact h.2.1

theorem view_cont {a b : Cell} (h : view a = view b) : a.cont = b.cont := by
  simp only [view, View.mk.injEq] at h; exact h.2.2.1

theorem cellFlag_views {l l' : List Cell} (h : l.map view = l'.map view) (j : Nat) :
    cellFlag (·.wide) l j = cellFlag (·.wide) l' j ∧ cellFlag (·.cont) l j = cellFlag (·.cont) l' j := by
  have := congrArg (fun m => m[j]?) h
  simp only [List.getElem?_map] at this
  unfold cellFlag
  cases h1 : l[j]? <;> cases h2 : l'[j]? <;> rw [h1, h2] at this <;>
    simp only [Option.map_some, Option.map_none, reduceCtorEq] at this
  · exact ⟨rfl, rfl⟩
  · exact ⟨view_wide (Option.some.inj this), view_cont (Option.some.inj this)⟩

theorem links_of_views {l l' : List Cell} (h : l.map view = l'.map view) (hl : Links l') : Links l :=
  links_of_flags (cellFlag_views h) hl

theorem erasedRow_get (cs : List Cell) (w : Bool) (lo hi : Nat) (a : Attrs) (k : Nat) (hk : k < cs.length) :
    (C07.erasedRow cs w lo hi a).cells[k]'(by simp [C07.erasedRow, C07.eraseRange]; exact hk) =
      C07.rangeCell lo hi a k cs[k] := by
  simp [C07.erasedRow, C07.eraseRange]

theorem typedRow_get (r : Row) (col cols : Nat) (a : Attrs) (f : Nat) (cellF : Cell) (k : Nat) (hk : k < r.cells.length) :
    (typedRow W r col cols a f cellF).cells[k]'(by simp [typedRow, C05.printedRow]; exact hk) =
      if col = k then cellF else C05.printedCell W r.cells col a f (decide (C05.effWidth W f > 1)) k r.cells[k] := by
  simp [typedRow, C05.printedRow, List.getElem_set]

theorem typedRow_length (r : Row) (col cols : Nat) (a : Attrs) (f : Nat) (cellF : Cell) :
    (typedRow W r col cols a f cellF).cells.length = r.cells.length := by
  simp [typedRow, C05.printedRow]

theorem flagAt_get (cs : List Cell) (k : Nat) (hk : k < cs.length) (f : Cell → Bool) : C05.flagAt cs k f = f cs[k] := by
  simp [C05.flagAt, List.getElem?_eq_getElem hk]

theorem flagAt_none (cs : List Cell) (k : Nat) (hk : cs.length ≤ k) (f : Cell → Bool) : C05.flagAt cs k f = false := by
  simp [C05.flagAt, List.getElem?_eq_none hk]

theorem view_contOf (y : Cell) : view (C05.contOf y) = contV := by
  simp [view, C05.contOf, Cell.clear, Cell.setWideContinuation, contV]

theorem typedRow_get_gt (r : Row) (col cols : Nat) (a : Attrs) (f : Nat) (cellF : Cell) {k : Nat} (hk : k < r.cells.length)
    (h : col + 2 < k ∨ (col + 1 < k ∧ C05.effWidth W f = 1)) :
    (typedRow W r col cols a f cellF).cells[k]'(by simp [typedRow, C05.printedRow]; exact hk) = r.cells[k] := by
  rw [typedRow_get _ _ _ _ _ _ k hk, if_neg (by omega)]
  unfold C05.printedCell
  rw [if_neg (by omega), if_neg (by omega), if_neg (by omega)]
  rcases h with h | ⟨_, h⟩
  · rw [if_neg (by omega)]
  · rw [if_neg (by rw [h]; simp)]

theorem erasedRow_wrapped (cs : List Cell) (w : Bool) (lo hi : Nat) (a : Attrs) :
    (C07.erasedRow cs w lo hi a).wrapped = false ∨ (C07.erasedRow cs w lo hi a).wrapped = w := by
  simp only [C07.erasedRow]
  split
  · exact Or.inl rfl
  · exact Or.inr rfl

theorem typedRow_wrapped (r : Row) (col cols : Nat) (a : Attrs) (f : Nat) (cellF : Cell) :
    (typedRow W r col cols a f cellF).wrapped = false ∨ (typedRow W r col cols a f cellF).wrapped = r.wrapped := by
  simp only [typedRow, C05.printedRow]
  split
  · exact Or.inl rfl
  · exact Or.inr rfl

theorem typedRow_wrapped_eq (r : Row) (col cols : Nat) (a : Attrs) (f : Nat) (cellF : Cell) :
    (typedRow W r col cols a f cellF).wrapped =
      if decide (C05.effWidth W f > 1) = true ∧ C05.flagAt r.cells col (·.wide) = false ∧
          C05.flagAt r.cells (col + 1) (·.wide) = true ∧ col + 3 = cols then false else r.wrapped := rfl

/-- the flag is cleared only by a wide character that lands on a narrow cell -/
theorem typedRow_wrapped_over (r : Row) {col : Nat} (hcol : col < r.cells.length) (cols : Nat) (a : Attrs) {f : Nat}
    (cellF : Cell) (h : C05.effWidth W f > 1 → r.cells[col].wide = true) :
    (typedRow W r col cols a f cellF).wrapped = r.wrapped := by
  rw [typedRow_wrapped_eq, if_neg]
  rintro ⟨h1, h2, -⟩
  rw [flagAt_get _ _ hcol, h (by simpa using h1)] at h2
  cases h2

/-- `h` is what `erasedRow_wrapped` / `typedRow_wrapped` say of the flag after an erase or a typed cell -/
theorem flag_pred {Q : Bool → Prop} (hclr : ∀ w, Q w → Q false) {w w' : Bool} (hq : Q w) (h : w' = false ∨ w' = w) : Q w' := by
  rcases h with h | h <;> rw [h]
  · exact hclr _ hq
  · exact hq

theorem erasedRow_length (cs : List Cell) (w : Bool) (lo hi : Nat) (a : Attrs) :
    (C07.erasedRow cs w lo hi a).cells.length = cs.length := by
  simp [C07.erasedRow, C07.eraseRange_length]

theorem erasedRow_view_in (cs : List Cell) (w : Bool) {lo hi : Nat} (a : Attrs) {k : Nat} (hk : k < cs.length) (h1 : lo ≤ k)
    (h2 : k < hi) : view ((C07.erasedRow cs w lo hi a).cells[k]'(by rw [erasedRow_length]; exact hk)) = blankA a := by
  rw [erasedRow_get _ _ _ _ _ k hk]
  unfold C07.rangeCell
  rw [if_pos ⟨h1, h2⟩, view_clear]

theorem erasedRow_get_lt (cs : List Cell) (w : Bool) {lo : Nat} (hi : Nat) (a : Attrs) {k : Nat} (hk : k < cs.length)
    (h1 : k < lo) (hw : k + 1 = lo → cs[k].wide = false) :
    (C07.erasedRow cs w lo hi a).cells[k]'(by rw [erasedRow_length]; exact hk) = cs[k] := by
  rw [erasedRow_get _ _ _ _ _ k hk]
  unfold C07.rangeCell
  rw [if_neg (by omega)]
  by_cases h : k + 1 = lo
  · rw [if_neg (by rw [hw h]; simp), if_neg (by omega)]
  · rw [if_neg (by omega), if_neg (by omega)]

theorem erasedRow_get_hi (cs : List Cell) (w : Bool) {lo hi : Nat} (a : Attrs) (hk : hi < cs.length) (hlt : lo < hi) :
    (C07.erasedRow cs w lo hi a).cells[hi]'(by rw [erasedRow_length]; exact hk) =
      if cs[hi].cont = true then cs[hi].clear cs[hi].attrs else cs[hi] := by
  rw [erasedRow_get _ _ _ _ _ hi hk, show C07.rangeCell lo hi a hi cs[hi] = _ from C07.rangeCell_right hlt a 0 cs[hi]]
  simp only [true_and]

theorem erasedRow_wf {r : Row} (h : LineWf r) (e hi : Nat) (he : e ≤ hi) (hh : hi ≤ r.cells.length) (a : Attrs) :
    LineWf (C07.erasedRow r.cells r.wrapped e hi a) := by
  have := (C07.erase_range_links r.cells r.wrapped h.links e a (hi - e) (by omega)).2
  rw [show e + (hi - e) = hi by omega] at this
  exact ⟨this, C07.eraseRange_len22 _ _ _ _ h.len22⟩

/-- the part of `C15wrap.Mid'` left of column `e` -/
structure Lo (S : List Cell) (e : Nat) (R : Row) : Prop where
  len : R.cells.length = S.length
  lo : ∀ k (hk : k < S.length), k < e → view (R.cells[k]'(by rw [len]; exact hk)) = view S[k]

theorem Lo.get? {S : List Cell} {e : Nat} {R : Row} (h : Lo S e R) (k : Nat) (hk : k < e) (hkl : k < S.length) :
    (R.cells[k]?).map view = some (view S[k]) := by
  rw [List.getElem?_eq_getElem (by rw [h.len]; exact hkl), Option.map_some, h.lo k hkl hk]

theorem Lo.mono {S : List Cell} {e e' : Nat} {R : Row} (h : Lo S e R) (hle : e' ≤ e) : Lo S e' R :=
  ⟨h.len, fun k hk hke => h.lo k hk (Nat.lt_of_lt_of_le hke hle)⟩

theorem Lo.succ {S : List Cell} {c : Nat} {R : Row} (h : Lo S c R) (hc : c < S.length)
    (hv : view (R.cells[c]'(by rw [h.len]; exact hc)) = view S[c]) : Lo S (c + 1) R := by
  refine ⟨h.len, fun k hk hkc => ?_⟩
  by_cases hlt : k < c
  · exact h.lo k hk hlt
  · have : k = c := by omega
    subst this; exact hv

theorem Lo.full {S : List Cell} {R : Row} (h : Lo S S.length R) : R.cells.map view = S.map view := by
  apply List.ext_getElem?
  intro k
  simp only [List.getElem?_map]
  by_cases hk : k < S.length
  · rw [h.get? k hk hk, List.getElem?_eq_getElem hk, Option.map_some]
  · rw [List.getElem?_eq_none (by rw [h.len]; omega), List.getElem?_eq_none (by omega)]

theorem Lo.narrow_before {S : List Cell} {e : Nat} {R : Row} (h : Lo S e R) (hS : SrcOk W S) (he : e < S.length)
    (hse : S[e].cont = false) (k : Nat) (hk : k < R.cells.length) (hk1 : k + 1 = e) : R.cells[k].wide = false := by
  cases hw : R.cells[k].wide
  · rfl
  · subst hk1
    have hsw : (S[k]'(by omega)).wide = true := by rw [← view_wide (h.lo k (by omega) (by omega))]; exact hw
    obtain ⟨_, hc⟩ := hS.wide_next k (by omega) hsw
    rw [hse] at hc; exact absurd hc (by simp)

theorem Lo.erased {S : List Cell} {e : Nat} {R : Row} (h : Lo S e R) {lo : Nat} (hlo : e ≤ lo)
    (hw : ∀ k (hk : k < R.cells.length), k + 1 = lo → k < e → R.cells[k].wide = false) (w : Bool) (hi : Nat) (a : Attrs) :
    Lo S e (C07.erasedRow R.cells w lo hi a) := by
  refine ⟨(erasedRow_length ..).trans h.len, fun k hk hke => ?_⟩
  have hkR : k < R.cells.length := by rw [h.len]; exact hk
  rw [erasedRow_get_lt R.cells w hi a hkR (by omega) (fun h1 => hw k hkR h1 hke)]
  exact h.lo k hk hke

theorem Lo.typed {S : List Cell} {e c : Nat} {R : Row} (h : Lo S e R) (hec : e ≤ c) (hc : c < S.length)
    (hnc : e = c → (R.cells[c]'(by rw [h.len]; exact hc)).cont = false) (cols : Nat) (a : Attrs) (f : Nat) (cellF : Cell) :
    Lo S e (typedRow W R c cols a f cellF) := by
  have hlen : (typedRow W R c cols a f cellF).cells.length = S.length := by
    simp [typedRow, C05.printedRow, h.len]
  refine ⟨hlen, ?_⟩
  intro k hk hke
  have hkR : k < R.cells.length := by rw [h.len]; exact hk
  have hcR : c < R.cells.length := by rw [h.len]; exact hc
  rw [typedRow_get _ _ _ _ _ _ k hkR, if_neg (by omega)]
  have : C05.printedCell W R.cells c a f (decide (C05.effWidth W f > 1)) k R.cells[k] = R.cells[k] := by
    unfold C05.printedCell
    rw [if_neg (by omega)]
    by_cases hk1 : k + 1 = c
    · have hfc : C05.flagAt R.cells c (·.cont) = false := by
        rw [flagAt_get _ _ hcR]; exact hnc (by omega)
      rw [if_neg (by rw [hfc]; simp), if_neg (by omega), if_neg (by omega)]
    · rw [if_neg (by omega), if_neg (by omega), if_neg (by omega)]
  rw [this]; exact h.lo k hk hke

theorem Lo.erased1 {S : List Cell} {e c : Nat} {R : Row} (h : Lo S e R) (hp : pairThrough false R.cells = some false) (hec : e ≤ c)
    (hc : c < S.length) (hnc : e = c → (R.cells[c]'(by rw [h.len]; exact hc)).cont = false) (w : Bool) (a : Attrs) :
    Lo S e (C07.erasedRow R.cells w c (c + 1) a) ∧
      ((C07.erasedRow R.cells w c (c + 1) a).cells[c]'(by
        simp [C07.erasedRow, C07.eraseRange_length, h.len]; exact hc)).cont = false := by
  have hcR : c < R.cells.length := by rw [h.len]; exact hc
  refine ⟨h.erased hec (fun k hk h1 hke => ?_) w (c + 1) a,
    blankA_cont (erasedRow_view_in R.cells w a hcR (Nat.le_refl c) (Nat.lt_succ_self c))⟩
  have := C07.paired_adjacent hp (List.getElem?_eq_getElem hk) (by rw [h1]; exact List.getElem?_eq_getElem hcR)
  rw [← this]; exact hnc (by omega)

end Vt.DiffRow

namespace Vt.C15wrap
open Vt Vt.Recv Vt.C19 Vt.C09 Vt.RowDraw Vt.C03 Vt.DiffRow

variable {W : Nat → Option Nat} {cb : CbPolicy}

/-- the cells of the receiving line `e` columns into a diff of `S` against `P`: `S` before column `e`, `P` after it; the
cell at `e` is `P`'s, or a plain cell where an erase or a typed character has cut off the second half of a wide
character of `P` -/
structure Mid' (S P : List Cell) (e : Nat) (Ri : Row) : Prop where
  len : Ri.cells.length = S.length
  plen : P.length = S.length
  lo : ∀ k (hk : k < S.length), k < e → view (Ri.cells[k]'(by rw [len]; exact hk)) = view S[k]
  hi : ∀ k (hk : k < S.length), e < k → view (Ri.cells[k]'(by rw [len]; exact hk)) = view (P[k]'(by rw [plen]; exact hk))
  mid : ∀ (hk : e < S.length),
    view (Ri.cells[e]'(by rw [len]; exact hk)) = view (P[e]'(by rw [plen]; exact hk)) ∨
    ((P[e]'(by rw [plen]; exact hk)).cont = true ∧ S[e].cont = false ∧
      (Ri.cells[e]'(by rw [len]; exact hk)).wide = false ∧ (Ri.cells[e]'(by rw [len]; exact hk)).cont = false)

/-- all that the typing lemmas need of the line the receiver shows -/
def WideNext (P : List Cell) : Prop :=
  ∀ j (hj : j < P.length), P[j].wide = true → ∃ hj' : j + 1 < P.length, P[j + 1].cont = true

theorem wideNext_of_src {P : List Cell} (h : SrcOk W P) : WideNext P := fun j hj hw => h.wide_next j hj hw

theorem wideNext_of_paired {P : List Cell} (h : pairThrough false P = some false) : WideNext P := wide_next_of_paired h

theorem full_get {S : List Cell} {Ri : Row} (h : Ri.cells.map view = S.map view) :
    ∃ hl : Ri.cells.length = S.length, ∀ k (hk : k < S.length), view (Ri.cells[k]'(by rw [hl]; exact hk)) = view S[k] := by
  have hl : Ri.cells.length = S.length := by
    have := congrArg List.length h
    simpa only [List.length_map] using this
  refine ⟨hl, fun k hk => ?_⟩
  have := congrArg (fun l => l[k]?) h
  simp only [List.getElem?_map, List.getElem?_eq_getElem (show k < Ri.cells.length by rw [hl]; exact hk),
    List.getElem?_eq_getElem hk, Option.map_some, Option.some.injEq] at this
  exact this

theorem mid_zero {S P : List Cell} {Ri : Row} (hpl : P.length = S.length)
    (hv : Ri.cells.map view = P.map view) : Mid' S P 0 Ri := by
  obtain ⟨hl, hget⟩ := full_get hv
  exact ⟨hl.trans hpl, hpl, fun k hk h => absurd h (Nat.not_lt_zero _), fun k hk _ => hget k (by rw [hpl]; exact hk),
    fun hk => Or.inl (hget 0 (by rw [hpl]; exact hk))⟩

theorem mid_same {S : List Cell} {R : Row} (hv : R.cells.map view = S.map view) (e : Nat) : Mid' S S e R := by
  obtain ⟨hl, hget⟩ := full_get hv
  exact ⟨hl, rfl, fun k hk _ => hget k hk, fun k hk _ => hget k hk, fun hk => Or.inl (hget e hk)⟩

theorem Mid'.toLo {S P : List Cell} {e : Nat} {Ri : Row} (h : Mid' S P e Ri) : Lo S e Ri := ⟨h.len, h.lo⟩

theorem Mid'.full {S P : List Cell} {Ri : Row} (h : Mid' S P S.length Ri) :
    Ri.cells.map view = S.map view := h.toLo.full

theorem Mid'.skip1 {S P : List Cell} {j : Nat} {Ri : Row} (h : Mid' S P j Ri) (hj : j < S.length)
    (hv : view S[j] = view (P[j]'(by rw [h.plen]; exact hj))) : Mid' S P (j + 1) Ri := by
  refine ⟨h.len, h.plen, (h.toLo.succ hj ?_).lo, fun k hk hkj => h.hi k hk (by omega),
    fun hk => Or.inl (h.hi (j + 1) hk (by omega))⟩
  rcases h.mid hj with h1 | ⟨hpc, hsc, _, _⟩
  · rw [h1, hv]
  · have := view_cont hv
    rw [hsc, hpc] at this
    exact absurd this (by simp)

theorem Mid'.skip2 {S P : List Cell} (hS : SrcOk W S) (hP : SrcOk W P) {j : Nat} {Ri : Row} (h : Mid' S P j Ri)
    (hj : j < S.length) (hv : view S[j] = view (P[j]'(by rw [h.plen]; exact hj))) (hw : S[j].wide = true) :
    Mid' S P (j + 2) Ri := by
  have h1 := h.skip1 hj hv
  obtain ⟨hj1, hc1⟩ := hS.wide_next j hj hw
  have hpw : (P[j]'(by rw [h.plen]; exact hj)).wide = true := by rw [← view_wide hv]; exact hw
  obtain ⟨hj1', hc1'⟩ := hP.wide_next j (by rw [h.plen]; exact hj) hpw
  exact h1.skip1 hj1 (by rw [hS.cont_view (j + 1) hj1 hc1, hP.cont_view (j + 1) hj1' hc1'])

theorem erase_run {S P : List Cell} (hS : SrcOk W S) (hpl : P.length = S.length) {e j : Nat} {R : Row} (h : Lo S e R)
    (hej : e < j) (hjl : j ≤ S.length) (a : Attrs)
    (hrun : ∀ k (hk : k < S.length), e ≤ k → k < j → view S[k] = blankA a)
    (hhi : ∀ k (hk : k < S.length), j < k →
      view (R.cells[k]'(by rw [h.len]; exact hk)) = view (P[k]'(by rw [hpl]; exact hk)))
    (hj : ∀ (hk : j < S.length), view (R.cells[j]'(by rw [h.len]; exact hk)) = view (P[j]'(by rw [hpl]; exact hk)) ∨
      ((P[j]'(by rw [hpl]; exact hk)).cont = true ∧ (R.cells[j]'(by rw [h.len]; exact hk)).wide = false ∧
        (R.cells[j]'(by rw [h.len]; exact hk)).cont = false)) (w : Bool) :
    Mid' S P j (C07.erasedRow R.cells w e j a) := by
  have hse : (S[e]'(by omega)).cont = false := blankA_cont (hrun e (by omega) (Nat.le_refl _) hej)
  have hlo := h.erased (Nat.le_refl e) (fun k hk h1 _ => h.narrow_before hS (by omega) hse k hk h1) w j a
  refine ⟨hlo.len, hpl, ?_, ?_, ?_⟩
  · intro k hk hkj
    by_cases hin : e ≤ k
    · rw [erasedRow_view_in R.cells _ a (by rw [h.len]; exact hk) hin hkj, hrun k hk hin hkj]
    · exact hlo.lo k hk (by omega)
  · intro k hk hkj
    have hkR : k < R.cells.length := by rw [h.len]; exact hk
    rw [erasedRow_get _ _ _ _ _ k hkR, C07.rangeCell_outside e j a k _ (Or.inr hkj)]
    exact hhi k hk hkj
  · intro hk
    have hkR : j < R.cells.length := by rw [h.len]; exact hk
    rw [erasedRow_get_hi R.cells _ a hkR hej]
    have hsc : S[j].cont = false := by
      rw [hS.cont_iff j hk, if_neg (by omega)]
      exact blankA_wide (hrun (j - 1) (by omega) (by omega) (by omega))
    by_cases hc : R.cells[j].cont = true
    · -- the erase run ended on the first half of a wide character of `P`: its second half is cleared
      rw [if_pos hc]
      rcases hj hk with hv | ⟨_, _, hnc⟩
      · exact Or.inr ⟨by rw [← view_cont hv]; exact hc, hsc, by simp [Cell.clear], by simp [Cell.clear]⟩
      · rw [hc] at hnc; exact absurd hnc (by simp)
    · rw [if_neg hc]
      exact (hj hk).imp id (fun ⟨hpc, hnw, hnc⟩ => ⟨hpc, hsc, hnw, hnc⟩)

theorem Mid'.erase {S P : List Cell} (hS : SrcOk W S) {e j : Nat} {Ri : Row} (h : Mid' S P e Ri)
    (hej : e < j) (hjl : j ≤ S.length) (a : Attrs)
    (hrun : ∀ k (hk : k < S.length), e ≤ k → k < j → view S[k] = blankA a) :
    Mid' S P j (C07.erasedRow Ri.cells Ri.wrapped e j a) :=
  erase_run hS h.plen h.toLo hej hjl a hrun (fun k hk hkj => h.hi k hk (by omega)) (fun hk => Or.inl (h.hi j hk hej)) _

theorem Mid'.not_cont {S P : List Cell} (hS : SrcOk W S) {j : Nat} {Ri : Row} (h : Mid' S P j Ri)
    (hp : pairThrough false Ri.cells = some false)
    (hj : j < S.length) (hsc : S[j].cont = false) : (Ri.cells[j]'(by rw [h.len]; exact hj)).cont = false := by
  have hjR : j < Ri.cells.length := by rw [h.len]; exact hj
  rw [paired_cont_iff hp j hjR, ← hsc, hS.cont_iff j hj]
  by_cases hj0 : j = 0
  · rw [if_pos hj0, if_pos hj0]
  · rw [if_neg hj0, if_neg hj0]
    exact view_wide (h.lo (j - 1) (by omega) (by omega))

/-- at `j + 1`: as before, unless a wide character was overwritten — its second half has become a plain cell -/
theorem Mid'.typed1_right {S P : List Cell} (hW32 : W 32 = some 1) (hP : WideNext P) {j : Nat} {Ri : Row}
    (h : Mid' S P j Ri) (cols : Nat) (a : Attrs) (f : Nat) (hw : C05.effWidth W f = 1) (cellF : Cell) :
    (∀ k (hk : k < S.length), j + 1 < k →
      view ((typedRow W Ri j cols a f cellF).cells[k]'(by rw [typedRow_length, h.len]; exact hk)) =
        view (P[k]'(by rw [h.plen]; exact hk))) ∧
    ∀ (hk : j + 1 < S.length),
      view ((typedRow W Ri j cols a f cellF).cells[j + 1]'(by rw [typedRow_length, h.len]; exact hk)) =
          view (P[j + 1]'(by rw [h.plen]; exact hk)) ∨
        ((P[j + 1]'(by rw [h.plen]; exact hk)).cont = true ∧
          ((typedRow W Ri j cols a f cellF).cells[j + 1]'(by rw [typedRow_length, h.len]; exact hk)).wide = false ∧
          ((typedRow W Ri j cols a f cellF).cells[j + 1]'(by rw [typedRow_length, h.len]; exact hk)).cont = false) := by
  refine ⟨fun k hk hkj => ?_, fun hk => ?_⟩
  · rw [typedRow_get_gt Ri j cols a f cellF (by rw [h.len]; exact hk) (Or.inr ⟨hkj, hw⟩)]
    exact h.hi k hk (by omega)
  · have hj : j < S.length := by omega
    have hjR : j < Ri.cells.length := by rw [h.len]; exact hj
    have hkR : j + 1 < Ri.cells.length := by rw [h.len]; exact hk
    rw [typedRow_get _ _ _ _ _ _ (j + 1) hkR, if_neg (by omega)]
    have hpc : C05.printedCell W Ri.cells j a f (decide (C05.effWidth W f > 1)) (j + 1) Ri.cells[j + 1] =
        if Ri.cells[j].wide = true then C05.setCell W Ri.cells[j + 1] 32 a else Ri.cells[j + 1] := by
      unfold C05.printedCell
      rw [if_neg (by omega), if_neg (by omega), if_pos rfl, hw, flagAt_get _ _ hjR]
      simp only [Nat.lt_irrefl, decide_false, Bool.false_eq_true, ↓reduceIte, id]
    rw [hpc]
    by_cases hrw : Ri.cells[j].wide = true
    · rw [if_pos hrw]
      refine Or.inr ⟨?_, by simp [C05.setCell, hW32], by simp [C05.setCell]⟩
      rcases h.mid hj with h1 | ⟨_, _, h3, _⟩
      · exact (hP j (by rw [h.plen]; exact hj) (by rw [← view_wide h1]; exact hrw)).2
      · rw [hrw] at h3; exact absurd h3 (by simp)
    · rw [if_neg hrw]
      exact Or.inl (h.hi (j + 1) hk (by omega))

theorem Mid'.typeNarrow {S P : List Cell} (hW32 : W 32 = some 1) (hS : SrcOk W S) (hP : WideNext P) {j : Nat} {Ri : Row}
    (h : Mid' S P j Ri) (hl : Links Ri.cells) (hj : j < S.length) (hsc : S[j].cont = false) (hsw : S[j].wide = false)
    (cols : Nat) (a : Attrs) (f : Nat) (hw : C05.effWidth W f = 1) (cellF : Cell) (hvF : view cellF = view S[j]) :
    Mid' S P (j + 1) (typedRow W Ri j cols a f cellF) := by
  have hlo := (h.toLo.typed (W := W) (Nat.le_refl j) hj (fun _ => h.not_cont hS hl.paired hj hsc) cols a f cellF).succ hj
    (by rw [typedRow_get _ _ _ _ _ _ j (by rw [h.len]; exact hj), if_pos rfl]; exact hvF)
  obtain ⟨hhi, hmid⟩ := h.typed1_right hW32 hP cols a f hw cellF
  refine ⟨hlo.len, h.plen, hlo.lo, hhi, fun hk => (hmid hk).imp id (fun ⟨h1, h2, h3⟩ => ⟨h1, ?_, h2, h3⟩)⟩
  rw [hS.cont_iff (j + 1) hk, if_neg (by omega)]
  exact hsw

theorem Mid'.typeWide {S P : List Cell} (hS : SrcOk W S) (hP : WideNext P) {j : Nat} {Ri : Row}
    (h : Mid' S P j Ri) (hl : Links Ri.cells) (hj : j < S.length) (hsc : S[j].cont = false) (hsw : S[j].wide = true)
    (cols : Nat) (a : Attrs) (f : Nat) (hw : C05.effWidth W f = 2) (cellF : Cell) (hvF : view cellF = view S[j]) :
    Mid' S P (j + 2) (typedRow W Ri j cols a f cellF) := by
  have hjR : j < Ri.cells.length := by rw [h.len]; exact hj
  obtain ⟨hj1, hc1⟩ := hS.wide_next j hj hsw
  have hj1R : j + 1 < Ri.cells.length := by rw [h.len]; exact hj1
  have hnc := h.not_cont hS hl.paired hj hsc
  have hwd : decide (C05.effWidth W f > 1) = true := by rw [hw]; rfl
  have hlo := (h.toLo.typed (W := W) (Nat.le_refl j) hj (fun _ => hnc) cols a f cellF).succ hj
    (by rw [typedRow_get _ _ _ _ _ _ j hjR, if_pos rfl]; exact hvF)
  refine ⟨hlo.len, h.plen, (hlo.succ hj1 ?_).lo, ?_, ?_⟩
  · -- column `j + 1` becomes the second half
    rw [typedRow_get _ _ _ _ _ _ (j + 1) hj1R, if_neg (by omega)]
    have : C05.printedCell W Ri.cells j a f (decide (C05.effWidth W f > 1)) (j + 1) Ri.cells[j + 1] =
        C05.contOf (if C05.flagAt Ri.cells j (·.wide) = true then C05.setCell W Ri.cells[j + 1] 32 a else Ri.cells[j + 1]) := by
      unfold C05.printedCell
      rw [if_neg (by omega), if_neg (by omega), if_pos rfl, hwd]
      simp only [↓reduceIte]
    rw [this, view_contOf, hS.cont_view (j + 1) hj1 hc1]
  · intro k hk hkj
    rw [typedRow_get_gt Ri j cols a f cellF (by rw [h.len]; exact hk) (Or.inl hkj)]
    exact h.hi k hk (by omega)
  · -- column `j + 2` is cleared when the character has cut a wide character of `P` at `j + 1` in two
    intro hk
    have hkR : j + 2 < Ri.cells.length := by rw [h.len]; exact hk
    rw [typedRow_get _ _ _ _ _ _ (j + 2) hkR, if_neg (by omega)]
    have hpc : C05.printedCell W Ri.cells j a f (decide (C05.effWidth W f > 1)) (j + 2) Ri.cells[j + 2] =
        if Ri.cells[j].wide = false ∧ Ri.cells[j + 1].wide = true then Ri.cells[j + 2].clear a else Ri.cells[j + 2] := by
      unfold C05.printedCell
      rw [if_neg (by omega), if_neg (by omega), if_neg (by omega), hwd, flagAt_get _ _ hjR, flagAt_get _ _ hj1R]
      simp only [true_and]
    rw [hpc]
    by_cases hc : Ri.cells[j].wide = false ∧ Ri.cells[j + 1].wide = true
    · rw [if_pos hc]
      refine Or.inr ⟨?_, ?_, by simp [Cell.clear], by simp [Cell.clear]⟩
      · have h1 := h.hi (j + 1) hj1 (by omega)
        have hpw : (P[j + 1]'(by rw [h.plen]; exact hj1)).wide = true := by rw [← view_wide h1]; exact hc.2
        obtain ⟨_, hcc⟩ := hP (j + 1) (by rw [h.plen]; exact hj1) hpw
        exact hcc
      · rw [hS.cont_iff (j + 2) hk, if_neg (by omega)]
        exact (cellOk_cont W _ (hS.cells_ok _ (List.getElem_mem hj1)) hc1).1
    · rw [if_neg hc]
      exact Or.inl (h.hi (j + 2) hk (by omega))

set_option linter.unusedVariables false in -- `hW32`: only a narrow character typed over a wide one writes a space
theorem Mid'.typed2 {S P : List Cell} (hW32 : W 32 = some 1) (hS : SrcOk W S) (hP : WideNext P) {j : Nat} {Ri : Row}
    (h : Mid' S P j Ri) (hci : CellsInv W Ri.cells) (hj : j < S.length) (hsc : S[j].cont = false) (hsw : S[j].wide = true)
    (cols : Nat) (a : Attrs) (f : Nat) (hw : C05.effWidth W f = 2) (cellF : Cell) (hvF : view cellF = view S[j]) :
    Mid' S P (j + 2) (typedRow W Ri j cols a f cellF) :=
  h.typeWide hS hP hci.links hj hsc hsw cols a f hw cellF hvF

theorem Mid'.typeCell {S P : List Cell} (hW32 : W 32 = some 1) (hS : SrcOk W S) (hP : WideNext P) {j : Nat} {Ri : Row}
    (h : Mid' S P j Ri) (hl : Links Ri.cells) (hj : j < S.length) (hsc : S[j].cont = false) (cols : Nat) (a : Attrs)
    (f : Nat) (hw : C05.effWidth W f = if S[j].wide = true then 2 else 1) (cellF : Cell) (hvF : view cellF = view S[j]) :
    Mid' S P (j + if S[j].wide = true then 2 else 1) (typedRow W Ri j cols a f cellF) := by
  by_cases hsw : S[j].wide = true
  · rw [if_pos hsw] at hw ⊢
    exact h.typeWide hS hP hl hj hsc hsw cols a f hw cellF hvF
  · rw [if_neg hsw] at hw ⊢
    exact h.typeNarrow hW32 hS hP hl hj hsc (by simpa using hsw) cols a f hw cellF hvF

end Vt.C15wrap

namespace Vt.DiffRow
open Vt Vt.Recv Vt.C19 Vt.C09 Vt.RowDraw Vt.C03 Vt.C15wrap

variable {W : Nat → Option Nat} {cb : CbPolicy}

/-- `EL` from column `e0`, `e0` columns into a diff whose window ends at `e ≥ e0` -/
theorem erase_tail {S P : List Cell} (hS : SrcOk W S) {e0 e : Nat} {Ri : Row} (h : Mid' S P e0 Ri)
    (he0l : e0 < S.length) (a : Attrs)
    (hrun : ∀ k (hk : k < S.length), e0 ≤ k → k < e → view S[k] = blankA a) (hse : S[e0].cont = false) (w : Bool) :
    Lo S e (C07.erasedRow Ri.cells w e0 S.length a) ∧
      ∀ k, e0 ≤ k → k < S.length → ((C07.erasedRow Ri.cells w e0 S.length a).cells[k]?).map view = some (blankA a) := by
  have hlo := h.toLo.erased (Nat.le_refl e0) (fun k hk h1 _ => h.toLo.narrow_before hS he0l hse k hk h1) w S.length a
  have hin : ∀ k (hk : k < S.length), e0 ≤ k →
      view ((C07.erasedRow Ri.cells w e0 S.length a).cells[k]'(by rw [hlo.len]; exact hk)) = blankA a :=
    fun k hk hk0 => erasedRow_view_in Ri.cells w a (by rw [h.len]; exact hk) hk0 hk
  refine ⟨⟨hlo.len, fun k hk hke => ?_⟩, fun k hk0 hk => ?_⟩
  · by_cases hk0 : e0 ≤ k
    · rw [hin k hk hk0, hrun k hk hk0 hke]
    · exact hlo.lo k hk (by omega)
  · rw [List.getElem?_eq_getElem (by rw [hlo.len]; exact hk), Option.map_some, hin k hk hk0]

/-- `Mid'` on a receiving line whose wrap flag is off -/
structure Mid (S P : List Cell) (e : Nat) (Ri : Row) : Prop where
  unwrapped : Ri.wrapped = false
  len : Ri.cells.length = S.length
  plen : P.length = S.length
  lo : ∀ k (hk : k < S.length), k < e → view (Ri.cells[k]'(by rw [len]; exact hk)) = view S[k]
  hi : ∀ k (hk : k < S.length), e < k → view (Ri.cells[k]'(by rw [len]; exact hk)) = view (P[k]'(by rw [plen]; exact hk))
  mid : ∀ (hk : e < S.length),
    view (Ri.cells[e]'(by rw [len]; exact hk)) = view (P[e]'(by rw [plen]; exact hk)) ∨
    ((P[e]'(by rw [plen]; exact hk)).cont = true ∧ S[e].cont = false ∧
      (Ri.cells[e]'(by rw [len]; exact hk)).wide = false ∧ (Ri.cells[e]'(by rw [len]; exact hk)).cont = false)

theorem Mid.cells {S P : List Cell} {e : Nat} {Ri : Row} (h : Mid S P e Ri) : Mid' S P e Ri :=
  ⟨h.len, h.plen, h.lo, h.hi, h.mid⟩

theorem Mid.of_cells {S P : List Cell} {e : Nat} {Ri : Row} (h : Mid' S P e Ri) (hu : Ri.wrapped = false) : Mid S P e Ri :=
  ⟨hu, h.len, h.plen, h.lo, h.hi, h.mid⟩

theorem Mid.skip1 {S P : List Cell} {j : Nat} {Ri : Row} (h : Mid S P j Ri) (hj : j < S.length)
    (hv : view S[j] = view (P[j]'(by rw [h.plen]; exact hj))) : Mid S P (j + 1) Ri :=
  Mid.of_cells (h.cells.skip1 hj hv) h.unwrapped

set_option linter.unusedVariables false in -- `hP`: erasing does not look at the previous line
theorem Mid.erase {S P : List Cell} (hS : SrcOk W S) (hP : SrcOk W P) {e j : Nat} {Ri : Row} (h : Mid S P e Ri)
    (hej : e < j) (hjl : j ≤ S.length) (a : Attrs)
    (hrun : ∀ k (hk : k < S.length), e ≤ k → k < j → view S[k] = blankA a) :
    Mid S P j (C07.erasedRow Ri.cells Ri.wrapped e j a) :=
  Mid.of_cells (h.cells.erase hS hej hjl a hrun) ((erasedRow_wrapped ..).elim id (·.trans h.unwrapped))

theorem Mid.typed1 {S P : List Cell} (hW32 : W 32 = some 1) (hS : SrcOk W S) (hP : SrcOk W P) {j : Nat} {Ri : Row}
    (h : Mid S P j Ri) (hci : CellsInv W Ri.cells) (hj : j < S.length) (hsc : S[j].cont = false) (hsw : S[j].wide = false)
    (cols : Nat) (a : Attrs) (f : Nat) (hw : C05.effWidth W f = 1) (cellF : Cell) (hvF : view cellF = view S[j]) :
    Mid S P (j + 1) (typedRow W Ri j cols a f cellF) :=
  Mid.of_cells (h.cells.typeNarrow hW32 hS (wideNext_of_src hP) hci.links hj hsc hsw cols a f hw cellF hvF)
    ((typedRow_wrapped ..).elim id (·.trans h.unwrapped))

set_option linter.unusedVariables false in -- `hW32`: only a narrow character typed over a wide one writes a space
theorem Mid.typed2 {S P : List Cell} (hW32 : W 32 = some 1) (hS : SrcOk W S) (hP : SrcOk W P) {j : Nat} {Ri : Row}
    (h : Mid S P j Ri) (hci : CellsInv W Ri.cells) (hj : j < S.length) (hsc : S[j].cont = false) (hsw : S[j].wide = true)
    (cols : Nat) (a : Attrs) (f : Nat) (hw : C05.effWidth W f = 2) (cellF : Cell) (hvF : view cellF = view S[j]) :
    Mid S P (j + 2) (typedRow W Ri j cols a f cellF) :=
  Mid.of_cells (h.cells.typeWide hS (wideNext_of_src hP) hci.links hj hsc hsw cols a f hw cellF hvF)
    ((typedRow_wrapped ..).elim id (·.trans h.unwrapped))

/-- the predicate `Q` on the receiving line's wrap flag survives the ECH / EL and the typing of a diff of `S`
against `P` -/
structure KeepsFlag (W : Nat → Option Nat) (S P : List Cell) (Q : Bool → Prop) : Prop where
  erase : ∀ {e j : Nat} {Ri : Row}, Mid' S P e Ri → Q Ri.wrapped → e < j → j ≤ S.length → ∀ a : Attrs,
    (∀ k (hk : k < S.length), e ≤ k → k < j → view S[k] = blankA a) →
    Q (C07.erasedRow Ri.cells Ri.wrapped e j a).wrapped
  /-- `cols` is the width the receiver passes to `typedRow`: equal to `S.length`, but another term -/
  typed : ∀ {j : Nat} {Ri : Row}, Mid' S P j Ri → Q Ri.wrapped → ∀ (hj : j < S.length),
    S[j].cont = false → ∀ (cols : Nat), cols = S.length → ∀ (a : Attrs) (f : Nat) (cellF : Cell),
    C05.effWidth W f = (if S[j].wide = true then 2 else 1) → Q (typedRow W Ri j cols a f cellF).wrapped

/-- nothing a diff writes inside a line sets its wrap flag -/
theorem KeepsFlag.of_clear {S P : List Cell} {Q : Bool → Prop} (hclr : ∀ w, Q w → Q false) : KeepsFlag W S P Q where
  erase _ hq _ _ _ _ := flag_pred hclr hq (erasedRow_wrapped ..)
  typed _ hq _ _ _ _ _ _ _ _ := flag_pred hclr hq (typedRow_wrapped ..)

/-! The loop of a window `[s, s + n)` runs on the source line masked with the PREVIOUS line on `[0, s)`, so that "shows the
masked source on columns `< e`" is "shows the previous line left of the window and the current line inside it". -/

def maskP (pre src : List Cell) (s : Nat) : List Cell := pre.take s ++ src.drop s

theorem maskP_length (pre src : List Cell) (s : Nat) (hp : s ≤ pre.length) (hs : s ≤ src.length) :
    (maskP pre src s).length = src.length := by
  simp [maskP, List.length_take]; omega

theorem maskP_drop (pre src : List Cell) (s : Nat) (hp : s ≤ pre.length) : (maskP pre src s).drop s = src.drop s := by
  unfold maskP
  have hl : (pre.take s).length = s := by simp [List.length_take]; omega
  rw [List.drop_append_of_le_length (by omega)]
  rw [List.drop_of_length_le (by omega)]
  simp

theorem maskP_getElem? (pre src : List Cell) (s k : Nat) (hp : s ≤ pre.length) :
    (maskP pre src s)[k]? = if k < s then pre[k]? else src[k]? := by
  have hl : (pre.take s).length = s := by simp [List.length_take]; omega
  unfold maskP
  by_cases hk : k < s
  · rw [if_pos hk, List.getElem?_append_left (by rw [hl]; exact hk)]
    simp [hk]
  · rw [if_neg hk, List.getElem?_append_right (by rw [hl]; omega), hl, List.getElem?_drop]
    rw [show s + (k - s) = k by omega]

theorem maskP_getElem (pre src : List Cell) (s k : Nat) (hpl : pre.length = src.length) (hs : s ≤ src.length)
    (hk : k < (maskP pre src s).length) :
    (maskP pre src s)[k] = if k < s then pre[k]'(by rw [maskP_length pre src s (by omega) hs] at hk; omega)
      else src[k]'(by rw [maskP_length pre src s (by omega) hs] at hk; exact hk) := by
  have hks := hk
  rw [maskP_length pre src s (by omega) hs] at hks
  have h := maskP_getElem? pre src s k (by omega)
  rw [List.getElem?_eq_getElem hk] at h
  by_cases hlt : k < s
  · rw [if_pos hlt, List.getElem?_eq_getElem (by omega)] at h
    rw [if_pos hlt]; exact Option.some.inj h
  · rw [if_neg hlt, List.getElem?_eq_getElem hks] at h
    rw [if_neg hlt]; exact Option.some.inj h

theorem mem_maskP {pre src : List Cell} {s : Nat} {c : Cell} (h : c ∈ maskP pre src s) : c ∈ pre ∨ c ∈ src := by
  simp only [maskP, List.mem_append] at h
  rcases h with h | h
  · exact Or.inl (List.mem_of_mem_take h)
  · exact Or.inr (List.mem_of_mem_drop h)

theorem srcOk_maskP {pre src : List Cell} (hP : SrcOk W pre) (hS : SrcOk W src) (hpl : pre.length = src.length)
    (s : Nat) (hs : s < src.length) (hLp : (pre[s]'(by omega)).cont = false) (hL : src[s].cont = false) :
    SrcOk W (maskP pre src s) := by
  have hml := maskP_length pre src s (by omega) (Nat.le_of_lt hs)
  refine ⟨?_, ?_, ?_, ?_⟩
  · intro c hc
    rcases mem_maskP hc with hc | hc
    · exact hP.cells_ok c hc
    · exact hS.cells_ok c hc
  · unfold maskP
    rw [pairThrough_append]
    obtain ⟨p, e1, e2, _⟩ := pairThrough_split (List.getElem?_eq_getElem (show s < pre.length by omega)) hP.paired
    rw [e1, ← e2, hLp]
    simp only [Option.bind_some]
    obtain ⟨_, _, _, e3⟩ := pairThrough_split (List.getElem?_eq_getElem hs) hS.paired
    rw [List.drop_eq_getElem_cons hs, pairThrough, hL]
    simp only [beq_self_eq_true, ↓reduceIte]
    exact e3
  · intro j hj
    rw [hml, maskP_getElem pre src s j hpl (Nat.le_of_lt hs) hj]
    by_cases hjs : j < s
    · rw [if_pos hjs]
      have := hP.emit_ok j (by omega)
      simp only [hpl] at this
      exact this
    · rw [if_neg hjs]
      exact hS.emit_ok j (by omega)
  · intro c hc hcc
    rcases mem_maskP hc with hc | hc
    · exact hP.cont_default c hc hcc
    · exact hS.cont_default c hc hcc

/-- `h`: the window's edge at column `s` does not split a wide character -/
theorem edge_cont {l : List Cell} (hl : SrcOk W l) {s : Nat} (hs : s < l.length)
    (h : s = 0 ∨ ∀ c, l[s]? = some c → c.cont = false) : l[s].cont = false := by
  rcases h with h0 | h
  · rw [hl.cont_iff s hs, if_pos h0]
  · exact h _ (List.getElem?_eq_getElem hs)

theorem edge_wide {l : List Cell} (hl : SrcOk W l) {e : Nat} (he0 : 0 < e) (hel : e ≤ l.length)
    (h : e = l.length ∨ ∀ c, l[e]? = some c → c.cont = false) : (l[e - 1]'(by omega)).wide = false := by
  by_cases hlt : e < l.length
  · rcases h with h | h
    · omega
    · have := h _ (List.getElem?_eq_getElem hlt)
      rw [hl.cont_iff e hlt, if_neg (by omega)] at this
      exact this
  · have : e - 1 = l.length - 1 := by omega
    simp only [this]
    exact hl.last_narrow (by omega)

theorem Lo.window {pre src : List Cell} {s e : Nat} {R : Row} (h : Lo (maskP pre src s) e R) (hpl : pre.length = src.length)
    (hse : s ≤ e) (hel : e ≤ src.length) :
    (∀ k, s ≤ k → k < e → (R.cells[k]?).map view = (src[k]?).map view) ∧
      (∀ k, k < s → (R.cells[k]?).map view = (pre[k]?).map view) ∧ R.cells.length = src.length := by
  have hml := maskP_length pre src s (by omega) (by omega)
  refine ⟨fun k hk1 hk2 => ?_, fun k hk => ?_, h.len.trans hml⟩
  · rw [h.get? k hk2 (by omega), maskP_getElem pre src s k hpl (by omega) (by omega), if_neg (by omega),
      List.getElem?_eq_getElem (show k < src.length by omega)]
    rfl
  · rw [h.get? k (by omega) (by omega), maskP_getElem pre src s k hpl (by omega) (by omega), if_pos hk,
      List.getElem?_eq_getElem (show k < pre.length by omega)]
    rfl

end Vt.DiffRow
