import Vt.Props.C11b
import Vt.Lemmas.Recv
import Vt.Props.InvPerform
import Vt.Lemmas.Scrolls
import Vt.Props.C10b
import Vt.Lemmas.Modes
/-
  C11 (more) — DECSC / DECRC across arbitrary input, the four entry / exit combinations of the alternate screen, the pen,
  the byte level, and the resize callback.

  The Rust keeps `saved_pos` and `saved_origin_mode` in EACH `Grid` (primary and alternate have their own) and `saved_attrs`
  once, in `Screen` (shared).  These five components (`savedAll`) are written only by DECSC (active grid, and the pen),
  `CSI ? 1049 h` (a DECSC, then `Grid::clear` resets the alternate grid's saved cursor to (0,0) / origin off), RIS, and
  `set_size`, which clamps both saved positions (API call, or the resize callback of `CSI 8 ; r ; c t` if it calls it).
-/
namespace Vt.C11
open Vt Vt.C12

/-- the saved cursor of one grid -/
def _root_.Vt.Grid.sv (g : Grid) : Pos × Bool := (g.savedPos, g.savedOriginMode)

abbrev GS (v : Pos × Bool) (g : Grid) : Prop := g.sv = v

abbrev SvKept (g g' : Grid) : Prop := g'.sv = g.sv

/-- nothing that draws, moves the cursor or scrolls writes the saved cursor -/
theorem sv_scrolls : Scrolls SvKept where
  trans h1 h2 := h2.trans h1
  draws d := (congrArg Grid.sv d :)
  step g := (congrArg Grid.sv (suF_same g) :)

theorem DrawOp.svKept {p : Attrs} {f : Grid → M Grid} (hf : DrawOp p f) (g : Grid) : MPred (SvKept g) (f g) :=
  (hf.draws g).mono fun _ d => sv_scrolls.draws d

section sv
variable {v : Pos × Bool} {g : Grid}

theorem appendToPrev_sv (hg : GS v g) (row col c : Nat) : MPred (GS v) (g.appendToPrev row col c) :=
  ((appendToPrev_passes row col c).footprint g).mono fun _ d => (sv_scrolls.draws d.draws).trans hg

end sv

/-- the saved cursor of each grid and the one saved pen (`Screen::saved_attrs`, shared by both screens) -/
structure SavedAll where
  prim : Pos × Bool
  alt : Pos × Bool
  pen : Attrs
  deriving DecidableEq, Repr

def savedAll (s : Screen) : SavedAll := ⟨s.grid.sv, s.altGrid.sv, s.savedAttrs⟩

abbrev SS (v : SavedAll) (s : Screen) : Prop := savedAll s = v

section ss
variable {v : SavedAll} {s : Screen}

theorem SS.setCur (hs : SS v s) {g : Grid} (h : SvKept s.cur g) : SS v (s.setCur g) := by
  unfold Screen.setCur; unfold Screen.cur at h
  split <;> rename_i ha <;> simp only [ha, ↓reduceIte, Bool.false_eq_true] at h
  · exact (congrArg (SavedAll.mk s.grid.sv · s.savedAttrs) h).trans hs
  · exact (congrArg (SavedAll.mk · s.altGrid.sv s.savedAttrs) h).trans hs

theorem modifyGrid_ss {f : Grid → M Grid} (hf : ∀ g, MPred (SvKept g) (f g)) (hs : SS v s) :
    MPred (SS v) (s.modifyGrid f) :=
  MPred.modifyGrid (hf _) fun _ => hs.setCur

theorem enterAlternateGrid_ss (hs : SS v s) : MPred (SS v) s.enterAlternateGrid := by
  unfold Screen.enterAlternateGrid
  refine MPred.bind (modifyGrid_ss (fun _ => MPred.pure rfl) hs) fun a h' => MPred.pure ?_
  exact (congrArg (SavedAll.mk a.grid.sv · a.savedAttrs) (sv_scrolls.draws (Grid.DrawsRow.draws (allocateRows_passes.footprint a.altGrid)))).trans h'

theorem exitAlternateGrid_ss (hs : SS v s) : SS v s.exitAlternateGrid := hs

theorem sRestoreCursor_ss (hs : SS v s) : MPred (SS v) s.restoreCursor :=
  MPred.bind (modifyGrid_ss (fun _ => MPred.pure rfl) hs) fun _ h' => MPred.pure h'

theorem setOriginMode_svKept (g : Grid) (m : Bool) : MPred (SvKept g) (g.setOriginMode m) :=
  ((setOriginMode_passes m).footprint g).mono fun _ d => sv_scrolls.draws (g := { g with originMode := m }) d.draws

end ss

/-- `cbNone` has it; `cbResize` is not claimed to (`set_size` clamps the saved positions): for it,
`perform_saved_cbResize` excludes the resize request instead. -/
def CbSaved (cb : CbPolicy) : Prop := ∀ e s v, SS v s → MPred (SS v) (cb e s)

theorem cbNone_saved : CbSaved cbNone := fun _ _ _ hs => MPred.pure hs

/-- **the actions that write a saved cursor or the saved pen**: DECSC (`ESC 7`), RIS (`ESC c`),
and a DECSET list containing 1049 (bytes: 55 = `7`, 99 = `c`, 63 = `?`, 104 = `h`) -/
def Saves : Action → Bool
  | .escDispatch [] _ 55 => true
  | .escDispatch [] _ 99 => true
  | .csiDispatch params (63 :: _) _ 104 => params.any (fun p => p == [1049])
  | _ => false

/-- apart from the three, every step of `perform` is a callback, a pen or mode change, an operation on the active grid
that draws, moves the cursor or scrolls, DECRC, or the margins -/
theorem perform_ss (W : Nat → Option Nat) {cb : CbPolicy} (hcb : CbSaved cb) (v : SavedAll) (a : Action)
    (hsv : Saves a = false) : WPred (SS v) (fun ws => perform W cb ws a) :=
  have hemit (e : Event) : WPred (SS v) (emit cb e) := .emit (fun e s h => hcb e s v h) e
  have hgrid {f : Screen → Grid → M Grid} (hf : ∀ s g, MPred (SvKept g) (f s g)) :
      WPred (SS v) (fun ws => ws.onScreen fun s => s.modifyGrid (f s)) :=
    .onScreen fun s h => modifyGrid_ss (hf s) h
  have no1049 {ps : List (List Nat)} (hp : [1049] ∈ ps) (hs : ps.any (fun p => p == [1049]) = false) {Q : Prop} : Q :=
    absurd (List.any_eq_false.mp hs _ hp) (by simp)
  perform_cases W (C := fun a F => Saves a = false → WPred (SS v) (F cb))
    (nop := fun _ _ => .pure)
    (emit := fun _ e _ _ => hemit e)
    (emit2 := fun _ e1 e2 _ _ _ => .bind (hemit e1) (hemit e2))
    (draw := fun _ f hf _ => hgrid fun s => DrawOp.svKept (hf s.attrs))
    (deckpam := fun _ _ _ h => MPred.pure h)
    (deckpnm := fun _ _ _ h => MPred.pure h)
    (lf := fun _ _ _ => hgrid fun _ g => MPred.bind (sv_scrolls.rowIncScroll g 1) fun _ hp => MPred.pure hp)
    (text := fun c _ _ _ => hgrid fun s g => sv_scrolls.text g W s.attrs c)
    (su := fun _ _ _ => hgrid fun _ g => sv_scrolls.scrollUp g _)
    (decsc := fun _ hs => nomatch hs)
    (decrc := fun _ _ => .onScreen fun _ h => sRestoreCursor_ss h)
    (ris := fun _ hs => nomatch hs)
    (decstbm := fun _ _ _ => .onScreen fun _ h => MPred.bind_any _ fun _ => MPred.bind_any _ fun _ =>
      modifyGrid_ss (fun g => ((setScrollRegion_passes _ _).footprint g).mono fun _ e => congrArg Grid.sv e) h)
    (resize := fun _ _ _ ws h => hemit _ ws h)
    (seq := fun _ _ _ _ h hs => .steps fun st hst => h st hst hs)
    (pen := fun _ _ _ _ _ _ h => MPred.pure h)
    (mode := fun _ _ _ _ _ _ _ _ h => MPred.pure h)
    (origin := fun _ _ _ _ _ _ _ => hgrid fun _ g => setOriginMode_svKept g _)
    (enter := fun _ _ _ _ => .onScreen fun _ h => enterAlternateGrid_ss h)
    (save1049 := fun _ _ _ hp hs => no1049 hp hs)
    (clear1049 := fun _ _ _ hp hs => no1049 hp hs)
    (exit := fun _ _ _ _ _ _ h => MPred.pure h)
    (restore1049 := fun _ _ _ _ _ => .onScreen fun _ h => sRestoreCursor_ss h)
    a hsv

/-- **C11, frame of the saved cursor, one action.**  Every action other than DECSC, RIS and
`CSI ? 1049 h` leaves the saved cursor position and saved origin mode of BOTH grids and the saved
pen unchanged (callback without effect on them, e.g. `()`; for a resizing callback see
`perform_saved_cbResize`). -/
theorem perform_saved (W : Nat → Option Nat) {cb : CbPolicy} (hcb : CbSaved cb) (a : Action)
    (hsv : Saves a = false) (ws ws' : WS) (h : perform W cb ws a = .ok ws') :
    savedAll ws'.screen = savedAll ws.screen :=
  MPred.iff.mp (perform_ss W hcb _ a hsv ws rfl) ws' h

theorem actions_saved (W : Nat → Option Nat) {cb : CbPolicy} (hcb : CbSaved cb) :
    ∀ (acts : List Action) (ws ws' : WS), (∀ a ∈ acts, Saves a = false) →
      acts.foldlM (perform W cb) ws = .ok ws' → savedAll ws'.screen = savedAll ws.screen :=
  fun acts ws ws' hs h => MPred.iff.mp (WPred.foldlM (fun a => perform_ss W hcb _ a) acts hs ws rfl) ws' h

theorem saved_of_savedAll {a b : Screen} (h : savedAll a = savedAll b) (hf : a.altScreen = b.altScreen) :
    saved a = saved b := by
  simp only [savedAll, SavedAll.mk.injEq, Grid.sv, Prod.mk.injEq] at h
  obtain ⟨⟨h1, h2⟩, ⟨h3, h4⟩, h5⟩ := h
  simp only [saved, Screen.cur, hf]
  cases b.altScreen <;> simp [h1, h2, h3, h4, h5]

def savedOther (s : Screen) : Pos × Bool := if s.altScreen then s.grid.sv else s.altGrid.sv

theorem saved_of_savedAll_other {a b : Screen} (h : savedAll a = savedAll b) (hf : a.altScreen ≠ b.altScreen) :
    saved a = ⟨(savedOther b).1, (savedOther b).2, b.savedAttrs⟩ := by
  simp only [savedAll, SavedAll.mk.injEq, Grid.sv, Prod.mk.injEq] at h
  obtain ⟨⟨h1, h2⟩, ⟨h3, h4⟩, h5⟩ := h
  simp only [saved, Screen.cur, savedOther, Grid.sv]
  cases ha : a.altScreen <;> cases hb : b.altScreen <;> simp_all

theorem savedOther_decscOf (s : Screen) : savedOther (decscOf s) = savedOther s := by
  simp only [decscOf, savedOther]
  by_cases h : s.altScreen = true <;> simp [h, Grid.sv, Grid.saveCursor]

/-- **C11, DECSC … DECRC.**  DECSC, then ANY list of actions other than DECSC / RIS / `?1049h` (`?47h` / `?47l` /
`?1049l` included), then DECRC:
 * the pen is the pen DECSC saw (the saved pen is shared by both screens);
 * if the same screen (primary / alternate) is active at the DECRC as at the DECSC, the cursor
   position and origin mode are exactly those DECSC saw — DECRC does not clamp;
 * if the other screen is active, position and origin mode come from THAT grid's own saved cursor
   as it was at the time of the DECSC (each grid has its own). -/
theorem decsc_frame_decrc (W : Nat → Option Nat) {cb : CbPolicy} (hcb : CbSaved cb) (ig ig' : Bool)
    (ws0 ws1 ws2 ws3 : WS) (h1 : perform W cb ws0 (.escDispatch [] ig 55) = .ok ws1)
    (acts : List Action) (hacts : ∀ a ∈ acts, Saves a = false)
    (h2 : acts.foldlM (perform W cb) ws1 = .ok ws2)
    (h3 : perform W cb ws2 (.escDispatch [] ig' 56) = .ok ws3) :
    ws3.screen.attrs = ws0.screen.attrs ∧
    (ws2.screen.altScreen = ws0.screen.altScreen → live ws3.screen = live ws0.screen) ∧
    (ws2.screen.altScreen ≠ ws0.screen.altScreen →
      ws3.screen.cur.pos = (savedOther ws0.screen).1 ∧
      ws3.screen.cur.originMode = (savedOther ws0.screen).2) := by
  rw [perform_decsc] at h1
  rw [perform_decrc] at h3
  simp only [Except.ok.injEq] at h1 h3
  subst h1 h3
  have hfr := actions_saved W hcb acts _ ws2 hacts h2
  obtain ⟨hsv, hfl⟩ := saved_decscOf ws0.screen
  simp only at hfr ⊢
  have hpen : (decrcOf ws2.screen).attrs = ws0.screen.attrs := by
    have e1 : (decrcOf ws2.screen).attrs = ws2.screen.savedAttrs := congrArg Saved.pen (live_decrcOf ws2.screen)
    have e2 : ws2.screen.savedAttrs = (decscOf ws0.screen).savedAttrs := congrArg SavedAll.pen hfr
    have e3 : (decscOf ws0.screen).savedAttrs = ws0.screen.attrs := congrArg Saved.pen hsv
    rw [e1, e2, e3]
  refine ⟨hpen, ?_, ?_⟩
  · intro hsame
    rw [live_decrcOf, saved_of_savedAll hfr (hsame.trans hfl.symm), hsv]
  · intro hne
    have hl := live_decrcOf ws2.screen
    rw [saved_of_savedAll_other hfr (fun e => hne (e.trans hfl)), savedOther_decscOf] at hl
    simp only [live, Saved.mk.injEq] at hl
    exact ⟨hl.1, hl.2.1⟩

/-- DECRC without any DECSC before it (new parser, any input that does not save): the cursor goes
home, origin mode is switched off and the pen is reset — on either screen -/
theorem decrc_fresh (W : Nat → Option Nat) {cb : CbPolicy} (hcb : CbSaved cb) (rows cols sb : Nat)
    (p : Parser) (hp : Parser.new rows cols sb = .ok p)
    (acts : List Action) (hacts : ∀ a ∈ acts, Saves a = false) (ws2 ws3 : WS)
    (h2 : acts.foldlM (perform W cb) p.ws = .ok ws2) (ig : Bool)
    (h3 : perform W cb ws2 (.escDispatch [] ig 56) = .ok ws3) :
    live ws3.screen = ⟨⟨0, 0⟩, false, Attrs.default⟩ := by
  rw [perform_decrc] at h3
  simp only [Except.ok.injEq] at h3
  subst h3
  have hfr := actions_saved W hcb acts _ ws2 hacts h2
  have h0 : savedAll p.ws.screen = ⟨(⟨0, 0⟩, false), (⟨0, 0⟩, false), Attrs.default⟩ := by
    obtain ⟨s, hs, e⟩ := bind_eq_ok.mp hp
    cases e
    exact (C13.new_of_ok hs).2 ▸ rfl
  rw [h0] at hfr
  simp only [savedAll, SavedAll.mk.injEq, Grid.sv, Prod.mk.injEq] at hfr
  obtain ⟨⟨a1, a2⟩, ⟨a3, a4⟩, a5⟩ := hfr
  rw [live_decrcOf]
  simp only [saved, Screen.cur]
  cases ws2.screen.altScreen <;> simp [a1, a2, a3, a4, a5]

/-- the exclusions are needed: each of the three excluded actions, and `set_size`, changes what
DECRC restores.  TESTS (concrete runs of the model on a 4x6 screen, cursor saved at (2,4)):
after `ESC 7` + X + `ESC 8` the cursor is at …  -/
def decscProbe (mid : List Nat) (resize : Option (Nat × Nat)) : M (Pos × Bool) := do
  let p ← Parser.new 4 6 2
  let p ← p.process (fun _ => some 1) cbNone [0x1B, 0x5B, 51, 0x3B, 53, 72, 0x1B, 0x5B, 49, 109, 0x1B, 55]
  let p ← p.process (fun _ => some 1) cbNone mid
  let p ← match resize with
    | some (r, c) => do let s ← p.ws.screen.setSize r c; pure { p with ws := { p.ws with screen := s } }
    | none => pure p
  let p ← p.process (fun _ => some 1) cbNone [0x1B, 56]
  pure (p.screen.cur.pos, decide (p.screen.attrs.intensity = .bold))

def yields {α} [DecidableEq α] (m : M α) (a : α) : Bool := isOkTrue (do let r ← m; pure (decide (r = a)))

/-- TEST (non-vacuity of `decsc_frame_decrc`): text, LF, SGR 0, CUP home, `?6h`, `?47h`, text,
`?47l` in between — restored to (2,4), bold -/
theorem decsc_probe_frame :
    yields (decscProbe [97, 98, 10, 10, 10, 0x1B, 0x5B, 48, 109, 0x1B, 0x5B, 72, 0x1B, 0x5B, 0x3F, 54, 104,
      0x1B, 0x5B, 0x3F, 52, 55, 104, 120, 0x1B, 0x5B, 0x3F, 52, 55, 108] none) (⟨2, 4⟩, true) = true := by
  decide +kernel

/-- TEST: a second DECSC in between (at home, pen reset) wins -/
theorem decsc_probe_decsc :
    yields (decscProbe [0x1B, 0x5B, 72, 0x1B, 0x5B, 48, 109, 0x1B, 55, 97] none) (⟨0, 0⟩, false) = true := by
  decide +kernel

/-- TEST: RIS in between resets what is saved -/
theorem decsc_probe_ris : yields (decscProbe [0x1B, 99, 97, 98] none) (⟨0, 0⟩, false) = true := by
  decide +kernel

/-- TEST: `?1049h` in between, from the alternate screen's point of view: DECRC on the alternate
screen restores that grid's saved cursor, which `?1049h` cleared to home; the pen is the shared one -/
theorem decsc_probe_1049 :
    yields (decscProbe [0x1B, 0x5B, 0x3F, 49, 48, 52, 57, 104, 97] none) (⟨0, 0⟩, true) = true := by
  decide +kernel

/-- TEST: `set_size(2,3)` in between clamps the saved position (2,4) to (1,2) — DECRC itself never
clamps, `Grid::set_size` does -/
theorem decsc_probe_resize : yields (decscProbe [97] (some (2, 3))) (⟨1, 2⟩, true) = true := by
  decide +kernel

/-- `CSI 8 ; r ; c t`, the one sequence that reaches `Callbacks::resize` -/
def isResizeReq : Action → Bool
  | .csiDispatch params [] _ 116 => xtOp params == some 8
  | _ => false

theorem er1 : emit cbResize .audibleBell = emit cbNone .audibleBell := rfl
theorem er2 : emit cbResize .visualBell = emit cbNone .visualBell := rfl
theorem er3 (s) : emit cbResize (.setWindowIconName s) = emit cbNone (.setWindowIconName s) := rfl
theorem er4 (s) : emit cbResize (.setWindowTitle s) = emit cbNone (.setWindowTitle s) := rfl
theorem er5 (c) : emit cbResize (.unhandledChar c) = emit cbNone (.unhandledChar c) := rfl
theorem er6 (c) : emit cbResize (.unhandledControl c) = emit cbNone (.unhandledControl c) := rfl
theorem er7 (a b c) : emit cbResize (.unhandledEscape a b c) = emit cbNone (.unhandledEscape a b c) := rfl
theorem er8 (a b c d) : emit cbResize (.unhandledCsi a b c d) = emit cbNone (.unhandledCsi a b c d) := rfl
theorem er9 (p) : emit cbResize (.unhandledOsc p) = emit cbNone (.unhandledOsc p) := rfl

/-- **with the resizing callback, every action except `CSI 8 ; r ; c t` does exactly what it does
with a callback object that leaves the screen alone** (same screen, same events): every theorem proved for `cbNone`
transfers to `cbResize` for all other input. -/
theorem perform_cbResize_eq (W : Nat → Option Nat) (ws : WS) (a : Action) (h : isResizeReq a = false) :
    perform W cbResize ws a = perform W cbNone ws a := by
  by_cases h116 : ∃ ps ig, a = .csiDispatch ps [] ig 116
  · -- `CSI … t` with another first parameter is unhandled
    obtain ⟨ps, ig, rfl⟩ := h116
    have hx : (xtOp ps == some 8) = false := h
    simp only [perform, performCsi, hx, Bool.false_eq_true, ↓reduceIte]
    rfl
  -- no other step hands the callbacks a `resize` event, and on every other event the two policies agree
  have hemit {e : Event} (he : ∀ r c, e ≠ .resize r c) : emit cbResize e = emit cbNone e := by
    cases e with
    | resize r c => exact absurd rfl (he r c)
    | _ => rfl
  exact congrFun (perform_cases W
    (C := fun a F => (∀ ps ig, a ≠ .csiDispatch ps [] ig 116) → F cbResize = F cbNone)
    (nop := fun _ _ => rfl)
    (emit := fun _ _ he _ => hemit he)
    (emit2 := fun _ _ _ h1 h2 _ => by simp only [hemit h1, hemit h2])
    (draw := fun _ _ _ _ => rfl)
    (deckpam := fun _ _ => rfl)
    (deckpnm := fun _ _ => rfl)
    (lf := fun _ _ _ => rfl)
    (text := fun _ _ _ _ => rfl)
    (su := fun _ _ _ => rfl)
    (decsc := fun _ _ => rfl)
    (decrc := fun _ _ => rfl)
    (ris := fun _ _ => rfl)
    (decstbm := fun _ _ _ => rfl)
    (resize := fun ps ig hn => absurd rfl (hn ps ig))
    (seq := fun _ _ _ _ h hn => funext fun ws => runSteps_congr _ (fun st hst ws => congrFun (h st hst hn) ws) ws)
    (pen := fun _ _ _ _ _ => rfl)
    (mode := fun _ _ _ _ _ _ _ => rfl)
    (origin := fun _ _ _ _ _ _ _ => rfl)
    (enter := fun _ _ _ _ => rfl)
    (save1049 := fun _ _ _ _ _ => rfl)
    (clear1049 := fun _ _ _ _ _ => rfl)
    (exit := fun _ _ _ _ _ => rfl)
    (restore1049 := fun _ _ _ _ _ => rfl)
    a fun ps ig e => h116 ⟨ps, ig, e⟩) ws

theorem actions_cbResize_eq (W : Nat → Option Nat) :
    ∀ (acts : List Action) (ws : WS), (∀ a ∈ acts, isResizeReq a = false) →
      acts.foldlM (perform W cbResize) ws = acts.foldlM (perform W cbNone) ws :=
  fun acts ws h => (MRel.eq_iff _ _).mp (foldlM_rel (ok := fun a => isResizeReq a = false)
    (fun a w _ ha e => e ▸ perform_cbResize_eq W w a ha ▸ MRel.refl (fun _ => rfl) _) acts h ws ws rfl)

/-- **C11 isolation with a resizing callback**: while the alternate screen is active, every action
other than RIS, `?47l`, `?1049l` AND `CSI 8 ; r ; c t` leaves the whole primary grid unchanged.
(`Screen::set_size` resizes BOTH grids — legitimately: see `resize_breaks_isolation`.) -/
theorem alt_isolation_cbResize (W : Nat → Option Nat) (ws ws' : WS) (a : Action)
    (ha : ws.screen.altScreen = true) (hal : Leaves a = false) (hrz : isResizeReq a = false)
    (h : perform W cbResize ws a = .ok ws') :
    ws'.screen.grid = ws.screen.grid ∧ ws'.screen.altScreen = true := by
  rw [perform_cbResize_eq W ws a hrz] at h
  exact alt_isolation W cbNone_keeps ws ws' a ha hal h

theorem alt_isolation_stream_cbResize (W : Nat → Option Nat) (acts : List Action) (ws ws' : WS)
    (ha : ws.screen.altScreen = true) (hal : ∀ a ∈ acts, Leaves a = false)
    (hrz : ∀ a ∈ acts, isResizeReq a = false) (h : acts.foldlM (perform W cbResize) ws = .ok ws') :
    ws'.screen.grid = ws.screen.grid ∧ ws'.screen.altScreen = true := by
  rw [actions_cbResize_eq W acts ws hrz] at h
  exact alt_isolation_stream W cbNone_keeps acts ws ws' ha hal h

theorem perform_saved_cbResize (W : Nat → Option Nat) (a : Action) (hsv : Saves a = false)
    (hrz : isResizeReq a = false) (ws ws' : WS) (h : perform W cbResize ws a = .ok ws') :
    savedAll ws'.screen = savedAll ws.screen := by
  rw [perform_cbResize_eq W ws a hrz] at h
  exact perform_saved W cbNone_saved a hsv ws ws' h

/-- TEST — the exception is real.  4x6 parser whose `resize` callback calls `set_size`; draw on
the primary screen, `?47h`, `CSI 8 ; 2 ; 3 t`: the alternate screen is still active and the
PRIMARY grid now has 2 rows of 3 cells (it had 4 of 6).  (`¬ CbKeeps cbResize`: `cbResize_not_keeps` below.) -/
theorem resize_breaks_isolation :
    isOkTrue (do
      let p ← Parser.new 4 6 0
      let p1 ← p.process (fun _ => some 1) cbResize [97, 98, 99, 0x1B, 0x5B, 0x3F, 52, 55, 104]
      let p2 ← p1.process (fun _ => some 1) cbResize [0x1B, 0x5B, 56, 0x3B, 50, 0x3B, 51, 116]
      pure (p1.screen.altScreen && p2.screen.altScreen && decide (p1.screen.grid.size = ⟨4, 6⟩) &&
        decide (p2.screen.grid.size = ⟨2, 3⟩) && decide (p2.screen.grid.rows.length = 2) &&
        decide (p2.screen.grid ≠ p1.screen.grid))) = true := by
  decide +kernel

def rzScreen : Screen :=
  { (default : Screen) with
    grid := C13.newGrid 4 6 0
    altGrid := C13.newGrid 4 6 0
    altScreen := true }

/-- so `alt_isolation`'s hypothesis `CbKeeps cb` really excludes the resizing callback -/
theorem cbResize_not_keeps : ¬ Vt.C11.CbKeeps cbResize := by
  intro hk
  have h1 : isOkTrue (do
      let s' ← cbResize (.resize 2 3) rzScreen
      pure (decide (s'.grid ≠ rzScreen.grid))) = true := by decide +kernel
  cases e : cbResize (.resize 2 3) rzScreen with
  | error _ => rw [e] at h1; simp [isOkTrue] at h1
  | ok s' =>
    have := (hk _ _ _ rfl e).1
    rw [e] at h1
    simp [isOkTrue, this] at h1

/-- field by field: in ALL FOUR combinations the cells and wrap flags (`rows`), the size, the
scroll region, the scrollback lines and capacity of the primary grid are unchanged and the view
offset is 0.  The cursor:
  47 → 47     : position / origin mode untouched (they could not change: nothing was drawn here);
  1049 → 1049 : restored to what they were on entry;
  1049 → 47   : untouched, but the primary grid's SAVED cursor was overwritten on entry;
  47 → 1049   : replaced by the primary grid's saved cursor — the last DECSC made on the primary
                screen, or (0,0) / origin off if there was none. -/
theorem round_trip_grid (pin pout : List Nat) (g : Grid) :
    (gridLeft pout (gridEntered pin g)).rows = g.rows ∧
    (gridLeft pout (gridEntered pin g)).size = g.size ∧
    (gridLeft pout (gridEntered pin g)).scrollTop = g.scrollTop ∧
    (gridLeft pout (gridEntered pin g)).scrollBottom = g.scrollBottom ∧
    (gridLeft pout (gridEntered pin g)).scrollback = g.scrollback ∧
    (gridLeft pout (gridEntered pin g)).scrollbackLen = g.scrollbackLen ∧
    (gridLeft pout (gridEntered pin g)).scrollbackOffset = 0 ∧
    (gridLeft pout (gridEntered pin g)).pos =
      (if pout = [1049] ∧ pin ≠ [1049] then g.savedPos else g.pos) ∧
    (gridLeft pout (gridEntered pin g)).originMode =
      (if pout = [1049] ∧ pin ≠ [1049] then g.savedOriginMode else g.originMode) ∧
    (gridLeft pout (gridEntered pin g)).savedPos = (if pin = [1049] then g.pos else g.savedPos) ∧
    (gridLeft pout (gridEntered pin g)).savedOriginMode =
      (if pin = [1049] then g.originMode else g.savedOriginMode) := by
  by_cases h1 : pin = [1049] <;> by_cases h2 : pout = [1049] <;>
    simp [gridLeft, gridEntered, h1, h2, Grid.saveCursor, Grid.restoreCursor, Grid.setScrollback]

theorem alt_round_trip_47_1049 (W : Nat → Option Nat) {cb : CbPolicy} (hcb : Vt.C11.CbKeeps cb) (ws : WS)
    (hs : ws.screen.altScreen = false) (s1 : Screen) (h1 : ws.screen.decsetOne [47] = .ok (some s1))
    (acts : List Action) (hl : ∀ a ∈ acts, Leaves a = false) (ws2 : WS)
    (h2 : acts.foldlM (perform W cb) { ws with screen := s1 } = .ok ws2)
    (s3 : Screen) (h3 : ws2.screen.decrstOne [1049] = .ok (some s3)) :
    s3.altScreen = false ∧
    s3.grid = { ws.screen.grid with
      scrollbackOffset := 0, pos := ws.screen.grid.savedPos, originMode := ws.screen.grid.savedOriginMode } ∧
    s3.attrs = ws2.screen.savedAttrs := by
  obtain ⟨a, b, c, _⟩ := alt_round_trip W hcb ws hs [47] [1049] (Or.inl rfl) (Or.inr rfl) s1 h1 acts hl ws2 h2 s3 h3
  refine ⟨a, ?_, by simpa using c⟩
  rw [b]
  simp [gridLeft, gridEntered, Grid.restoreCursor, Grid.setScrollback]

theorem alt_round_trip_1049_47 (W : Nat → Option Nat) {cb : CbPolicy} (hcb : Vt.C11.CbKeeps cb) (ws : WS)
    (hs : ws.screen.altScreen = false) (s1 : Screen) (h1 : ws.screen.decsetOne [1049] = .ok (some s1))
    (acts : List Action) (hl : ∀ a ∈ acts, Leaves a = false) (ws2 : WS)
    (h2 : acts.foldlM (perform W cb) { ws with screen := s1 } = .ok ws2)
    (s3 : Screen) (h3 : ws2.screen.decrstOne [47] = .ok (some s3)) :
    s3.altScreen = false ∧
    s3.grid = { ws.screen.grid with
      scrollbackOffset := 0, savedPos := ws.screen.grid.pos, savedOriginMode := ws.screen.grid.originMode } ∧
    s3.attrs = ws2.screen.attrs := by
  obtain ⟨a, b, c, _⟩ := alt_round_trip W hcb ws hs [1049] [47] (Or.inr rfl) (Or.inl rfl) s1 h1 acts hl ws2 h2 s3 h3
  refine ⟨a, ?_, by simpa using c⟩
  rw [b]
  simp [gridLeft, gridEntered, Grid.saveCursor, Grid.setScrollback]

/-- **the pen of `?1049h … ?1049l`.**  `?1049h` saves the pen into the one shared `saved_attrs`,
`?1049l` makes `saved_attrs` the pen.  So the pen comes back to its value on entry PROVIDED no DECSC
and no further `?1049h` was processed on the alternate screen (`Saves`); otherwise the pen after
leaving is the one saved last (`pen_1049_not_isolated`).  The cursor position has no such proviso:
it is kept in the primary grid, which the alternate screen cannot reach. -/
theorem alt_round_trip_1049_pen (W : Nat → Option Nat) {cb : CbPolicy} (hcb : Vt.C11.CbKeeps cb)
    (hsv : CbSaved cb) (ws : WS)
    (hs : ws.screen.altScreen = false) (s1 : Screen) (h1 : ws.screen.decsetOne [1049] = .ok (some s1))
    (acts : List Action) (hl : ∀ a ∈ acts, Leaves a = false) (hns : ∀ a ∈ acts, Saves a = false)
    (ws2 : WS) (h2 : acts.foldlM (perform W cb) { ws with screen := s1 } = .ok ws2)
    (s3 : Screen) (h3 : ws2.screen.decrstOne [1049] = .ok (some s3)) :
    s3.attrs = ws.screen.attrs ∧ s3.grid.pos = ws.screen.grid.pos ∧
    s3.grid.originMode = ws.screen.grid.originMode := by
  obtain ⟨_, b, c, _⟩ := alt_round_trip W hcb ws hs [1049] [1049] (Or.inr rfl) (Or.inr rfl) s1 h1 acts hl ws2 h2 s3 h3
  have hfr := actions_saved W hsv acts _ ws2 hns h2
  have hpen : ws2.screen.savedAttrs = s1.savedAttrs := congrArg SavedAll.pen hfr
  obtain ⟨_, e1⟩ := enter1049_eq _ hs (enter1049_rows _ _ hs h1)
  rw [e1] at h1
  simp only [Except.ok.injEq, Option.some.injEq] at h1
  subst h1
  refine ⟨?_, ?_, ?_⟩
  · rw [c]; simp only [↓reduceIte, hpen, entered1049]
  · rw [b]; simp [gridLeft, gridEntered, Grid.saveCursor, Grid.restoreCursor, Grid.setScrollback]
  · rw [b]; simp [gridLeft, gridEntered, Grid.saveCursor, Grid.restoreCursor, Grid.setScrollback]

/-- TEST — without the proviso the pen is NOT restored: default pen, `?1049h`, SGR 1 (bold),
`ESC 7` on the alternate screen, `?1049l`: the pen is bold; the cursor (moved to (1,2) before
entering, moved and saved elsewhere on the alternate screen) is back at (1,2). -/
theorem pen_1049_not_isolated :
    isOkTrue (do
      let p ← Parser.new 3 5 0
      let p ← p.process (fun _ => some 1) cbNone [0x1B, 0x5B, 50, 0x3B, 51, 72]
      let p ← p.process (fun _ => some 1) cbNone
        [0x1B, 0x5B, 0x3F, 49, 48, 52, 57, 104, 0x1B, 0x5B, 49, 109, 97, 0x1B, 55,
         0x1B, 0x5B, 0x3F, 49, 48, 52, 57, 108]
      pure (decide (p.screen.attrs.intensity = .bold) && decide (p.screen.grid.pos = ⟨1, 2⟩) &&
        !p.screen.altScreen)) = true := by
  decide +kernel

/-! ## byte level

The sequences as BYTES, parsed by the vte model from a ready parser (Ground state, nothing pending:
`C09.Ready`), then performed.  `esc7` = `ESC 7`, `esc8` = `ESC 8`, `altSeq n 104` = `ESC [ ? n h`,
`altSeq n 108` = `ESC [ ? n l` with `n` in decimal. -/

open Vt.Tok

def esc7 : List Nat := [0x1B, 55]
def esc8 : List Nat := [0x1B, 56]
def altSeq (n final : Nat) : List Nat := [0x1B, 0x5B, 0x3F] ++ Term.itoa n ++ [final]

theorem altSeq_vals :
    altSeq 47 104 = [0x1B, 0x5B, 0x3F, 52, 55, 104] ∧
    altSeq 1049 104 = [0x1B, 0x5B, 0x3F, 49, 48, 52, 57, 104] ∧
    altSeq 47 108 = [0x1B, 0x5B, 0x3F, 52, 55, 108] ∧
    altSeq 1049 108 = [0x1B, 0x5B, 0x3F, 49, 48, 52, 57, 108] := by decide +kernel

theorem tok_esc7 : Tok esc7 [.escDispatch [] false 55] := tok_esc 55 (by omega)
theorem tok_esc8 : Tok esc8 [.escDispatch [] false 56] := tok_esc 56 (by omega)

theorem perform_enter47 (W : Nat → Option Nat) (cb : CbPolicy) (ws : WS) (hs : ws.screen.altScreen = false) :
    perform W cb ws (.csiDispatch [[47]] [0x3F] false 104) = .ok { ws with screen := entered47 ws.screen } := by
  simp [perform, performCsi, decset, List.foldlM, enter47_eq _ hs]

theorem perform_enter1049 (W : Nat → Option Nat) (cb : CbPolicy) (ws : WS) (hs : ws.screen.altScreen = false)
    (hr : 1 ≤ ws.screen.altGrid.size.rows) :
    perform W cb ws (.csiDispatch [[1049]] [0x3F] false 104) =
      .ok { ws with screen := entered1049 ws.screen (clearedGrid ws.screen.altGrid) } := by
  simp [perform, performCsi, decset, List.foldlM, (enter1049_eq _ hs hr).2]

theorem perform_exit47 (W : Nat → Option Nat) (cb : CbPolicy) (ws : WS) :
    perform W cb ws (.csiDispatch [[47]] [0x3F] false 108) = .ok { ws with screen := ws.screen.exitAlternateGrid } := by
  simp [perform, performCsi, decrst, List.foldlM, exit47_eq]

theorem perform_exit1049 (W : Nat → Option Nat) (cb : CbPolicy) (ws : WS) :
    perform W cb ws (.csiDispatch [[1049]] [0x3F] false 108) = .ok { ws with screen := left1049 ws.screen } := by
  simp [perform, performCsi, decrst, List.foldlM, exit1049_eq]

theorem perform_decset1 {W : Nat → Option Nat} {cb : CbPolicy} {p : List Nat} (hp : C10.handledParam p = true)
    {ws ws' : WS} {ig : Bool} (h : perform W cb ws (.csiDispatch [p] [0x3F] ig 104) = .ok ws') :
    ∃ s1, ws.screen.decsetOne p = .ok (some s1) ∧ ws' = { ws with screen := s1 } := by
  simp only [perform, performCsi, decset, List.foldlM_cons, List.foldlM_nil, bind_pure] at h
  obtain ⟨o, ho, h⟩ := bind_eq_ok.mp h
  obtain ⟨s1, rfl⟩ := ws.screen.decsetOne_some hp ho
  exact ⟨s1, ho, (Except.ok.inj h).symm⟩

theorem perform_decrst1 {W : Nat → Option Nat} {cb : CbPolicy} {p : List Nat} (hp : C10.handledParam p = true)
    {ws ws' : WS} {ig : Bool} (h : perform W cb ws (.csiDispatch [p] [0x3F] ig 108) = .ok ws') :
    ∃ s1, ws.screen.decrstOne p = .ok (some s1) ∧ ws' = { ws with screen := s1 } := by
  simp only [perform, performCsi, decrst, List.foldlM_cons, List.foldlM_nil, bind_pure] at h
  obtain ⟨o, ho, h⟩ := bind_eq_ok.mp h
  obtain ⟨s1, rfl⟩ := ws.screen.decrstOne_some hp ho
  exact ⟨s1, ho, (Except.ok.inj h).symm⟩

theorem process_decsc (W : Nat → Option Nat) (cb : CbPolicy) (p : Parser) (hr : C09.Ready p) :
    ∃ p', p.process W cb esc7 = .ok p' ∧ p'.ws = { p.ws with screen := decscOf p.ws.screen } ∧ C09.Ready p' :=
  process_tok1 tok_esc7 p hr _ (perform_decsc ..)

theorem process_decrc (W : Nat → Option Nat) (cb : CbPolicy) (p : Parser) (hr : C09.Ready p) :
    ∃ p', p.process W cb esc8 = .ok p' ∧ p'.ws = { p.ws with screen := decrcOf p.ws.screen } ∧ C09.Ready p' :=
  process_tok1 tok_esc8 p hr _ (perform_decrc ..)

theorem process_enter47 (W : Nat → Option Nat) (cb : CbPolicy) (p : Parser) (hr : C09.Ready p)
    (hs : p.ws.screen.altScreen = false) :
    ∃ p', p.process W cb (altSeq 47 104) = .ok p' ∧
      p'.ws = { p.ws with screen := entered47 p.ws.screen } ∧ C09.Ready p' :=
  process_tok1 (C10.tok_private_one 47 104 (by omega) (by omega)) p hr _ (perform_enter47 W cb _ hs)

theorem process_enter1049 (W : Nat → Option Nat) (cb : CbPolicy) (p : Parser) (hr : C09.Ready p)
    (hs : p.ws.screen.altScreen = false) (hrows : 1 ≤ p.ws.screen.altGrid.size.rows) :
    ∃ p', p.process W cb (altSeq 1049 104) = .ok p' ∧
      p'.ws = { p.ws with screen := entered1049 p.ws.screen (clearedGrid p.ws.screen.altGrid) } ∧
      C09.Ready p' :=
  process_tok1 (C10.tok_private_one 1049 104 (by omega) (by omega)) p hr _ (perform_enter1049 W cb _ hs hrows)

theorem process_exit47 (W : Nat → Option Nat) (cb : CbPolicy) (p : Parser) (hr : C09.Ready p) :
    ∃ p', p.process W cb (altSeq 47 108) = .ok p' ∧
      p'.ws = { p.ws with screen := p.ws.screen.exitAlternateGrid } ∧ C09.Ready p' :=
  process_tok1 (C10.tok_private_one 47 108 (by omega) (by omega)) p hr _ (perform_exit47 ..)

theorem process_exit1049 (W : Nat → Option Nat) (cb : CbPolicy) (p : Parser) (hr : C09.Ready p) :
    ∃ p', p.process W cb (altSeq 1049 108) = .ok p' ∧
      p'.ws = { p.ws with screen := left1049 p.ws.screen } ∧ C09.Ready p' :=
  process_tok1 (C10.tok_private_one 1049 108 (by omega) (by omega)) p hr _ (perform_exit1049 ..)

/-- **C11 on bytes, DECSC … DECRC**: `ESC 7`, then any chunk `mid` none of whose actions is DECSC /
RIS / `?1049h` and after which the parser is back in Ground, then `ESC 8`. -/
theorem process_decsc_frame_decrc (W : Nat → Option Nat) {cb : CbPolicy} (hcb : CbSaved cb)
    (p0 p1 p2 p3 : Parser) (hr : C09.Ready p0) (h1 : p0.process W cb esc7 = .ok p1)
    (mid : List Nat) (h2 : p1.process W cb mid = .ok p2)
    (hmid : ∀ a ∈ (p1.vte.advance mid).2, Saves a = false) (hr2 : C09.Ready p2)
    (h3 : p2.process W cb esc8 = .ok p3) :
    p3.screen.attrs = p0.screen.attrs ∧
    (p2.screen.altScreen = p0.screen.altScreen → live p3.screen = live p0.screen) ∧
    (p2.screen.altScreen ≠ p0.screen.altScreen →
      p3.screen.cur.pos = (savedOther p0.screen).1 ∧
      p3.screen.cur.originMode = (savedOther p0.screen).2) := by
  obtain ⟨_, a1, rfl⟩ := (process_tok tok_esc7 hr).mp h1
  obtain ⟨_, a3, rfl⟩ := (process_tok tok_esc8 hr2).mp h3
  rw [Recv.foldlM_single] at a1 a3
  exact decsc_frame_decrc W hcb false false p0.ws _ p2.ws _ a1 _ hmid (C18.process_actions h2) a3

/-- **C11 on bytes, all four combinations**: `ESC [ ? pin h` on the primary screen, then any chunk
`mid` none of whose actions is RIS / `?47l` / `?1049l` and after which the parser is back in
Ground, then `ESC [ ? pout l`, for `pin`, `pout` ∈ {47, 1049}. -/
theorem process_alt_round_trip (W : Nat → Option Nat) {cb : CbPolicy} (hcb : Vt.C11.CbKeeps cb)
    (pin pout : Nat) (hin : pin = 47 ∨ pin = 1049) (hout : pout = 47 ∨ pout = 1049)
    (p0 p1 p2 p3 : Parser) (hr : C09.Ready p0) (hs : p0.screen.altScreen = false)
    (h1 : p0.process W cb (altSeq pin 104) = .ok p1)
    (mid : List Nat) (h2 : p1.process W cb mid = .ok p2)
    (hmid : ∀ a ∈ (p1.vte.advance mid).2, Leaves a = false) (hr2 : C09.Ready p2)
    (h3 : p2.process W cb (altSeq pout 108) = .ok p3) :
    p3.screen.altScreen = false ∧
    p3.screen.grid = gridLeft [pout] (gridEntered [pin] p0.screen.grid) ∧
    p3.screen.attrs = (if pout = 1049 then p2.screen.savedAttrs else p2.screen.attrs) ∧
    p3.ws.events = p2.ws.events := by
  have hpin : pin ≤ 65535 := by rcases hin with rfl | rfl <;> omega
  have hpout : pout ≤ 65535 := by rcases hout with rfl | rfl <;> omega
  obtain ⟨w1, a1, rfl⟩ := (process_tok (C10.tok_private_one pin 104 hpin (by omega)) hr).mp h1
  obtain ⟨w3, a3, rfl⟩ := (process_tok (C10.tok_private_one pout 108 hpout (by omega)) hr2).mp h3
  rw [Recv.foldlM_single] at a1 a3
  obtain ⟨s1, e1, rfl⟩ := perform_decset1 (by rcases hin with rfl | rfl <;> decide) a1
  obtain ⟨s3, e3, rfl⟩ := perform_decrst1 (by rcases hout with rfl | rfl <;> decide) a3
  obtain ⟨r1, r2, r3, _⟩ := alt_round_trip W hcb p0.ws hs [pin] [pout]
    (by rcases hin with rfl | rfl <;> simp) (by rcases hout with rfl | rfl <;> simp)
    s1 e1 _ hmid p2.ws (C18.process_actions h2) s3 e3
  refine ⟨r1, r2, ?_, rfl⟩
  simp only [Parser.screen, r3]
  rcases hout with rfl | rfl <;> simp

/-- TEST (non-vacuity of the byte-level statements): on a 3x5 parser with one line of history,
cursor at (1,2), pen underlined — `?47h`, text that scrolls the alternate screen, SGR 0, `?1049l`:
back on the primary screen, its rows / history untouched, cursor at the (never set) saved position
(0,0), pen = saved pen = default. -/
theorem bytes_47_1049_test :
    isOkTrue (do
      let p ← Parser.new 3 5 4
      let p0 ← p.process (fun _ => some 1) cbNone
        [97, 10, 98, 10, 99, 10, 100, 0x1B, 0x5B, 50, 0x3B, 51, 72, 0x1B, 0x5B, 52, 109]
      let p1 ← p0.process (fun _ => some 1) cbNone (altSeq 47 104)
      let p2 ← p1.process (fun _ => some 1) cbNone [120, 10, 10, 10, 10, 121, 0x1B, 0x5B, 48, 109]
      let p3 ← p2.process (fun _ => some 1) cbNone (altSeq 1049 108)
      pure (!p3.screen.altScreen && decide (p3.screen.grid.rows = p0.screen.grid.rows) &&
        decide (p3.screen.grid.scrollback = p0.screen.grid.scrollback) &&
        decide (p0.screen.grid.scrollback.length = 1) &&
        decide (p0.screen.grid.pos = ⟨1, 2⟩) && decide (p3.screen.grid.pos = ⟨0, 0⟩) &&
        decide (p2.screen.altGrid.scrollback = []) &&
        p0.screen.attrs.underline && !p3.screen.attrs.underline)) = true := by
  decide +kernel

end Vt.C11
