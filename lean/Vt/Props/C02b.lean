/-
  C02 (continued) — a universal instance of the diff property: the two screens have the same rows
  (`S.cur.rows = P.cur.rows`) and differ in the cursor position (anywhere, the pending-wrap column included), the pen,
  the cursor visibility and the input modes only.

  `Reproduces q P` (C01full): the receiver `q` is in the state a reproduction of `P` leaves it in (`C01.fresh_redraw`
  establishes it).  `state_diff_of_rows` is `S.state_diff(P)` around ANY run of the loop over the lines that leaves the
  receiver showing the lines of `S` (a hypothesis: `state_diff_reproduces` in DiffWrap supplies the loop for changed
  lines; here the lines are equal and the loop writes nothing).  `state_diff_cursor_only` concludes `Reproduces q' S`,
  so the statement chains: a single receiver fed `diff(S1,S0)`, `diff(S2,S1)`, … stays equal to the latest snapshot as
  long as only those components change.

  The property is false of the crate in general (listed findings F8a, F8b, F9, F12), all of which need cells
  to differ; this theorem is the part that involves none of the row machinery that fails there.
-/
import Vt.Props.C01full
namespace Vt.C02
open Vt Vt.Recv Vt.C19 Vt.C09 Vt.RowDraw Vt.GridDraw Vt.Tok Vt.C03 Vt.C01

variable {W : Nat → Option Nat} {cb : CbPolicy}

/-- **`state_diff` around the loop over the lines**: a receiver that reproduces `P` is fed `S.state_diff(P)`: the cursor
visibility, then the lines — any run of `Grid.diffRowsLoop` after which the receiver shows the lines of `S` (the
hypothesis `hlines`, on the parser `q1` after the cursor-visibility bytes) —, then C01's `cursor_fixup`, the pen, the
input modes.  It reproduces `S` and reports no event. -/
theorem state_diff_of_rows (hW : WOk W) {q : Parser} (P S : Screen) (hq : Reproduces q P)
    (hoffS : S.cur.scrollbackOffset = 0) (hoffP : P.cur.scrollbackOffset = 0) (hS : SrcScreen W S)
    (hlines : ∀ q1, q.process W cb (if S.hideCursor != P.hideCursor then Term.hideCursor S.hideCursor else []) = .ok q1 →
      Ready q1 → rsOf q1.ws = rsOf q.ws → ∃ out np na R',
        Grid.diffRowsLoop S.cur.size.cols (S.cur.rows.zip P.cur.rows) 0 false false P.cur.pos P.attrs [] = .ok (out, np, na) ∧
        Emitted W cb q1 out R' ∧ R'.pen = na ∧ Attrs.wf na ∧
        RowsInv S.cur.rows S.cur.size.cols S.cur.rows.length false np R' ∧ np.col ≤ S.cur.size.cols ∧
        R'.g.scrollbackOffset = (rsOf q1.ws).g.scrollbackOffset) :
    ∃ bytes q', S.stateDiff P = .ok bytes ∧ q.process W cb bytes = .ok q' ∧ Reproduces q' S ∧
      q'.ws.events = q.ws.events := by
  have hvS := C19.visibleRows_offset0 S.cur hoffS
  have hvP := C19.visibleRows_offset0 P.cur hoffP
  obtain ⟨q1, e1, w1ev, r1, hrs1, hh1, hm1⟩ : ∃ q1,
      q.process W cb (if S.hideCursor != P.hideCursor then Term.hideCursor S.hideCursor else []) = .ok q1 ∧
      q1.ws.events = q.ws.events ∧ Ready q1 ∧ rsOf q1.ws = rsOf q.ws ∧ q1.ws.screen.hideCursor = S.hideCursor ∧
      C10.inputModes q1.ws.screen = C10.inputModes q.ws.screen := by
    by_cases hd : (S.hideCursor != P.hideCursor) = true
    · obtain ⟨q1, e1, w1, r1⟩ := C10.process_hideCursor W cb q S.hideCursor hq.ready
      rw [if_pos hd]
      exact ⟨q1, e1, by rw [w1], r1, by rw [w1]; exact rsOf_hide _ _, by rw [w1], by rw [w1]; rfl⟩
    · have hd' : S.hideCursor = P.hideCursor := by simpa using hd
      rw [if_neg hd]
      exact ⟨q, C04.process_nil W cb q hq.ready.2, rfl, hq.ready, rfl, by rw [hq.hide, hd'], rfl⟩
  obtain ⟨out, np, na, R', eloop, hem', hpen', hwf, hinvS, hnp, hoff'⟩ := hlines q1 e1 r1 hrs1
  obtain ⟨cur, ecur, Rf, hemf, hpenf, hinvf, hofff⟩ := cursor_fixup (cb := cb) hW r1 S.cur hS.rows hS.alloc hS.cur_row hS.cur_col
    hem' hpen' hwf hinvS (some np) (fun p hp => by cases hp; exact ⟨rfl, hnp⟩)
  obtain ⟨q2, e2, r2, hdr, hrs2, k2⟩ := pen_tail (cb := cb) r1 S hS.pen_wf hemf hpenf hinvf
  obtain ⟨q3, e3, w3, r3⟩ := C10.process_input_mode_diff W cb q2 S P r2 (by rw [k2.modes, hm1, hq.modes])
  have hrs3 : rsOf q3.ws = rsOf q2.ws := by rw [w3]; rfl
  have egrid : S.cur.writeContentsDiff P.cur P.attrs = .ok (out ++ cur, na) := by
    have : S.cur.writeCursorPositionFormatted (some np) (some na) = .ok cur := ecur
    simp only [Grid.writeContentsDiff, hvS, hvP, ok_bind, eloop, this, pure_eq_ok]
  refine ⟨_, q3, by simp only [Screen.stateDiff, Screen.writeContentsDiff, egrid, ok_bind, pure_eq_ok]; rfl, ?_,
    ⟨r3, by show RowsInv _ _ _ false _ (rsOf q3.ws); rw [hrs3]; exact hdr, by rw [hrs3, hrs2],
      by rw [w3]; exact k2.hide.trans hh1, by rw [w3]; rfl,
      by rw [hrs3, hrs2]; show Rf.g.scrollbackOffset = 0; rw [hofff, hoff', hrs1]; exact hq.off⟩,
    by rw [w3]; exact k2.events.trans w1ev⟩
  have s2 := process_then W cb hq.ready (process_then W cb hq.ready e1 r1 e2) r2 e3
  simpa [List.append_assoc, Screen.inputModeDiff] using s2

/-- **C02, cursor / pen / visibility / modes only**: `S` has the rows of `P`; a receiver that reproduces
`P`, fed the bytes of `S.state_diff(P)`, reproduces `S` (and reports no event) -/
theorem state_diff_cursor_only (hW : WOk W) {q : Parser} (P S : Screen) (hq : Reproduces q P)
    (hrows : S.cur.rows = P.cur.rows) (hsz : S.cur.size = P.cur.size)
    (hoffS : S.cur.scrollbackOffset = 0) (hoffP : P.cur.scrollbackOffset = 0)
    (hS : SrcScreen W S) (hPcol : P.cur.pos.col ≤ P.cur.size.cols) (hPwf : Attrs.wf P.attrs) :
    ∃ bytes q', S.stateDiff P = .ok bytes ∧ q.process W cb bytes = .ok q' ∧ Reproduces q' S ∧
      q'.ws.events = q.ws.events := by
  -- the rows emit nothing
  refine state_diff_of_rows hW P S hq hoffS hoffP hS fun q1 _ r1 hrs1 =>
    ⟨[], P.cur.pos, P.attrs, rsOf q1.ws, by rw [hrows]; exact C19.diffRowsLoop_self .., emitted_nil W cb q1 r1,
      by rw [hrs1]; exact hq.pen, hPwf, by rw [hrs1, hrows, hsz]; exact hq.drawn, by rw [hsz]; exact hPcol, rfl⟩

/-- **C02 for two screens that show the same lines**: a new parser fed `P.state_formatted()` and then
`S.state_diff(P)` ends in the observable state of `S` — for every `P`, `S` satisfying the invariants (every
reachable screen, `reachable_emitInv`), not scrolled back, of the same size and with the same lines; they may
differ in the cursor (anywhere), the pen, the cursor visibility and the five input modes -/
theorem diff_after_redraw (hW : WOk W) (P S : Screen) (hP : emitInvB W P = true) (hSi : emitInvB W S = true)
    (hoffP : P.cur.scrollbackOffset = 0) (hoffS : S.cur.scrollbackOffset = 0)
    (hrows : S.cur.rows = P.cur.rows) (hsz : S.cur.size = P.cur.size) (sb : Nat) :
    ∃ q b1 q1 b2 q2, Parser.new P.cur.size.rows P.cur.size.cols sb = .ok q ∧ P.stateFormatted = .ok b1 ∧
      q.process W cb b1 = .ok q1 ∧ S.stateDiff P = .ok b2 ∧ q1.process W cb b2 = .ok q2 ∧
      obs q2.screen = obs S ∧ q2.ws.events = [] := by
  obtain ⟨q, b1, q1, enew, eb1, ep1, hrep, hev1⟩ := fresh_redraw (cb := cb) hW P hP hoffP sb
  have hSP := srcScreen_of_inv hP hoffP
  have hSS := srcScreen_of_inv hSi hoffS
  obtain ⟨b2, q2, eb2, ep2, hrep2, hev2⟩ := state_diff_cursor_only (cb := cb) hW P S hrep hrows hsz hoffS hoffP hSS
    hSP.cur_col hSP.pen_wf
  exact ⟨q, b1, q1, b2, q2, enew, eb1, ep1, eb2, ep2, shows_obs (shows_of_reproduces hrep2 hSS.alloc) hrep2.modes hoffS,
    hev2.trans hev1⟩

/-- the hypotheses are satisfiable by two different screens: "ab" with the cursor after it, and the same text with
the cursor moved home, a red pen and the cursor hidden (kernel-evaluated; a test) -/
theorem diff_after_redraw_nonvacuous :
    isOkTrue (do
      let p ← C02.run 2 3 0 [[97, 98]]
      let s ← C02.run 2 3 0 [[97, 98, 0x1b, 0x5b, 0x48, 0x1b, 0x5b, 0x33, 0x31, 0x6d, 0x1b, 0x5b, 0x3f, 0x32, 0x35, 0x6c]]
      pure (emitInvB W0 p.screen && emitInvB W0 s.screen && p.screen.cur.scrollbackOffset == 0 &&
            s.screen.cur.scrollbackOffset == 0 && s.screen.cur.rows == p.screen.cur.rows &&
            s.screen.cur.size == p.screen.cur.size && s.screen.cur.pos != p.screen.cur.pos &&
            s.screen.attrs != p.screen.attrs && s.screen.hideCursor != p.screen.hideCursor)) = true := by
  decide +kernel

end Vt.C02
