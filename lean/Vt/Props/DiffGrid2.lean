/-
  Vt.Props.DiffGrid2 — C02 with soft-wrapped lines that the diff does not touch: a special case of `DiffWrap`.

  Each line `i` of the pair is

    plain  — wrapped in neither screen, and the line above it is not wrapped in S
             (so the emitter runs with `wrapping = false` and nothing about wrap flags is at stake), or
    frozen — the same in both screens (cell views and wrap flag), and the line above it has the same wrap flag in
             both (so the emitter writes nothing for it: `C19.row_diff_look_alike`).

  Such lines satisfy the side conditions of `state_diff_wrapped` for trivial reasons (`lineOkW_of_lineOk`), hence
  `state_diff_mixed`.  `state_diff_unwrapped` of DiffGrid (all lines plain) is an instance; `state_diff_cursor_only` of
  C02b (equal row lists) is proved on its own, without the parser invariant.  A long wrapped paragraph that stays on
  the screen while other lines are rewritten is covered.
-/
import Vt.Props.DiffWrap
namespace Vt.C02
open Vt Vt.Recv Vt.C19 Vt.C09 Vt.RowDraw Vt.GridDraw Vt.Tok Vt.C03 Vt.C01 Vt.Bytes Vt.DiffRow

variable {W : Nat → Option Nat} {cb : CbPolicy}

/-- line `i` of the pair is plain or frozen -/
def LineOk (srows prows : List Row) (i : Nat) : Prop :=
  (((srows[i]?).map (·.wrapped)).getD false = false ∧ ((prows[i]?).map (·.wrapped)).getD false = false ∧
      wrapAbove srows i = false) ∨
  ((∃ r p, srows[i]? = some r ∧ prows[i]? = some p ∧ RowSame r p) ∧ wrapAbove srows i = wrapAbove prows i)

structure RowsInvM (srows prows : List Row) (cols i : Nat) (pp : Pos) (R : RS) : Prop where
  canvas : Canvas R.g
  hcols : R.g.size.cols = cols
  nrows : R.g.size.rows = srows.length
  plen : prows.length = srows.length
  pos : R.g.pos = pp
  row : ∀ k (hk : k < srows.length), ∃ Rk, R.g.rows[k]? = some Rk ∧
    (k < i → Rk.cells.map view = srows[k].cells.map view ∧ Rk.wrapped = srows[k].wrapped) ∧
    (i ≤ k → Rk.cells.map view = (prows[k]'(by rw [plen]; exact hk)).cells.map view ∧
      Rk.wrapped = (prows[k]'(by rw [plen]; exact hk)).wrapped)

theorem map_view_of_listRel {l1 l2 : List Cell} (h : ListRel SameView l1 l2) : l1.map view = l2.map view :=
  listRel_ind (P := fun l1 l2 => l1.map view = l2.map view) rfl
    (fun hxy _ ih => by rw [List.map_cons, List.map_cons, show view _ = view _ from hxy, ih]) h

/-- a plain line has no wrap flag that the side conditions speak of; on a frozen line no cell is changed, and a wide
character of P at `cols-2` faces itself -/
theorem lineOkW_of_lineOk {srows prows : List Row} (hS : ∀ r ∈ srows, SrcOk W r.cells) (i : Nat)
    (h : LineOk srows prows i) : LineOkW srows prows i := by
  intro r p hr hp
  rcases h with ⟨hsu, _, hwa⟩ | ⟨⟨r', p', er, ep, hsame⟩, _⟩
  · simp only [hr, Option.map_some, Option.getD_some] at hsu
    refine ⟨fun h => ?_, fun h => ?_⟩
    · rw [hsu] at h; exact absurd h (by simp)
    · rw [hwa] at h; exact absurd h (by simp)
  · cases hr.symm.trans er
    cases hp.symm.trans ep
    have hviews := map_view_of_listRel hsame.2
    obtain ⟨hl, hv⟩ := C15wrap.full_get (S := p.cells) (Ri := r) hviews
    refine ⟨fun _ _ => ?_, fun _ _ => ?_⟩
    · unfold noF8b
      split
      · rename_i n hn
        have hnr : n < r.cells.length := by omega
        have hnp : n < p.cells.length := by omega
        simp only [C05.flagAt, List.getElem?_eq_getElem hnr, List.getElem?_eq_getElem hnp, Option.map_some, Option.getD_some,
          Bool.or_eq_true, Bool.not_eq_true']
        cases hw : p.cells[n].wide
        · exact Or.inl rfl
        · right
          have hrw : r.cells[n].wide = true := by rw [view_wide (hv n hnp)]; exact hw
          exact wide_has_contents ((hS r (List.mem_of_getElem? hr)).cells_ok _ (List.getElem_mem hnr)) hrw
      · rfl
    · intro k hk hkP _ _ hne
      exact absurd (hv k hkP) hne

/-- **C02 when every line is plain or frozen**: a receiver satisfying the parser invariant that reproduces `P`, fed
the bytes of `S.state_diff(P)`, reproduces `S`, still satisfies the parser invariant, and reports no event -/
theorem state_diff_mixed (hW : WOk W) (hcb : C13.CbInv W cb) {q : Parser} (P S : Screen) (hq : Reproduces q P)
    (hqi : C13.ParserInv W q) (hsz : S.cur.size = P.cur.size) (hS : SrcScreen W S) (hP : SrcScreen W P)
    (hok : ∀ i, i < S.cur.rows.length → LineOk S.cur.rows P.cur.rows i) :
    ∃ bytes q', S.stateDiff P = .ok bytes ∧ q.process W cb bytes = .ok q' ∧ Reproduces q' S ∧ C13.ParserInv W q' ∧
      q'.ws.events = q.ws.events :=
  state_diff_wrapped hW hcb P S hq hqi hsz hS hP
    (linesOkP_of_W (fun i hi => lineOkW_of_lineOk (fun r hr => hS.rows.ok r hr) i (hok i hi)))

theorem state_diff_mixed_of_wrapped (hW : WOk W) (hcb : C13.CbInv W cb) {q : Parser} (P S : Screen) (hq : Reproduces q P)
    (hqi : C13.ParserInv W q) (hsz : S.cur.size = P.cur.size) (hS : SrcScreen W S) (hP : SrcScreen W P)
    (hok : ∀ i, i < S.cur.rows.length → LineOk S.cur.rows P.cur.rows i) :
    ∃ bytes q', S.stateDiff P = .ok bytes ∧ q.process W cb bytes = .ok q' ∧ Reproduces q' S ∧ C13.ParserInv W q' ∧
      q'.ws.events = q.ws.events :=
  state_diff_mixed hW hcb P S hq hqi hsz hS hP hok

structure Link (W : Nat → Option Nat) (P S : Screen) : Prop where
  invP : emitInvB W P = true
  invS : emitInvB W S = true
  offP : P.cur.scrollbackOffset = 0
  offS : S.cur.scrollbackOffset = 0
  size : S.cur.size = P.cur.size
  lines : ∀ i, i < S.cur.rows.length → LineOk S.cur.rows P.cur.rows i

/-- hides `Vt.Links` (the pairing of wide cells) inside `Vt.C02` from here on -/
def Links (W : Nat → Option Nat) : Screen → List Screen → Prop
  | _, [] => True
  | P, S :: rest => Link W P S ∧ Links W S rest

theorem linksW_of_links : ∀ (P : Screen) (Ss : List Screen), Links W P Ss → LinksW W P Ss
  | _, [], _ => trivial
  | _, S :: rest, ⟨h, hrest⟩ =>
    ⟨⟨h.invP, h.invS, h.offP, h.offS, h.size, linesOkP_of_W (fun i hi =>
      lineOkW_of_lineOk (fun r hr => (srcScreen_of_inv h.invS h.offS).rows.ok r hr) i (h.lines i hi))⟩,
      linksW_of_links S rest hrest⟩

/-- **C02 along chains, wrapped lines allowed where the diff leaves them alone** -/
theorem chain_mixed (hW : WOk W) (hcb : C13.CbInv W cb) :
    ∀ (Ss : List Screen) (q : Parser) (P : Screen), Reproduces q P → C13.ParserInv W q → Links W P Ss →
      ∃ q', feedDiffs W cb q P Ss = .ok q' ∧ Reproduces q' ((P :: Ss).getLast (by simp)) ∧ C13.ParserInv W q' ∧
        q'.ws.events = q.ws.events :=
  fun Ss q P hq hqi hl => chain_wrapped hW hcb Ss q P hq hqi (linksW_of_links P Ss hl)

theorem wrapAbove_of_unwrapped {rows : List Row} (h : ∀ r ∈ rows, r.wrapped = false) (i : Nat) : wrapAbove rows i = false := by
  unfold wrapAbove
  split
  · rfl
  · cases hr : rows[i - 1]? with
    | none => rfl
    | some r => simp [h r (List.mem_of_getElem? hr)]

theorem lineOk_of_unwrapped {srows prows : List Row} (hs : ∀ r ∈ srows, r.wrapped = false)
    (hp : ∀ r ∈ prows, r.wrapped = false) (i : Nat) : LineOk srows prows i := by
  refine Or.inl ⟨?_, ?_, wrapAbove_of_unwrapped hs i⟩
  · cases h : srows[i]? with
    | none => rfl
    | some r => simp [hs r (List.mem_of_getElem? h)]
  · cases h : prows[i]? with
    | none => rfl
    | some r => simp [hp r (List.mem_of_getElem? h)]

theorem lineOk_of_eq {rows : List Row} (i : Nat) (hi : i < rows.length) : LineOk rows rows i :=
  Or.inr ⟨⟨rows[i], rows[i], List.getElem?_eq_getElem hi, List.getElem?_eq_getElem hi, rfl,
    listRel_refl sameView_refl _⟩, rfl⟩

/-- non-vacuity with a wrapped line that stays: "abcdefgh" wraps on a 3x6 screen (line 0 wrapped, frozen together
with line 1); line 2 is rewritten (plain) (kernel-evaluated; a test) -/
theorem link_nonvacuous :
    isOkTrue (do
      let p ← C02.run 3 6 0 [[97, 98, 99, 100, 101, 102, 103, 104, 0x1b, 0x5b, 0x33, 0x3b, 0x31, 0x48, 120]]
      let s ← C02.run 3 6 0 [[97, 98, 99, 100, 101, 102, 103, 104, 0x1b, 0x5b, 0x33, 0x3b, 0x31, 0x48, 120,
        0x0d, 0x1b, 0x5b, 0x33, 0x31, 0x6d, 121, 122, 0xe4, 0xb8, 0x80]]
      let lineOk := fun (i : Nat) =>
        (((s.screen.cur.rows[i]?).map (·.wrapped)).getD false == false && ((p.screen.cur.rows[i]?).map (·.wrapped)).getD false == false &&
          wrapAbove s.screen.cur.rows i == false) ||
        ((match s.screen.cur.rows[i]?, p.screen.cur.rows[i]? with
          | some r, some q => r.wrapped == q.wrapped && r.cells.map view == q.cells.map view
          | _, _ => false) && wrapAbove s.screen.cur.rows i == wrapAbove p.screen.cur.rows i)
      pure (emitInvB W0 p.screen && emitInvB W0 s.screen && p.screen.cur.scrollbackOffset == 0 &&
            s.screen.cur.scrollbackOffset == 0 && s.screen.cur.size == p.screen.cur.size &&
            lineOk 0 && lineOk 1 && lineOk 2 &&
            ((s.screen.cur.rows[0]?).map (·.wrapped)).getD false && s.screen.cur.rows != p.screen.cur.rows)) = true := by
  decide +kernel

end Vt.C02
