/-
  Vt.Props.DiffPend — the PENDING PHASE of a line that follows a wrapped line (`wrapping = true`), while the emitter has not
  written anything for it yet and the receiver's cursor is still parked at the end of the line above.  One phase for both
  emitters: `Row::write_contents_formatted` is the case of a blank previous line (`RowDraw.row_formatted_draws_wrap`).

  (α) While the cells of S's line equal those of P's line nothing is written.  The first changed cell decides:
    (β) column 0, text: typed without a move — the receiver wraps (`pend_text0`);
    (γ) column 0, blank: an erase run from column 0 is collected; its flush writes SP BS instead of a move — the
        receiver wraps — then the pen, then ECH / EL (`pend_eraseMove`, `Zed`);
    (δ) column k > 0, text: an ordinary cursor move — nothing wraps (the line above must already be flagged);
    (F8a) column k > 0, blank: the flush would pad with k spaces over unchanged cells — excluded by `NoPad`.
  (δ) and (F8a) arise only while every cell so far was unchanged; what they need is `Quiet`.
  After that first emission the emitter's cursor is on this line (`Started`), `wrapping` is irrelevant (DiffIrrel) and the
  simulation of the cell loop (`DiffRow.fold_inv`, with the wrap flag carried by `FlagSpec.holds`) takes
  over, on the receiver with the wrap recorded (`started_fold`).  Namespace `Vt.C02`.
-/
import Vt.Props.DiffWrap2
import Vt.Props.DiffIrrel
namespace Vt.C02
open Vt Vt.Recv Vt.C19 Vt.C09 Vt.RowDraw Vt.C03 Vt.Bytes Vt.DiffRow Vt.C15wrap

variable {W : Nat → Option Nat} {cb : CbPolicy}

/-- **no F8a pattern** on a pair of lines (`S` current, `P` previous): the first changed cell of the line, if it is
not in column 0, holds text.  (Otherwise — a blank after unchanged cells — the erase run's flush pads with spaces over
those unchanged cells when the receiver's cursor is still parked on the wrapped line above.) -/
def NoPad (S P : List Cell) : Prop :=
  ∀ k (hk : k < S.length) (hkP : k < P.length), 0 < k →
    (∀ j (hj : j < k), view (S[j]'(by omega)) = view (P[j]'(by omega))) → view S[k] ≠ view P[k] → S[k].hasContents = true

instance (S P : List Cell) : Decidable (NoPad S P) := by unfold NoPad; infer_instance

theorem wrapBase_id {r0 : RS} {i : Nat} {Rp : Row} (hp : r0.g.rows[i - 1]? = some Rp) (hw : Rp.wrapped = true) :
    wrapBase r0 i Rp = r0 := by
  have hRp : Rp.wrap true = Rp := by
    obtain ⟨cs, w⟩ := Rp
    simp only at hw
    simp [Row.wrap, hw]
  simp only [wrapBase, hRp, set_getElem?_self hp]

/-- the fixed facts of the pending phase: the receiver has processed nothing of this line, its cursor is parked on
the line above at column `c0`, its line `i` shows the previous line -/
structure ParkFacts (K : Ctx W cb) (D : DCtx W K.src.length) (F : FlagSpec K.src D.prv) (X : WCtx K) (pa : Attrs) (c0 : Nat) (Ri0 : Row) :
    Prop where
  hem0 : Emitted W cb K.p0 [] (shape K.r0 K.i Ri0 ⟨K.i - 1, c0⟩ pa)
  hmid0 : MidF F 0 Ri0
  lwf0 : LineWf Ri0
  /-- the cursor is in the pending-wrap column, or in the last column with a changed wide character coming first -/
  park : c0 = K.r0.g.size.cols ∨ (c0 + 1 = K.r0.g.size.cols ∧ ∃ h : 0 < K.src.length, K.src[0].wide = true ∧
    view K.src[0] ≠ view (D.prv[0]'(by rw [D.hprv]; exact h)))

/-- what the pending phase needs only while every cell so far was UNCHANGED: the line above is already flagged on the receiver,
or the first cell is changed (so that the first emission wraps); no F8a pattern -/
def Quiet (K : Ctx W cb) (D : DCtx W K.src.length) (X : WCtx K) : Prop :=
  (X.Rp.wrapped = true ∨ ∃ h : 0 < K.src.length, view K.src[0] ≠ view (D.prv[0]'(by rw [D.hprv]; exact h))) ∧
    NoPad K.src D.prv

/-- nothing has been written for this line yet; at most an erase run starting in column 0 is being collected -/
structure Parked (K : Ctx W cb) (D : DCtx W K.src.length) (pa : Attrs) (c0 : Nat) (j : Nat) (st : Row.FmtSt) : Prop where
  out : st.out = []
  pos : st.prevPos = ⟨K.i - 1, c0⟩
  pen : st.prevAttrs = pa
  ww : ∀ (_ : 0 < j) (hl : j ≤ K.src.length), st.prevWasWide = (K.src[j - 1]'(by omega)).wide
  w0 : j = 0 → st.prevWasWide = false
  er : (st.erase = none ∧ ∀ k (hk : k < K.src.length), k < j → view K.src[k] = view (D.prv[k]'(by rw [D.hprv]; exact hk))) ∨
    (∃ a, st.erase = some (0, a) ∧ st.prevWasWide = false ∧ 1 ≤ j ∧ Attrs.wf a ∧ c0 = K.r0.g.size.cols ∧
      ∀ k (hk : k < K.src.length), k < j → view K.src[k] = blankA a)

/-- something has been written: the emitter's cursor is on this line, and the simulation of the cell loop holds on the
receiver with the wrap recorded -/
def Started (K : Ctx W cb) (D : DCtx W K.src.length) (F : FlagSpec K.src D.prv) (X : WCtx K) (j : Nat) (st : Row.FmtSt) : Prop :=
  Unparked K.src.length K.i st.prevPos ∧ CellLoop (K.wrapped X) D F.holds j st

/-- a line for which only a repair of its first cell has been written is started, at column 0 -/
theorem Started.zero {K : Ctx W cb} {D : DCtx W K.src.length} {F : FlagSpec K.src D.prv} {X : WCtx K} {pen : Attrs} {out : List Nat}
    {R1 : Row} (hem : Emitted W cb K.p0 out (shape (K.wrapped X).r0 K.i R1 ⟨K.i, 0⟩ pen)) (hmid : MidF F 0 R1)
    (hwf : LineWf R1) : Started K D F X 0 ⟨false, ⟨K.i, 0⟩, pen, none, out⟩ :=
  ⟨unparked_of_row rfl, fun h => absurd h (Nat.lt_irrefl 0), fun k _ h => absurd h (Nat.succ_ne_zero k),
    fun h => absurd h (Nat.lt_irrefl 0), fun _ => rfl, fun h => (nomatch h),
    fun _ => ⟨⟨R1, hem, hmid.mid, hmid.flag, hwf⟩, fun _ _ h => nomatch h⟩⟩

theorem Parked.eq {K : Ctx W cb} {D : DCtx W K.src.length} {pa : Attrs} {c0 j : Nat} {st : Row.FmtSt} (h : Parked K D pa c0 j st) :
    st = ⟨st.prevWasWide, ⟨K.i - 1, c0⟩, pa, st.erase, []⟩ := by
  obtain ⟨pw, pp, pat, er, out⟩ := st
  have h1 := h.out; have h2 := h.pos; have h3 := h.pen
  simp only at h1 h2 h3
  subst h1 h2 h3
  rfl

theorem Parked.succ {K : Ctx W cb} {D : DCtx W K.src.length} {pa : Attrs} {c0 j : Nat} (hj : j < K.src.length) {pw : Bool}
    {er : Option (Nat × Attrs)} (hpw : pw = K.src[j].wide)
    (her : (er = none ∧ ∀ k (hk : k < K.src.length), k < j + 1 → view K.src[k] = view (D.prv[k]'(by rw [D.hprv]; exact hk))) ∨
      (∃ a, er = some (0, a) ∧ pw = false ∧ 1 ≤ j + 1 ∧ Attrs.wf a ∧ c0 = K.r0.g.size.cols ∧
        ∀ k (hk : k < K.src.length), k < j + 1 → view K.src[k] = blankA a)) :
    Parked K D pa c0 (j + 1) ⟨pw, ⟨K.i - 1, c0⟩, pa, er, []⟩ :=
  ⟨rfl, rfl, rfl, fun _ _ => hpw, fun h => absurd h (Nat.succ_ne_zero j), her⟩

theorem lt_succ_cases {n j : Nat} {P : ∀ k, k < n → Prop} (h : ∀ k hk, k < j → P k hk) (hj : ∀ hj, P j hj) :
    ∀ k hk, k < j + 1 → P k hk := fun k hk hkj =>
  if hlt : k < j then h k hk hlt else by obtain rfl : k = j := (by omega); exact hj hk

/-- while every cell so far is unchanged (and there has been one), the receiver — on which the line above is flagged
already, so that recording the wrap changes nothing — is where the simulation of the cell loop wants it -/
theorem ParkFacts.drawn {K : Ctx W cb} {D : DCtx W K.src.length} {F : FlagSpec K.src D.prv} {X : WCtx K} {pa : Attrs} {c0 : Nat} {Ri0 : Row}
    (Q : ParkFacts K D F X pa c0 Ri0) (hq : Quiet K D X) {j : Nat} (h0 : 0 < j) (hjl : j ≤ K.src.length)
    (heq : ∀ k (hk : k < K.src.length), k < j → view K.src[k] = view (D.prv[k]'(by rw [D.hprv]; exact hk))) (pw : Bool) :
    DiffAt (K.wrapped X) D.prv F.holds j ⟨pw, ⟨K.i - 1, c0⟩, pa, none, []⟩ := by
  have hem : Emitted W cb K.p0 [] (shape (wrapBase K.r0 K.i X.Rp) K.i Ri0 ⟨K.i - 1, c0⟩ pa) := by
    rw [wrapBase_id X.hp (hq.1.resolve_right fun ⟨_, hne⟩ => hne (heq 0 (Nat.lt_of_lt_of_le h0 hjl) h0))]; exact Q.hem0
  exact ⟨Ri0, hem, mid_advance D.hP Q.hmid0.mid j heq, Q.hmid0.flag, Q.lwf0⟩

/-- **one cell while nothing has been written for the wrapped-onto line yet**.  `Quiet` is asked for only where it is used: past
column 0 with no erase run pending (every cell so far was unchanged).  A run that is pending stays pending; once something is
written the emitter's cursor is on this line -/
theorem parked_step (K : Ctx W cb) (D : DCtx W K.src.length) (F : FlagSpec K.src D.prv) (X : WCtx K) (hW : WOk W) (hS : SrcOk W K.src)
    {pa : Attrs} {c0 : Nat} {Ri0 : Row} (Q : ParkFacts K D F X pa c0 Ri0) {j : Nat} (hj : j < K.src.length) {st : Row.FmtSt}
    (h : Parked K D pa c0 j st) (hL : st.erase = none → 0 < j → Quiet K D X) :
    ∃ st', Row.diffStep K.src.length K.i true st (j, (K.src[j], D.prv[j]'(by rw [D.hprv]; exact hj))) = .ok st' ∧
      ((Parked K D pa c0 (j + 1) st' ∧ (st.erase.isSome = true → st'.erase.isSome = true)) ∨
        (st'.prevPos.row = K.i ∧ CellLoop (K.wrapped X) D F.holds (j + 1) st')) := by
  have hjP : j < D.prv.length := by rw [D.hprv]; exact hj
  have hne : 0 < K.src.length := by omega
  have hok := hS.cells_ok _ (List.getElem_mem hj)
  have her := h.er
  have hww := h.ww
  have hw0 := h.w0
  rw [h.eq] at her hww hw0 ⊢
  generalize st.erase = er at her hL ⊢
  generalize st.prevWasWide = pw at her hww hw0
  clear h st
  unfold Row.diffStep
  simp only
  by_cases hpw : pw = true
  · -- the second half of a wide character: skipped
    subst hpw
    simp only [↓reduceIte]
    have hj0 : 0 < j := by
      rcases Nat.eq_zero_or_pos j with h0 | h0
      · have := hw0 h0; simp at this
      · exact h0
    have hprev := hww hj0 (Nat.le_of_lt hj)
    have hcont : K.src[j].cont = true := cont_eq_prevWide hS hj hww hw0
    have hnw : K.src[j].wide = false := (cellOk_cont W _ hok hcont).1
    refine ⟨_, rfl, Or.inl ⟨Parked.succ hj hnw.symm ?_, fun h => h⟩⟩
    rcases her with ⟨hnone, heq⟩ | ⟨a, _, hf, _⟩
    · -- the previous line has the second half of the same wide character here
      refine Or.inl ⟨hnone, lt_succ_cases heq (fun _ => ?_)⟩
      have hpwide : (D.prv[j - 1]'(by omega)).wide = true := by
        rw [← view_wide (heq (j - 1) (by omega) (by omega))]; exact hprev.symm
      obtain ⟨hk1, hpc⟩ := D.hP.wide_next (j - 1) (by omega) hpwide
      simp only [Nat.sub_add_cancel hj0] at hpc
      rw [hS.cont_view j hj hcont, D.hP.cont_view j hjP hpc]
    · simp at hf
  · have hpw' : pw = false := by simpa using hpw
    subst hpw'
    simp only [Bool.false_eq_true, ↓reduceIte]
    have hnc : K.src[j].cont = false := cont_eq_prevWide hS hj hww hw0
    rw [C03.fmtCellStep_eq]
    rcases her with ⟨hnone, heq⟩ | ⟨a, hea, _, h1j, hwfa, hfull, hrun⟩
    · -- nothing pending
      have hnone' : er = none := hnone
      subst hnone'
      simp only [C03.flush, pure_bind']
      by_cases hd : K.src[j].eq (D.prv[j]'hjP) = true
      · -- an unchanged cell
        have hv : view K.src[j] = view (D.prv[j]'hjP) := (eq_iff_view _ _).mp hd
        simp only [hd, Bool.not_true, C03.emitCell, Bool.false_eq_true, ↓reduceIte, pure_eq_ok]
        exact ⟨_, rfl, Or.inl ⟨Parked.succ hj rfl (Or.inl ⟨rfl, lt_succ_cases heq (fun _ => hv)⟩), fun h => h⟩⟩
      · have hd' : (!(K.src[j].eq (D.prv[j]'hjP))) = true := by simpa using hd
        have hvne : view K.src[j] ≠ view (D.prv[j]'hjP) := fun hv => hd ((eq_iff_view _ _).mpr hv)
        rw [hd']
        by_cases hh : K.src[j].hasContents = true
        · by_cases hj0 : j = 0
          · -- (β) text in column 0: typed without a move
            subst hj0
            have hc0 : K.src.length ≤ c0 + (if K.src[0].isWide = true then 1 else 0) := by
              rw [K.hsrc]
              rcases Q.park with hp | ⟨hp, _, hw, _⟩
              · omega
              · simp only [Cell.isWide, hw, ↓reduceIte]; omega
            obtain ⟨e3, hJ3⟩ := pend_text0 K D F X hW hS hne Q.hem0 Q.hmid0 Q.lwf0 hh hc0
            exact ⟨_, e3, Or.inr ⟨rfl, hJ3⟩⟩
          · -- (δ) text in a later column: an ordinary move
            have hI : Between (K.wrapped X) D F.holds j ⟨K.src[j].isWide, ⟨K.i - 1, c0⟩, pa, none, []⟩ :=
              Between.of_drawn rfl (Q.drawn (hL rfl (by omega)) (by omega) (Nat.le_of_lt hj) heq _)
            obtain ⟨st', e, hJ⟩ := emit_inv (K.wrapped X) D (F.keeps hS) hW hS hj hnc hI rfl (Or.inl rfl)
            have e' : C03.emitCell K.src.length K.i false ⟨K.src[j].isWide, ⟨K.i - 1, c0⟩, pa, none, []⟩ j K.src[j]
                (!(K.src[j].eq (D.prv[j]'hjP))) = .ok st' := e
            rw [hd'] at e'
            rw [emit_irrel K.src.length K.i ⟨K.src[j].isWide, ⟨K.i - 1, c0⟩, pa, none, []⟩ j K.src[j] true (Or.inr (Or.inl hj0))]
            exact ⟨st', e', Or.inr ⟨congrArg Pos.row (hJ.pp (Nat.succ_pos j) ⟨hj, hjP, Or.inl ⟨hh, hvne⟩⟩).2, hJ⟩⟩
        · -- a changed blank cell
          have hh' : K.src[j].hasContents = false := by simpa using hh
          have hnw := blank_narrow hok hh'
          by_cases hj0 : j = 0
          · -- (γ) an erase run starts in column 0
            subst hj0
            have hc0 : c0 = K.r0.g.size.cols := by
              rcases Q.park with hp | ⟨_, _, hw, _⟩
              · exact hp
              · rw [hnw] at hw; exact absurd hw (by simp)
            simp only [C03.emitCell, ↓reduceIte, hh', Bool.false_eq_true, Option.isNone_none, pure_eq_ok]
            refine ⟨_, rfl, Or.inl ⟨Parked.succ hj rfl (Or.inr ⟨K.src[0].attrs, rfl, hnw, Nat.le_refl 1, hS.wf 0 hne, hc0,
              lt_succ_cases (fun k _ h => absurd h (Nat.not_lt_zero k)) (fun _ => blank_blankA hS 0 hj hh' hnc)⟩), fun _ => rfl⟩⟩
          · -- excluded: the F8a pattern
            exfalso
            have := (hL rfl (by omega)).2 j hj hjP (by omega) (fun k hk => heq k (by omega) hk) hvne
            rw [hh'] at this; exact absurd this (by simp)
    · -- an erase run from column 0 is being collected
      have hea' : er = some (0, a) := hea
      subst hea'
      by_cases hcond : (K.src[j].hasContents || K.src[j].attrs != a) = true
      · -- the run ends here: space, BS, pen, ECH — and from now on the line is started
        subst hfull
        obtain ⟨out1, R1, est, hwf1, hem1, hz, hzw⟩ :=
          pend_eraseMove K D F X hW Q.hem0 Q.hmid0 Q.lwf0 a hwfa K.src[j].isWide (some (0, a))
        simp only [C03.flush, hcond, ↓reduceIte, subM_ok (Nat.zero_le _), pure_bind', ok_bind, Nat.sub_zero, est]
        have hech := emitted_ech (K.wrapped X) hem1 hwf1 hz.len j (by omega) (by show 0 + j ≤ K.src.length; omega)
        rw [Nat.zero_add] at hech
        have hI2 : Between (K.wrapped X) D F.holds j ⟨K.src[j].isWide, ⟨K.i, 0⟩, a, none, out1 ++ Term.eraseChar j⟩ :=
          Between.of_drawn rfl ⟨_, hech.1, hz.erase hS h1j (Nat.le_of_lt hj) a hrun R1.wrapped,
            hz.erase_holds F Q.hmid0.flag hzw h1j (Nat.le_of_lt hj) a hrun, hech.2⟩
        obtain ⟨st3, e3, hJ3⟩ := emit_inv (K.wrapped X) D (F.keeps hS) hW hS hj hnc hI2 rfl (Or.inl rfl)
        have hup : Unparked K.src.length K.i (⟨K.i, 0⟩ : Pos) := unparked_of_row rfl
        rw [emit_irrel K.src.length K.i _ j K.src[j] (!(K.src[j].eq (D.prv[j]'hjP))) (Or.inl hup)]
        exact ⟨st3, e3, Or.inr ⟨(C12.MPred.iff.mp (Fmt.emit_all (moved_kept K.i _) _ _ (moved_refl K.i _) (moved_cell ..) _) _
          e3).pos.elim (fun h => by rw [h]) id, hJ3⟩⟩
      · -- the run goes on
        simp only [C03.flush, hcond, Bool.false_eq_true, ↓reduceIte, pure_bind']
        simp only [Bool.or_eq_true, bne_iff_ne, ne_eq, not_or, Bool.not_eq_true, Decidable.not_not] at hcond
        have hnw := blank_narrow hok hcond.1
        have hemit : C03.emitCell K.src.length K.i true ⟨K.src[j].isWide, ⟨K.i - 1, c0⟩, pa, some (0, a), []⟩ j K.src[j]
            (!(K.src[j].eq (D.prv[j]'hjP))) = .ok ⟨K.src[j].isWide, ⟨K.i - 1, c0⟩, pa, some (0, a), []⟩ := by
          simp only [C03.emitCell, hcond.1, Bool.false_eq_true, ↓reduceIte, Option.isNone_some, pure_eq_ok]
          split <;> rfl
        refine ⟨_, hemit, Or.inl ⟨Parked.succ hj rfl (Or.inr ⟨a, rfl, hnw, Nat.le_add_left 1 j, hwfa, hfull,
          lt_succ_cases hrun (fun _ => hcond.2 ▸ blank_blankA hS j hj hcond.1 hnc)⟩), fun _ => rfl⟩⟩

/-- once something has been written `wrapping` is irrelevant (`fold_irrel`) and `DiffRow.fold_inv` takes over -/
theorem started_fold (K : Ctx W cb) (D : DCtx W K.src.length) (F : FlagSpec K.src D.prv) (X : WCtx K) (hW : WOk W) (hS : SrcOk W K.src)
    (cs : List (Cell × Cell)) (j : Nat) (st : Row.FmtSt) (hcs : (K.src.zip D.prv).drop j = cs) (hjl : j ≤ K.src.length)
    (h : Started K D F X j st) :
    ∃ st', (C14.enumFrom j cs).foldlM (Row.diffStep K.src.length K.i true) st = .ok st' ∧ Started K D F X K.src.length st' := by
  obtain ⟨st', e2, h2⟩ := fold_inv (K.wrapped X) D (F.keeps hS) hW hS cs j st hcs hjl h.2
  exact ⟨st', (fold_irrel K.src.length K.i _ st ⟨h.1.notFull, Or.inl h.1⟩).trans e2,
    (moved_keeps (C12.MPred.iff.mp (fold_moved ..) st' e2)).2 h.1, h2⟩

theorem parked_fold (K : Ctx W cb) (D : DCtx W K.src.length) (F : FlagSpec K.src D.prv) (X : WCtx K) (hW : WOk W) (hS : SrcOk W K.src)
    {pa : Attrs} {c0 : Nat} {Ri0 : Row} (Q : ParkFacts K D F X pa c0 Ri0) (hq : Quiet K D X) :
    ∀ (cs : List (Cell × Cell)) (j : Nat) (st : Row.FmtSt),
    (K.src.zip D.prv).drop j = cs → j ≤ K.src.length → Parked K D pa c0 j st →
    ∃ st', (C14.enumFrom j cs).foldlM (Row.diffStep K.src.length K.i true) st = .ok st' ∧
      (Parked K D pa c0 K.src.length st' ∨ Started K D F X K.src.length st')
  | [], j, st, hcs, hjl, h => by
    obtain rfl := zip_drop_nil D.hprv hjl hcs
    exact ⟨st, rfl, Or.inl h⟩
  | (c, c') :: cs, j, st, hcs, hjl, h => by
    obtain ⟨hj, rfl, rfl, hcs'⟩ := zip_drop_cons D.hprv hcs
    obtain ⟨st1, e1, h1⟩ := parked_step K D F X hW hS Q hj h (fun _ _ => hq)
    have hen : C14.enumFrom j ((K.src[j], D.prv[j]'(by rw [D.hprv]; exact hj)) :: cs) =
        (j, (K.src[j], D.prv[j]'(by rw [D.hprv]; exact hj))) :: C14.enumFrom (j + 1) cs := by
      simp [C14.enumFrom, List.zipIdx_cons]
    rw [hen, List.foldlM_cons, e1, ok_bind]
    rcases h1 with h1 | h1
    · exact parked_fold K D F X hW hS Q hq cs (j + 1) st1 hcs' hj h1.1
    · obtain ⟨st', e2, h2⟩ := started_fold K D F X hW hS cs (j + 1) st1 hcs' hj ⟨unparked_of_row h1.1, h1.2⟩
      exact ⟨st', e2, Or.inr h2⟩

/-- the loop has ended with nothing written: the whole line is one erase run from column 0, flushed as SP BS, pen, EL -/
theorem parked_run_finish (K : Ctx W cb) (D : DCtx W K.src.length) (F : FlagSpec K.src D.prv) (X : WCtx K) (hW : WOk W) (hS : SrcOk W K.src)
    (hne : 0 < K.src.length) {pa : Attrs} {Ri0 : Row} (Q : ParkFacts K D F X pa K.r0.g.size.cols Ri0) {st' : Row.FmtSt}
    (hP' : Parked K D pa K.r0.g.size.cols K.src.length st') {a : Attrs} (hea : st'.erase = some (0, a))
    (hpw : st'.prevWasWide = false) (hwfa : Attrs.wf a)
    (hrun : ∀ k (hk : k < K.src.length), k < K.src.length → view K.src[k] = blankA a) :
    DiffAt (K.wrapped X) D.prv F.holds K.src.length (Row.fmtFinish K.src.length K.i true st') ∧
      (Row.fmtFinish K.src.length K.i true st').prevAttrs = a := by
  obtain ⟨out1, R1, est, hwf1, hem1, hz, hzw⟩ := pend_eraseMove K D F X hW Q.hem0 Q.hmid0 Q.lwf0 a hwfa false (some (0, a))
  have hel := emitted_el (K.wrapped X) hem1 hwf1 hz.len (Nat.zero_le _)
  have hff : Row.fmtFinish K.src.length K.i true st' = ⟨false, ⟨K.i, 0⟩, a, some (0, a), out1 ++ Term.clearRowForward⟩ := by
    rw [hP'.eq, hea, hpw]
    exact congrArg (fun s : Row.FmtSt => { s with out := s.out ++ Term.clearRowForward }) est
  rw [hff]
  exact ⟨⟨_, hel.1, hz.erase hS hne (Nat.le_refl _) a hrun R1.wrapped,
    hz.erase_holds F Q.hmid0.flag hzw hne (Nat.le_refl _) a hrun, hel.2⟩, rfl⟩

end Vt.C02
