/-
  C05 (continued) — printing on a grid satisfying the invariant: `text_fits_spec` lifts the closed form of the cell
  writes (`printedRow`, `textWideRow_spec` in C05) to the grid: nothing but the cursor line and the cursor column
  changes. Then the wrap: `col_wrap` is CR, LF and a flag (`colWrap_spec`, Lemmas/TextInv), so its cases are those of LF
  (`cwClosed_room/_stay/_scroll`, read as `colWrap_room/_stay/_scroll`); `text_after_wrap`; the decision itself,
  `wrapDecision_spec`, is in C05. Then zero-width characters (`text_zero_spec`).
-/
import Vt.Lemmas.TextInv
namespace Vt.C05

variable (W : Nat → Option Nat)

theorem wrap_ite (r : Row) (c : Prop) [Decidable c] :
    (if c then (pure (r.wrap false) : M Row) else pure r) = pure { r with wrapped := if c then false else r.wrapped } := by
  split <;> rfl

variable {W}

/-- `text_fits_spec` from the cursor line alone: a well-linked line of the grid's width -/
theorem text_fits_links {g : Grid} {r : Row} (hrow : g.rows[g.pos.row]? = some r) (hl : Links r.cells)
    (hlen : r.cells.length = g.size.cols) (hu : g.size.cols ≤ 65535) (hW32 : W 32 = some 1)
    (a : Attrs) (c : Nat) (hnc : ¬ (W c = none ∧ c < 256)) (hw1 : 1 ≤ effWidth W c)
    (hfit : g.pos.col + effWidth W c ≤ g.size.cols) :
    g.text W a c = .ok { g with
      rows := g.rows.set g.pos.row (printedRow W r g.pos.col g.size.cols a c (decide (effWidth W c > 1)))
      pos := ⟨g.pos.row, g.pos.col + effWidth W c⟩ } :=
  text_fits W hu a c _ r _ rfl hw1 hnc hfit hrow
    (textWideRow_links hl hlen hW32 a c _ (by have : effWidth W c ≤ 2 := Nat.min_le_right _ _; omega) hfit)

/-- **C05, a character that fits**: on every grid satisfying the invariant, printing a character of non-zero
width with `col + w ≤ cols` rewrites the cursor line exactly as `printedRow` says, advances the cursor by `w`,
and changes nothing else (whole-record equality) -/
theorem text_fits_spec {g : Grid} (hinv : GridInv W g true) (hl : g.rows.length = g.size.rows) (hW32 : W 32 = some 1)
    (a : Attrs) (c : Nat) (hnc : ¬ (W c = none ∧ c < 256)) (hw1 : 1 ≤ effWidth W c)
    (hfit : g.pos.col + effWidth W c ≤ g.size.cols) :
    ∃ r, g.rows[g.pos.row]? = some r ∧
      g.text W a c = .ok { g with
        rows := g.rows.set g.pos.row (printedRow W r g.pos.col g.size.cols a c (decide (effWidth W c > 1)))
        pos := ⟨g.pos.row, g.pos.col + effWidth W c⟩ } := by
  have hrow := List.getElem?_eq_getElem (show g.pos.row < g.rows.length by rw [hl]; exact hinv.pos_row)
  have hgood := hinv.row_ok _ (List.mem_of_getElem? hrow)
  exact ⟨_, hrow, text_fits_links hrow (rowGood_cells W hgood).links hgood.1 hinv.cols_u16 hW32 a c hnc hw1 hfit⟩

section wrap
open C08lfri
variable {g : Grid} (wrap : Bool)

theorem cwClosed_room (h : Live g) (hu : g.size.rows ≤ 65535) (hroom : g.pos.row + 1 ≤ lfLimit g) :
    cwClosed g wrap = flagRow { g with pos := ⟨g.pos.row + 1, 0⟩ } g.pos.row wrap := by
  unfold cwClosed
  rw [lf_stay (g := { g with pos := { g.pos with col := 0 } }) (h.pos _) hu 1 hroom]
  simp [withRow]

theorem cwClosed_stay (hu : g.size.rows ≤ 65535) (hin : g.inScrollRegion = false) (hlast : g.pos.row = g.size.rows - 1) :
    cwClosed g wrap = flagRow { g with pos := ⟨g.pos.row, 0⟩ } g.pos.row false := by
  unfold cwClosed
  rw [lf_outside (g := { g with pos := { g.pos with col := 0 } }) hu hin 1]
  simp [withRow, show min (g.pos.row + 1) (g.size.rows - 1) = g.pos.row by omega,
    show (g.pos.row + 1 == g.pos.row) = false by rw [beq_eq_false_iff_ne]; omega]

theorem cwClosed_scroll (h : Live g) (hu : g.size.rows ≤ 65535) (hin : g.inScrollRegion = true)
    (hbot : g.pos.row = g.scrollBottom) :
    cwClosed g wrap =
      if g.scrollTop = g.scrollBottom then suClosed { g with pos := ⟨g.pos.row, 0⟩ } 1
      else flagRow (suClosed { g with pos := ⟨g.pos.row, 0⟩ } 1) (g.scrollBottom - 1) wrap := by
  have hrle := h.region_le
  obtain ⟨hpos, htop, hbt⟩ := suClosed_frame ({ g with pos := { g.pos with col := 0 } } : Grid) 1
  unfold cwClosed
  rw [lf1_scroll (g := { g with pos := { g.pos with col := 0 } }) (h.pos _) hu hin hbot]
  simp only [htop, hbt, hpos, Nat.one_pos, true_and]
  split
  · rfl
  · simp only [hbot, show g.scrollBottom - 1 + 1 = g.scrollBottom by omega, beq_self_eq_true, Bool.and_true]

end wrap

/-- **wrap with room below** (inside the scroll region above its bottom line, or outside it above the last line):
the cursor goes to column 0 of the next line, the line it left is flagged exactly as the decision says -/
theorem colWrap_room {g : Grid} (hinv : GridInv W g true) (hl : g.rows.length = g.size.rows) (w : Nat) (wrap : Bool)
    (hw : w ≤ g.size.cols) (hno : g.pos.col + w > g.size.cols)
    (hroom : g.pos.row + 1 ≤ (if g.inScrollRegion then g.scrollBottom else g.size.rows - 1)) :
    ∃ r, g.rows[g.pos.row]? = some r ∧
      g.colWrap w wrap = .ok { g with pos := ⟨g.pos.row + 1, 0⟩, rows := g.rows.set g.pos.row (r.wrap wrap) } := by
  have hrow := List.getElem?_eq_getElem (show g.pos.row < g.rows.length by rw [hl]; exact hinv.pos_row)
  refine ⟨_, hrow, ?_⟩
  rw [(colWrap_spec hinv hl w wrap hw).1, if_neg (by omega),
    cwClosed_room wrap (C08lfri.live_of_inv hinv hl) hinv.rows_u16 hroom,
    flagRow_eq_set (g := { g with pos := ⟨g.pos.row + 1, 0⟩ }) hrow]

/-- **wrap on the last line when it lies outside the scroll region**: the cursor stays on the line, at column 0;
the line is not flagged -/
theorem colWrap_stay {g : Grid} (hinv : GridInv W g true) (hl : g.rows.length = g.size.rows) (w : Nat) (wrap : Bool)
    (hw : w ≤ g.size.cols) (hno : g.pos.col + w > g.size.cols) (hin : g.inScrollRegion = false)
    (hlast : g.pos.row = g.size.rows - 1) :
    ∃ r, g.rows[g.pos.row]? = some r ∧
      g.colWrap w wrap = .ok { g with pos := ⟨g.pos.row, 0⟩, rows := g.rows.set g.pos.row (r.wrap false) } := by
  have hrow := List.getElem?_eq_getElem (show g.pos.row < g.rows.length by rw [hl]; exact hinv.pos_row)
  refine ⟨_, hrow, ?_⟩
  rw [(colWrap_spec hinv hl w wrap hw).1, if_neg (by omega), cwClosed_stay wrap hinv.rows_u16 hin hlast,
    flagRow_eq_set (g := { g with pos := ⟨g.pos.row, 0⟩ }) hrow]

/-- **after the wrap the character is printed as one that fits**: `text` on the grid equals `text` on the grid
`col_wrap` produces (whose cursor is in column 0) -/
theorem text_after_wrap {g g1 : Grid} (a : Attrs) (c : Nat) (hnc : ¬ (W c = none ∧ c < 256))
    (hwc : effWidth W c ≤ g.size.cols) {wrap : Bool} (hd : g.wrapDecision (effWidth W c) = .ok wrap)
    (hcw : g.colWrap (effWidth W c) wrap = .ok g1) (hsz : g1.size = g.size) (hcol : g1.pos.col + effWidth W c ≤ g1.size.cols) :
    g.text W a c = g1.text W a c := by
  rw [text_eq g a c hnc hwc, hd, ok_bind, hcw, ok_bind, text_of_fits g1 a c hnc hcol]

/-- **wrap on the bottom line of the scroll region**: the region scrolls by one line (`scrollUpStep`: the top line
of the region goes — into the scrollback when the region is the whole screen), the cursor stays on the bottom
line at column 0, and the line the cursor left — now one line up — is flagged as the decision says; with a
one-line region the line has scrolled away and nothing is flagged (fix 25f9fd6) -/
theorem colWrap_scroll {g : Grid} (hinv : GridInv W g true) (hl : g.rows.length = g.size.rows) (w : Nat) (wrap : Bool)
    (hw : w ≤ g.size.cols) (hno : g.pos.col + w > g.size.cols) (hin : g.inScrollRegion = true)
    (hbot : g.pos.row = g.scrollBottom) :
    ∃ g1, C12.scrollUpStep ({ g with pos := ⟨g.pos.row, 0⟩ } : Grid) = .ok g1 ∧
      (g.scrollTop = g.scrollBottom → g.colWrap w wrap = .ok g1) ∧
      (g.scrollTop < g.scrollBottom → ∃ r, g1.rows[g.scrollBottom - 1]? = some r ∧ g.rows[g.pos.row]? = some r ∧
        g.colWrap w wrap = .ok { g1 with rows := g1.rows.set (g.scrollBottom - 1) (r.wrap wrap) }) := by
  have hlive := C08lfri.live_of_inv hinv hl
  have h1 := C08lfri.scrollUpStep_closed (g := { g with pos := ⟨g.pos.row, 0⟩ }) (hlive.pos _)
  have e := (colWrap_spec hinv hl w wrap hw).1
  rw [if_neg (by omega), cwClosed_scroll wrap hlive hinv.rows_u16 hin hbot] at e
  refine ⟨_, h1, fun htb => by rw [e, if_pos htb], fun htb => ?_⟩
  have hbl : g.scrollBottom < g.rows.length := by rw [hl]; exact hinv.region_lt
  have hprev := (C08lfri.scrollUpStep_prev (g := { g with pos := ⟨g.pos.row, 0⟩ }) hbl htb h1).trans
    (List.getElem?_eq_getElem hbl)
  refine ⟨_, hprev, by rw [hbot]; exact List.getElem?_eq_getElem hbl, ?_⟩
  rw [e, if_neg (by omega), flagRow_eq_set hprev]

/-- `Cell::append(z)` as a total function: a full cell (18 = `CONTENT_BYTES - 4` bytes or more, cell.rs:57: no room
for another 4-byte character) is left alone; an empty cell gets a space placeholder first -/
def appendCell (cell : Cell) (z : Nat) : Cell :=
  if cell.len ≥ 18 then cell
  else if cell.len = 0 then appendEmptyResult cell z
  else appendResult cell z

theorem append_eq {cell : Cell} (hl : cell.contents.length = 22) (z : Nat) : cell.append z = .ok (appendCell cell z) :=
  Cell.append_eq hl z

/-- the cell a zero-width character is appended to: the cell before the cursor (its first half when that is
the second half of a wide character); with the cursor in column 0, the last cell of the line above if that
line is wrapped; otherwise none — the character is dropped -/
def zeroTarget (g : Grid) : Option Pos :=
  let back (row col : Nat) : Pos :=
    if (((g.rows[row]?).bind (fun r => r.cells[col]?)).map (·.cont)).getD false then ⟨row, col - 1⟩ else ⟨row, col⟩
  if g.pos.col > 0 then some (back g.pos.row (g.pos.col - 1))
  else if g.pos.row > 0 ∧ (((g.rows[g.pos.row - 1]?).map (·.wrapped)).getD false) = true then
    some (back (g.pos.row - 1) (g.size.cols - 1))
  else none

def appendedAt (g : Grid) (p : Pos) (z : Nat) : Grid :=
  match g.rows[p.row]? with
  | some r =>
    match r.cells[p.col]? with
    | some tc => { g with rows := g.rows.set p.row { r with cells := r.cells.set p.col (appendCell tc z) } }
    | none => g
  | none => g

theorem appendToPrev_spec {g : Grid} (hinv : GridInv W g true) (hl : g.rows.length = g.size.rows) {r c z : Nat}
    (hr : r < g.size.rows) (hc : c < g.size.cols) :
    g.appendToPrev r c z = .ok (appendedAt g
      (if (((g.rows[r]?).bind (fun row => row.cells[c]?)).map (·.cont)).getD false then ⟨r, c - 1⟩ else ⟨r, c⟩) z) := by
  obtain ⟨row, cell, site, tc, hrow, hcell, e, htc, _⟩ := appendToPrev_eq hinv hl hr hc z
  have h22 := (cellOk_fields W ((rowGood_cells W (hinv.row_ok row (List.mem_of_getElem? hrow))).cells_ok tc
    (List.mem_of_getElem? htc))).1
  have hpos : (if cell.cont = true then (⟨r, c - 1⟩ : Pos) else ⟨r, c⟩) = ⟨r, if cell.cont = true then c - 1 else c⟩ := by
    split <;> rfl
  simp only [e, hrow, hcell, Option.bind_some, Option.map_some, Option.getD_some, hpos]
  generalize (if cell.cont = true then c - 1 else c) = c' at htc
  simp only [Grid.modifyCellM, modifyM, hrow, htc, append_eq h22, ok_bind, pure_eq_ok, appendedAt]

/-- **C05, zero-width characters**: appended to the target cell (`appendCell`: dropped when the cell is full),
dropped when there is no target; the cursor never moves and nothing else changes -/
theorem text_zero_spec {g : Grid} (hinv : GridInv W g true) (hl : g.rows.length = g.size.rows) (a : Attrs) {z : Nat}
    (hz : W z = some 0) :
    g.text W a z = .ok (match zeroTarget g with
      | some p => appendedAt g p z
      | none => g) := by
  have hw : effWidth W z = 0 := by simp [effWidth, hz]
  rw [text_of_fits g a z (by simp [hz]) (by rw [hw]; exact hinv.pos_col), hw]
  have hpr := hinv.pos_row
  have hcp := hinv.cols_pos
  simp only [beq_self_eq_true, ↓reduceIte, textZero_eq hinv hl, zeroTarget]
  split
  · exact appendToPrev_spec hinv hl hinv.pos_row (by have := hinv.pos_col; omega)
  · split
    · exact appendToPrev_spec hinv hl (by omega) (by omega)
    · rfl

end Vt.C05
