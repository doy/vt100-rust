/-
  Vt.Props.DiffWrap1 — C02 (screen diffs) for CHANGED lines that are soft-wrapped, part 1: the receiving line's WRAP FLAG
  tracked through the cell loop of a line that is wrapped in P and/or in S.

  The simulation of the cell loop is `DiffRow`'s, which carries a predicate `Q` on the receiving line's wrap flag along,
  provided `Q` survives what a diff writes on the line (`DiffRow.KeepsFlag`).  Here `Q` is `FlagSpec.holds` (the flag is
  known to be off and stays off / is known to be on and stays on / is not tracked):

    * the flag is never SET by what a diff writes on the line itself (ECH, EL, typing inside the line) — mode `off`;
    * the flag is CLEARED by an erase that reaches the last column, by an erase that reaches column `cols-2` when it
      holds a wide character, and by a wide character typed at `cols-3` over a wide character at `cols-2` (the two
      F8b patterns).  When P's line and S's line are both wrapped nothing repairs that, so the side condition
      `noF8b S P` (decidable, on the pair of rows: if P holds a wide character at `cols-2`, S holds text there)
      together with `lastOcc S` (a wrapped line has its last column occupied: `Inv⁺`) excludes exactly the
      situations in which one of those three things is emitted — mode `on`.

  The end of the line (`diffEnd`) and the line theorem `row_diff_draws_flags` are in DiffWrap3.  Namespace `Vt.C02`.
-/
import Vt.Props.DiffRow
namespace Vt.C02
open Vt Vt.Recv Vt.C19 Vt.C09 Vt.RowDraw Vt.C03 Vt.Bytes Vt.DiffRow Vt.C15wrap

variable {W : Nat → Option Nat} {cb : CbPolicy}

/-- **no F8b pattern** on a pair of lines (`S` current, `P` previous): if `P` holds a wide character in column
`cols-2` (the last place a wide character fits), `S` holds text in that column.  Otherwise `S` has there a blank
(the diff writes an ECH over the wide character) or the second half of a wide character at `cols-3` (the diff types it
over the wide character); both make the receiver clear the line's wrap flag. -/
def noF8b (S P : List Cell) : Bool :=
  match S.length with
  | n + 2 => !(C05.flagAt P n (·.wide)) || C05.flagAt S n (·.hasContents)
  | _ => true

/-- what is asked of a pair of lines that are BOTH wrapped so that the receiver's wrap flag survives the diff -/
structure Keep (S P : List Cell) : Prop where
  occ : lastOcc S
  nof : noF8b S P = true

theorem Keep.wide {S P : List Cell} (h : Keep S P) (c : Nat) (hc : c + 2 = S.length) (hcP : c < P.length)
    (hw : P[c].wide = true) : ∃ hcS : c < S.length, S[c].hasContents = true := by
  have hcS : c < S.length := by omega
  refine ⟨hcS, ?_⟩
  have := h.nof
  unfold noF8b at this
  rw [← hc] at this
  simp only [C05.flagAt, List.getElem?_eq_getElem hcP, List.getElem?_eq_getElem hcS, Option.map_some, Option.getD_some, hw,
    Bool.not_true, Bool.false_or] at this
  exact this

/-- how the receiving line's wrap flag is tracked: `none` = not at all, `some false` = it is off and stays off,
`some true` = it is on and stays on (which needs `Keep`) -/
structure FlagSpec (S P : List Cell) where
  mode : Option Bool
  keep : mode = some true → Keep S P

def FlagSpec.any (S P : List Cell) : FlagSpec S P := ⟨none, fun h => by simp at h⟩
def FlagSpec.off (S P : List Cell) : FlagSpec S P := ⟨some false, fun h => by simp at h⟩
def FlagSpec.on {S P : List Cell} (h : Keep S P) : FlagSpec S P := ⟨some true, fun _ => h⟩

def FlagSpec.holds {S P : List Cell} (F : FlagSpec S P) (w : Bool) : Prop := ∀ b, F.mode = some b → w = b

/-- the receiving line in the middle of a diff, wrap flag included (`flag` is `F.holds Ri.wrapped`) -/
structure MidF {S P : List Cell} (F : FlagSpec S P) (e : Nat) (Ri : Row) : Prop where
  mid : Mid' S P e Ri
  flag : ∀ b, F.mode = some b → Ri.wrapped = b

/-- an erase run `[e, j)` of blanks of the current line never reaches the columns whose erasure clears the wrap flag,
under `Keep`: not the last column, which is occupied; not column `cols-2` under a wide character, which faces text of the
current line.  Of the receiving line only this enters: a wide character in column `j - 1` is `P`'s. -/
theorem flag_kept {S P : List Cell} (hk : Keep S P) {R : List Cell} (hl : R.length = S.length) (hpl : P.length = S.length)
    {e j : Nat} (hej : e < j) (hjl : j ≤ S.length) (a : Attrs)
    (hrun : ∀ k (hk : k < S.length), e ≤ k → k < j → view S[k] = blankA a)
    (hw : ∀ (hj : j - 1 < S.length), (R[j - 1]'(hl ▸ hj)).wide = true → (P[j - 1]'(hpl ▸ hj)).wide = true) :
    C07.flagCleared R e j = false := by
  obtain ⟨hne, hocc⟩ := hk.occ
  have hjS : j - 1 < S.length := by omega
  have hb := blank_not_occ (hrun (j - 1) hjS (by omega) (by omega))
  have h1 : j ≠ R.length := by
    intro hj
    obtain rfl : j = S.length := hj.trans hl
    rw [hb.1, hb.2] at hocc
    exact absurd hocc (by simp)
  have h2 : j + 1 = R.length → (R[j - 1]'(hl ▸ hjS)).wide = false := by
    intro hj1
    cases hwR : (R[j - 1]'(hl ▸ hjS)).wide
    · rfl
    · obtain ⟨_, hh⟩ := hk.wide (j - 1) (by omega) (hpl ▸ hjS) (hw hjS hwR)
      rw [hb.1] at hh; exact absurd hh (by simp)
  unfold C07.flagCleared
  rw [List.getElem?_eq_getElem (hl ▸ hjS)]
  simp only [Option.map_some, Option.getD_some, Bool.and_eq_false_imp, Bool.or_eq_false_iff, beq_eq_false_iff_ne, beq_iff_eq]
  exact fun _ => ⟨h1, h2⟩

/-- `flag_kept` on the receiving line `e` columns into the diff: `Mid'` supplies `hw` -/
theorem flag_kept_erase {S P : List Cell} (hk : Keep S P) {e j : Nat} {Ri : Row} (h : Mid' S P e Ri)
    (hej : e < j) (hjl : j ≤ S.length) (a : Attrs)
    (hrun : ∀ k (hk : k < S.length), e ≤ k → k < j → view S[k] = blankA a) :
    C07.flagCleared Ri.cells e j = false := by
  refine flag_kept hk h.len h.plen hej hjl a hrun (fun hjS hw => ?_)
  by_cases he : e = j - 1
  · subst he
    rcases h.mid hjS with hm | ⟨_, _, hm, _⟩
    · rw [← view_wide hm]; exact hw
    · rw [hw] at hm; exact absurd hm (by simp)
  · rw [← view_wide (h.hi (j - 1) hjS (by omega))]; exact hw

/-- a cell of the current line typed at column `j`: the flag is cleared only by a wide character typed at `cols-3` over
a wide character at `cols-2`, which under `Keep` faces text of the current line — not the second half typed here -/
theorem FlagSpec.typed_kept {S P : List Cell} (F : FlagSpec S P) (hS : SrcOk W S) {j : Nat} {Ri : Row} (h : Mid' S P j Ri)
    (hq : F.holds Ri.wrapped) (hj : j < S.length) (cols : Nat) (hcols : cols = S.length) (a : Attrs) (f : Nat) (cellF : Cell)
    (hw : C05.effWidth W f = (if S[j].wide = true then 2 else 1)) : F.holds (typedRow W Ri j cols a f cellF).wrapped := by
  intro b hb
  rw [typedRow_wrapped_eq]
  cases b with
  | false => rw [hq false hb]; split <;> rfl
  | true =>
    rw [hq true hb, if_neg]
    rintro ⟨h1, _, h3, h4⟩
    have hsw : S[j].wide = true := by
      cases hs : S[j].wide
      · rw [hw, hs] at h1; simp at h1
      · rfl
    obtain ⟨hj1, hc1⟩ := hS.wide_next j hj hsw
    have hj1R : j + 1 < Ri.cells.length := by rw [h.len]; exact hj1
    rw [flagAt_get _ _ hj1R] at h3
    have hpw : (P[j + 1]'(by rw [h.plen]; exact hj1)).wide = true := by
      rw [← view_wide (h.hi (j + 1) hj1 (by omega))]; exact h3
    obtain ⟨_, hh⟩ := (F.keep hb).wide (j + 1) (by omega) (by rw [h.plen]; exact hj1) hpw
    have := (cellOk_cont W _ (hS.cells_ok _ (List.getElem_mem hj1)) hc1).2
    simp [Cell.hasContents, this] at hh

theorem MidF.typed2 {S P : List Cell} {F : FlagSpec S P} (hW32 : W 32 = some 1) (hS : SrcOk W S) (hP : WideNext P) {j : Nat}
    {Ri : Row} (h : MidF F j Ri) (hci : CellsInv W Ri.cells) (hj : j < S.length) (hsc : S[j].cont = false)
    (hsw : S[j].wide = true) (cols : Nat) (hcols : cols = S.length) (a : Attrs) (f : Nat) (hw : C05.effWidth W f = 2)
    (cellF : Cell) (hvF : view cellF = view S[j]) : MidF F (j + 2) (typedRow W Ri j cols a f cellF) :=
  ⟨h.mid.typed2 hW32 hS hP hci hj hsc hsw cols a f hw cellF hvF,
    F.typed_kept hS h.mid h.flag hj cols hcols a f cellF (by rw [hw, if_pos hsw])⟩

theorem FlagSpec.erased {S P : List Cell} (F : FlagSpec S P) {w : Bool} (hq : F.holds w) (cs : List Cell) (e j : Nat) (a : Attrs)
    (hk : F.mode = some true → C07.flagCleared cs e j = false) : F.holds (C07.erasedRow cs w e j a).wrapped := by
  intro b hb
  simp only [C07.erasedRow]
  cases b with
  | false => rw [hq false hb]; split <;> rfl
  | true => rw [hk hb, hq true hb]; simp

theorem FlagSpec.keeps {S P : List Cell} (F : FlagSpec S P) (hS : SrcOk W S) : KeepsFlag W S P F.holds where
  erase {e j _} hm hq hej hjl a hrun := F.erased hq _ e j a fun hb => flag_kept_erase (F.keep hb) hm hej hjl a hrun
  typed hm hq hj _ cols hcols a f cellF hw := F.typed_kept hS hm hq hj cols hcols a f cellF hw

end Vt.C02
