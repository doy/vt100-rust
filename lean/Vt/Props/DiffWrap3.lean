/-
  Vt.Props.DiffWrap3 — C02 for changed soft-wrapped lines, part 3: one line of a diff, wrap flags and cursor included.

  `diffEnd_drawnF` (the end of the line: cells, wrap flag, cursor) is `C15wrap.diffEnd_lo` at the right margin; `line_tailF` is
  the last erase run and `diffEnd` after the cell loop.  With `wrapping = true` the line starts in one of three ways.  The
  emitter's cursor is not parked at the end of the line above: `wrapping` is irrelevant (DiffIrrel), and the line above has to
  be flagged on the receiver already.  It is parked there and `diffStart` repairs nothing: the pending phase of DiffPend, then
  the cell loop (`parked_line`); when the first cell is changed the first thing written makes the receiver wrap, otherwise the
  line above has to be flagged already.  The line above has JUST become wrapped and the first cell is unchanged: `diffStart`
  re-types that cell from the parked position (`repair_start`), which is a first emission too, and the line goes on from
  `Started` (`started_line`).  `diff_line` is the one theorem over these cases and `wrapping = false`, the reason why the line
  above ends up flagged (`WrapsBy`) a hypothesis; `row_diff_draws_flags` / `_parked` / `_owed` are instances, for a receiver
  that satisfies the parser invariant.  Namespace `Vt.C02`.
-/
import Vt.Props.DiffPend
import Vt.Props.DiffLine
namespace Vt.C02
open Vt Vt.Recv Vt.C19 Vt.C09 Vt.RowDraw Vt.C03 Vt.Bytes Vt.DiffRow Vt.C15wrap
open Vt.Fmt (start)

variable {W : Nat → Option Nat} {cb : CbPolicy}

/-- what one line of a diff achieves on the receiver whose state (but for line `i`, cursor and pen) is `base` -/
def LineDone (W : Nat → Option Nat) (cb : CbPolicy) (p0 : Parser) (base : RS) (i : Nat) (sr pr : Row) (cols : Nat)
    (res : List Nat × Pos × Attrs) : Prop :=
  (∃ Ri, Emitted W cb p0 res.1 (shape base i Ri res.2.1 res.2.2) ∧ Ri.cells.map view = sr.cells.map view ∧
    Ri.wrapped = (pr.wrapped && sr.wrapped)) ∧ Bytes res.1 ∧ res.2.1.col ≤ cols ∧
  (Attrs.wf base.pen → Attrs.wf res.2.2) ∧ (sr.wrapped = true → pr.wrapped = false → res.2.1 = ⟨i, cols⟩)

/-- `LineDone`, and the written line is again one the receiver's closed forms apply to -/
def LineDoneWf (W : Nat → Option Nat) (cb : CbPolicy) (p0 : Parser) (base : RS) (i : Nat) (sr pr : Row) (cols : Nat)
    (res : List Nat × Pos × Attrs) : Prop :=
  (∃ Ri, Emitted W cb p0 res.1 (shape base i Ri res.2.1 res.2.2) ∧ Ri.cells.map view = sr.cells.map view ∧
    Ri.wrapped = (pr.wrapped && sr.wrapped) ∧ LineWf Ri) ∧ Bytes res.1 ∧ res.2.1.col ≤ cols ∧
  (Attrs.wf base.pen → Attrs.wf res.2.2) ∧ (sr.wrapped = true → pr.wrapped = false → res.2.1 = ⟨i, cols⟩)

theorem LineDoneWf.done {p0 : Parser} {base : RS} {i : Nat} {sr pr : Row} {cols : Nat} {res : List Nat × Pos × Attrs}
    (h : LineDoneWf W cb p0 base i sr pr cols res) : LineDone W cb p0 base i sr pr cols res :=
  have ⟨⟨Ri, hem, hv, hw, _⟩, h⟩ := h
  ⟨⟨Ri, hem, hv, hw⟩, h⟩

/-- what the emitter keeps by itself (`row_diff_keeps`) a line theorem may assume of its result -/
theorem lineDone_of_run {p0 : Parser} {base : RS} {i : Nat} {sr pr : Row} {cols : Nat} {x : M (List Nat × Pos × Attrs)}
    (hk : C12.MPred (fun res => Bytes res.1 ∧ res.2.1.col ≤ cols ∧ (Attrs.wf base.pen → Attrs.wf res.2.2)) x)
    (h : ∃ res, x = .ok res ∧ (Bytes res.1 ∧ res.2.1.col ≤ cols ∧ (Attrs.wf base.pen → Attrs.wf res.2.2) →
      LineDoneWf W cb p0 base i sr pr cols res)) :
    ∃ res, x = .ok res ∧ LineDoneWf W cb p0 base i sr pr cols res := by
  obtain ⟨res, e, h⟩ := h
  exact ⟨res, e, h (C12.MPred.iff.mp hk _ e)⟩

/-- **the tail of one line of a diff, wrap flag and cursor included**: after the cell loop the receiving line shows
the current line and its wrap flag is what `F` says; after `diffEnd` the line still shows the current line, and its
wrap flag is ON iff both P's and S's line are wrapped.  When the line has just become wrapped the flag is still OFF
and the cursor sits in the pending-wrap column: the receiver will record the wrap when the next line's first
character is typed there. -/
theorem diffEnd_drawnF (K : Ctx W cb) (prv : List Cell) (F : FlagSpec K.src prv) (hW : WOk W)
    (hS : SrcOk W K.src) (hne : 0 < K.src.length) (sw : Bool) (pr : Row) {st : Row.FmtSt}
    (hd : DiffAt K prv F.holds K.src.length st)
    (hE : sw = false → pr.wrapped = true → ∀ c (hc : c < K.src.length), c + 1 = K.src.length →
      K.src[c].cont = false → K.src[c].hasContents = false → K.src[c].attrs = st.prevAttrs)
    (hoccS : sw = true → lastOcc K.src)
    (hmOff : pr.wrapped = false → F.mode = some false)
    (hmOn : pr.wrapped = true → sw = true → F.mode = some true) :
    ∃ res, Row.diffEnd ⟨K.src, sw⟩ pr K.i st = .ok res ∧
      (Bytes res.1 ∧ res.2.1.col ≤ K.src.length ∧ (Attrs.wf K.r0.pen → Attrs.wf res.2.2) →
        LineDoneWf W cb K.p0 K.r0 K.i ⟨K.src, sw⟩ pr K.src.length res) := by
  obtain ⟨Ri, hem, hmid, hq, hl⟩ := hd
  by_cases hcond : ((!sw && pr.wrapped) || (!pr.wrapped && sw)) = true
  · obtain ⟨out, np, na, e, ⟨Ri', hem', hlo', hfl, hoff, hl'⟩, hpos⟩ :=
      diffEnd_lo K hW hS hne sw pr hcond (Nat.le_refl _) (fun h => absurd h (Nat.lt_irrefl _)) hem hmid.toLo
        (fun c hc => by rw [List.getElem?_eq_none (Nat.le_of_eq hmid.len)] at hc; cases hc) hl
        (fun _ hs => hE hs (by rw [hs] at hcond; simpa using hcond))
    refine ⟨_, e, fun hk => ⟨⟨_, hem', hlo'.full, ?_, hl'⟩, hk.1, hk.2.1, hk.2.2, fun h _ => hpos h (hoccS h)⟩⟩
    cases sw
    · rw [hoff rfl rfl]; simp
    · -- the line became wrapped: the flag was off and has not been set
      have hpw : pr.wrapped = false := by simpa using hcond
      rw [hpw]
      exact hfl.elim id (fun h => h.trans (hq false (hmOff hpw)))
  · unfold Row.diffEnd
    rw [if_neg hcond]
    refine ⟨_, rfl, fun hk => ⟨⟨_, hem, hmid.full, ?_, hl⟩, hk.1, hk.2.1, hk.2.2, ?_⟩⟩
    · cases hp : pr.wrapped
      · rw [hq false (hmOff hp)]; rfl
      · cases sw
        · rw [hp] at hcond; simp at hcond
        · rw [hq true (hmOn hp rfl)]; rfl
    · intro (h1 : sw = true) h2
      rw [h1, h2] at hcond; simp at hcond

/-- the flag specification that goes with a pair of lines: off when P's line is not wrapped, on when both are
(`Keep` needed), untracked when the line becomes unwrapped (the `ESC[X` of `diffEnd` clears it whatever it is) -/
def specOf (sr pr : Row) (hk : sr.wrapped = true → pr.wrapped = true → Keep sr.cells pr.cells) :
    FlagSpec sr.cells pr.cells :=
  ⟨if pr.wrapped then (if sr.wrapped then some true else none) else some false, by
    intro h
    cases hp : pr.wrapped <;> cases hs : sr.wrapped <;> simp [hp, hs] at h
    exact hk hs hp⟩

theorem specOf_off {sr pr : Row} {hk} (h : pr.wrapped = false) : (specOf sr pr hk).mode = some false := by
  show (if pr.wrapped then _ else _) = _; rw [h]; rfl

theorem specOf_on {sr pr : Row} {hk} (h1 : pr.wrapped = true) (h2 : sr.wrapped = true) : (specOf sr pr hk).mode = some true := by
  show (if pr.wrapped then _ else _) = _; rw [h1, h2]; rfl

theorem specOf_holds {sr pr : Row} {hk} {w : Bool} (hw : w = pr.wrapped) : (specOf sr pr hk).holds w := by
  intro b hb
  have hb' : (if pr.wrapped then (if sr.wrapped then some true else none) else some false) = some b := hb
  rw [hw]
  cases hp : pr.wrapped <;> cases hs : sr.wrapped <;> simp [hp, hs] at hb' <;> exact hb'.symm

/-- **the tail of a line, from the loop invariant at the end of the line**: the last erase run, then `diffEnd`.  When
the line has just become unwrapped and ends in a blank, that blank differs from P's occupied last cell, so it belongs to
the erase run flushed last and `diffEnd`'s `ESC[X` is written with its attributes as the pen. -/
theorem line_tailF (K : Ctx W cb) (D : DCtx W K.src.length) (F : FlagSpec K.src D.prv) (hW : WOk W) (hS : SrcOk W K.src)
    (hne : 0 < K.src.length) (sw : Bool) (pr : Row) (hprv : pr.cells = D.prv) {st' : Row.FmtSt}
    (hJ : CellLoop K D F.holds K.src.length st')
    (hoccS : sw = true → lastOcc K.src) (hoccP : pr.wrapped = true → lastOcc pr.cells)
    (hmOff : pr.wrapped = false → F.mode = some false)
    (hmOn : pr.wrapped = true → sw = true → F.mode = some true) :
    ∃ res, Row.diffEnd ⟨K.src, sw⟩ pr K.i (Row.fmtFinish K.src.length K.i false st') = .ok res ∧
      (Bytes res.1 ∧ res.2.1.col ≤ K.src.length ∧ (Attrs.wf K.r0.pen → Attrs.wf res.2.2) →
        LineDoneWf W cb K.p0 K.r0 K.i ⟨K.src, sw⟩ pr K.src.length res) := by
  refine diffEnd_drawnF K D.prv F hW hS hne sw pr (finish_line K D (F.keeps hS) hS hne hJ) ?_ hoccS hmOff hmOn
  intro _ hpwr c hc hcl hcc hh
  exact (finish_pen K D hS hne hJ hc hcl hcc hh (last_differs (hprv ▸ hoccP hpwr) D.hprv hc hcl hcc hh)).symm


/-! ### `diffStart`'s repair: the line above has just become wrapped and this line's first cell is unchanged -/

/-- the repair when the first cell holds text: pen, the text typed from the parked position (the receiver wraps),
one BS per column — the line shows what it showed, the cursor is at its start, the line above is flagged -/
theorem repair_text (K : Ctx W cb) (D : DCtx W K.src.length) (X : WCtx K) (hW : WOk W) (hne : 0 < D.prv.length) {Ri0 : Row}
    (hshow : Ri0.cells.map view = D.prv.map view) (hwf0 : LineWf Ri0) {pen : Attrs}
    (hem0 : Emitted W cb K.p0 [] (shape K.r0 K.i Ri0 ⟨K.i - 1, K.r0.g.size.cols⟩ pen))
    (hh : D.prv[0].hasContents = true) :
    ∃ R1, Emitted W cb K.p0
        ((if (pen != D.prv[0].attrs) = true then D.prv[0].attrs.writeEscapeCodeDiff pen else []) ++
          ((D.prv[0].contents.take D.prv[0].len ++ Term.backspace) ++ (if D.prv[0].isWide = true then Term.backspace else [])))
        (shape (K.wrapped X).r0 K.i R1 ⟨K.i, 0⟩ D.prv[0].attrs) ∧
      R1.cells.map view = D.prv.map view ∧ R1.wrapped = Ri0.wrapped ∧ LineWf R1 := by
  have hmidP : Mid' D.prv D.prv 0 Ri0 := mid_zero rfl hshow
  have hl : Ri0.cells.length = K.r0.g.size.cols := by rw [hmidP.len, D.hprv, K.hsrc]
  have hnc : D.prv[0].cont = false := by rw [D.hP.cont_iff 0 hne]; simp
  obtain ⟨f, cellF, h3, hvF, hwe, hwf1⟩ := type_wrap_cell K X hW K.r0.g.size.cols
    (K.emitted_pen hem0 (D.hP.wf 0 hne)) hwf0 hl (D.hP.cells_ok _ (List.getElem_mem hne))
    (by simpa only [D.hprv] using D.hP.emit_ok 0 hne) hh (by rw [← K.hsrc]; exact Nat.le_add_right _ _)
  have hmid1 := hmidP.typeCell hW.space D.hP (wideNext_of_src D.hP) hwf0.links hne hnc K.r0.g.size.cols D.prv[0].attrs f hwe
    cellF hvF
  have hflag : (typedRow W Ri0 0 K.r0.g.size.cols D.prv[0].attrs f cellF).wrapped = Ri0.wrapped :=
    typedRow_wrapped_over Ri0 (by rw [hl]; exact K.canvas.cols_pos) _ _ cellF fun h => by
      rw [view_wide ((full_get hshow).2 0 hne)]
      cases hw : D.prv[0].wide
      · rw [hwe, hw] at h; simp at h
      · rfl
  refine ⟨_, ?_, shows_of_mid hmid1 (fun _ _ _ => rfl) (fun hk => ?_), hflag, hwf1⟩
  · by_cases hwide : D.prv[0].wide = true
    · rw [if_pos hwide] at h3
      have h5 : Emitted W cb K.p0 _ (shape (K.wrapped X).r0 K.i _ ⟨K.i, 0⟩ _) :=
        emitted_bs (K.wrapped X) (c := 0) (emitted_bs (K.wrapped X) (c := 1) h3)
      simpa [Cell.isWide, hwide, List.append_assoc] using h5
    · rw [if_neg hwide] at h3
      have h4 : Emitted W cb K.p0 _ (shape (K.wrapped X).r0 K.i _ ⟨K.i, 0⟩ _) := emitted_bs (K.wrapped X) (c := 0) h3
      simpa [Cell.isWide, hwide, List.append_assoc] using h4
  · rw [D.hP.cont_iff _ hk]
    by_cases hwide : D.prv[0].wide = true
    · obtain ⟨hk1, hc1⟩ := D.hP.wide_next 0 hne hwide
      simp only [hwide, ↓reduceIte, Nat.zero_add, Nat.succ_ne_zero]
      exact (cellOk_cont W _ (D.hP.cells_ok _ (List.getElem_mem hk1)) hc1).1
    · simp [hwide]

theorem diffStart_repair (sr pr : Row) (i cols : Nat) (pen : Attrs) (h0 : 0 < sr.cells.length) (h0p : 0 < pr.cells.length)
    (hcols : sr.cells.length = cols) (hi1 : 1 ≤ i) (heq : sr.cells[0].eq pr.cells[0] = true) (hok : cellOk W pr.cells[0] = true) :
    Row.diffStart sr pr 0 i true false ⟨i - 1, cols⟩ pen = .ok ⟨false, ⟨i, 0⟩, sr.cells[0].attrs, none,
      (if (pen != sr.cells[0].attrs) = true then sr.cells[0].attrs.writeEscapeCodeDiff pen else []) ++
        if pr.cells[0].hasContents = true then
          (pr.cells[0].contents.take pr.cells[0].len ++ Term.backspace) ++ (if pr.cells[0].isWide = true then Term.backspace else [])
        else ([32] ++ Term.backspace) ++ Term.eraseChar 1⟩ := by
  have hc : (true && !false && sr.cells[0].eq pr.cells[0] && (⟨i - 1, cols⟩ : Pos).row + 1 == i &&
      decide ((⟨i - 1, cols⟩ : Pos).col ≥ sr.cols - if pr.cells[0].isWide = true then 1 else 0)) = true := by
    simp only [Bool.not_false, Bool.and_self, heq, Bool.true_and, Bool.and_eq_true, beq_iff_eq, decide_eq_true_eq, Row.cols, hcols]
    refine ⟨by omega, ?_⟩
    split <;> omega
  -- no bytes to write = no text
  have hemp : (pr.cells[0].contents.take pr.cells[0].len).isEmpty = !pr.cells[0].hasContents := by
    obtain ⟨h22, hle, -⟩ := cellOk_fields W hok
    have : (pr.cells[0].contents.take pr.cells[0].len).length = pr.cells[0].len := by rw [List.length_take]; omega
    cases hc : pr.cells[0].contents.take pr.cells[0].len with
    | nil => rw [hc] at this; simp [Cell.hasContents, ← this]
    | cons _ _ => rw [hc] at this; simp [Cell.hasContents, ← this]
  rw [diffStart_eq (List.getElem?_eq_getElem h0) (List.getElem?_eq_getElem h0p) i pen hc (cellFine_of_ok hok), hemp]
  cases hh : pr.cells[0].hasContents
  · have hnw : pr.cells[0].isWide = false := blank_narrow hok hh
    simp only [hnw, Bool.not_false, ↓reduceIte, Bool.false_eq_true, List.append_nil, List.append_assoc]
  · simp only [Bool.not_true, Bool.false_eq_true, ↓reduceIte, List.append_nil, List.append_assoc]

/-- **`diffStart`'s repair on the receiver**: the receiver's cursor is in the pending-wrap column of the line above and this
line's first cell is unchanged; what `diffStart` writes makes the receiver wrap and leaves line `i` showing what it showed,
the cursor at its start: the cell loop starts with something written -/
theorem repair_start (K : Ctx W cb) (D : DCtx W K.src.length) (F : FlagSpec K.src D.prv) (X : WCtx K) (hW : WOk W) (hS : SrcOk W K.src)
    (hne : 0 < K.src.length) (sw pw : Bool) {Ri0 : Row} (hshow : Ri0.cells.map view = D.prv.map view) (hfl : F.holds Ri0.wrapped)
    (hwf0 : LineWf Ri0) {pen : Attrs} (hem0 : Emitted W cb K.p0 [] (shape K.r0 K.i Ri0 ⟨K.i - 1, K.r0.g.size.cols⟩ pen))
    (hv0 : view K.src[0] = view (D.prv[0]'(by rw [D.hprv]; exact hne))) :
    ∃ st0, Row.diffStart ⟨K.src, sw⟩ ⟨D.prv, pw⟩ 0 K.i true false ⟨K.i - 1, K.r0.g.size.cols⟩ pen = .ok st0 ∧
      Started K D F X 0 st0 := by
  have hneP : 0 < D.prv.length := by rw [D.hprv]; exact hne
  have hst := diffStart_repair ⟨K.src, sw⟩ ⟨D.prv, pw⟩ K.i K.r0.g.size.cols pen hne hneP K.hsrc X.hi1 ((eq_iff_view _ _).mpr hv0)
    (D.hP.cells_ok _ (List.getElem_mem hneP))
  have hattr : K.src[0].attrs = D.prv[0].attrs := (accessors_view _ _ hv0).2.2.2.1
  refine ⟨_, hst, ?_⟩
  suffices h : ∃ R1, Emitted W cb K.p0 _ (shape (K.wrapped X).r0 K.i R1 ⟨K.i, 0⟩ K.src[0].attrs) ∧ MidF F 0 R1 ∧ LineWf R1 by
    obtain ⟨R1, hem1, hmid1, hwf1⟩ := h
    exact Started.zero hem1 hmid1 hwf1
  by_cases hh : D.prv[0].hasContents = true
  · obtain ⟨R1, h1, hs1, hw1, hwf1⟩ := repair_text K D X hW hneP hshow hwf0 hem0 hh
    refine ⟨R1, ?_, ⟨mid_zero D.hprv hs1, hw1 ▸ hfl⟩, hwf1⟩
    show Emitted W cb K.p0 (_ ++ if D.prv[0].hasContents = true then _ else _) _
    rw [if_pos hh, hattr]; exact h1
  · have hhS : K.src[0].hasContents = false := by
      simp only [view, View.mk.injEq] at hv0
      simpa [Cell.hasContents, hv0.1] using hh
    obtain ⟨R2, h2, hm2⟩ := repair_blank K D F X hW hS hne ⟨mid_zero D.hprv hshow, hfl⟩ hwf0 hem0 hv0 hhS
    refine ⟨R2, ?_, hm2⟩
    show Emitted W cb K.p0 (_ ++ if D.prv[0].hasContents = true then _ else _) _
    rw [if_neg hh]; exact h2

/-- the line from `Started` at column 0 (`diffStart` has repaired): the cell loop, the last erase run, `diffEnd` -/
theorem started_line (K : Ctx W cb) (D : DCtx W K.src.length) (F : FlagSpec K.src D.prv) (X : WCtx K) (hW : WOk W) (hS : SrcOk W K.src)
    (hne : 0 < K.src.length) (sw : Bool) (pr : Row) (hprv : pr.cells = D.prv) {st0 : Row.FmtSt} (h : Started K D F X 0 st0)
    (hoccS : sw = true → lastOcc K.src) (hoccP : pr.wrapped = true → lastOcc pr.cells)
    (hmOff : pr.wrapped = false → F.mode = some false) (hmOn : pr.wrapped = true → sw = true → F.mode = some true) :
    ∃ st', (C14.enumFrom 0 (K.src.zip D.prv)).foldlM (Row.diffStep K.src.length K.i true) st0 = .ok st' ∧
      ∃ res, Row.diffEnd ⟨K.src, sw⟩ pr K.i (Row.fmtFinish K.src.length K.i true st') = .ok res ∧
      (Bytes res.1 ∧ res.2.1.col ≤ K.src.length ∧ (Attrs.wf K.r0.pen → Attrs.wf res.2.2) →
        LineDoneWf W cb K.p0 (K.wrapped X).r0 K.i ⟨K.src, sw⟩ pr K.src.length res) := by
  obtain ⟨st', e, hA⟩ := started_fold K D F X hW hS (K.src.zip D.prv) 0 st0 (by rfl) (Nat.zero_le _) h
  refine ⟨st', e, ?_⟩
  rw [fmtFinish_irrel K.src.length K.i st' hA.1.notFull]
  exact line_tailF (K.wrapped X) D F hW hS hne sw pr hprv hA.2 hoccS hoccP hmOff hmOn

/-- the line from the parked position, nothing repaired: the pending phase, then the cell loop, the last erase run, `diffEnd` -/
theorem parked_line (K : Ctx W cb) (D : DCtx W K.src.length) (F : FlagSpec K.src D.prv) (X : WCtx K) (hW : WOk W) (hS : SrcOk W K.src)
    (hne : 0 < K.src.length) (sw : Bool) (pr : Row) (hprv : pr.cells = D.prv) {pa : Attrs} {c0 : Nat} {Ri0 : Row}
    (Q : ParkFacts K D F X pa c0 Ri0) (hq : Quiet K D X)
    (hoccS : sw = true → lastOcc K.src) (hoccP : pr.wrapped = true → lastOcc pr.cells)
    (hmOff : pr.wrapped = false → F.mode = some false) (hmOn : pr.wrapped = true → sw = true → F.mode = some true) :
    ∃ st', (C14.enumFrom 0 (K.src.zip D.prv)).foldlM (Row.diffStep K.src.length K.i true)
        ⟨false, ⟨K.i - 1, c0⟩, pa, none, []⟩ = .ok st' ∧
      ∃ res, Row.diffEnd ⟨K.src, sw⟩ pr K.i (Row.fmtFinish K.src.length K.i true st') = .ok res ∧
      (Bytes res.1 ∧ res.2.1.col ≤ K.src.length ∧ (Attrs.wf K.r0.pen → Attrs.wf res.2.2) →
        LineDoneWf W cb K.p0 (K.wrapped X).r0 K.i ⟨K.src, sw⟩ pr K.src.length res) := by
  obtain ⟨st', e, hend⟩ := parked_fold K D F X hW hS Q hq (K.src.zip D.prv) 0 ⟨false, ⟨K.i - 1, c0⟩, pa, none, []⟩ (by rfl)
    (Nat.zero_le _)
    ⟨rfl, rfl, rfl, fun h => absurd h (Nat.lt_irrefl 0), fun _ => rfl, Or.inl ⟨rfl, fun k _ hk => absurd hk (Nat.not_lt_zero k)⟩⟩
  refine ⟨st', e, ?_⟩
  rcases hend with hP' | hA
  · -- nothing was written in the loop
    rcases hP'.er with ⟨hnone, heq⟩ | ⟨a, hea, hpw, _, hwfa, hfull, hrun⟩
    · -- every cell is unchanged
      have hff : Row.fmtFinish K.src.length K.i true st' = st' := by unfold Row.fmtFinish; rw [hnone]
      have hd : DiffAt (K.wrapped X) D.prv F.holds K.src.length st' := by
        rw [hP'.eq, hnone]; exact Q.drawn hq hne (Nat.le_refl _) (fun k hk _ => heq k hk hk) _
      rw [hff]
      exact diffEnd_drawnF (K.wrapped X) D.prv F hW hS hne sw pr hd
        (fun _ hpwr c hc hcl hcc hh => absurd (heq c hc hc) (last_differs (hprv ▸ hoccP hpwr) D.hprv hc hcl hcc hh))
        hoccS hmOff hmOn
    · -- the whole line is one erase run from column 0: SP BS, pen, EL
      obtain rfl : c0 = K.r0.g.size.cols := hfull
      obtain ⟨hd, hpa⟩ := parked_run_finish K D F X hW hS hne Q hP' hea hpw hwfa (fun k hk _ => hrun k hk hk)
      exact diffEnd_drawnF (K.wrapped X) D.prv F hW hS hne sw pr hd
        (fun _ _ c hc _ _ _ => (blankA_attrs (hrun c hc hc)).trans hpa.symm) hoccS hmOff hmOn
  · -- something was written: `wrapping` is irrelevant for the last erase run too
    rw [fmtFinish_irrel K.src.length K.i st' hA.1.notFull]
    exact line_tailF (K.wrapped X) D F hW hS hne sw pr hprv hA.2 hoccS hoccP hmOff hmOn

theorem pos_eq {p : Pos} {r c : Nat} (hr : p.row = r) (hc : p.col = c) : p = ⟨r, c⟩ := by
  cases p; cases hr; cases hc; rfl

theorem firstOk_window {S P : List Cell} (hpl : P.length = S.length)
    (h : ∀ (h0 : 0 < S.length), ¬ (S[0].wide = true ∧ view S[0] ≠ view (P[0]'(by omega)))) :
    FirstOk (Row.window (S.zip P) 0 S.length) := by
  intro x hx h0
  rw [C14.window_enum] at hx
  simp only [List.drop_zero, C14.enumFrom, List.mem_map] at hx
  obtain ⟨⟨c, k⟩, hm, rfl⟩ := hx
  simp only at h0
  subst h0
  rw [List.mk_mem_zipIdx_iff_getElem?] at hm
  have hlen := getElem?_lt hm
  simp only [List.length_take, List.length_zip] at hlen
  have h0S : 0 < S.length := by omega
  rw [List.getElem?_take] at hm
  simp only [h0S, ↓reduceIte] at hm
  rw [List.getElem?_eq_getElem (by simp [List.length_zip]; omega)] at hm
  have := Option.some.inj hm
  subst this
  simp only [List.getElem_zip]
  intro ⟨h1, h2⟩
  apply h h0S
  refine ⟨h2, fun hv => ?_⟩
  rw [(eq_iff_view _ _).mpr hv] at h1
  exact absurd h1 (by simp)

theorem noPad_of_first {S P : List Cell} (h0 : 0 < S.length) (h0P : 0 < P.length) (hne : view S[0] ≠ view P[0]) : NoPad S P := by
  intro k hk hkP hk0 heq _
  exact absurd (heq 0 hk0) hne

def FirstChanged (S P : List Cell) : Prop := ∃ (h : 0 < S.length) (hp : 0 < P.length), view S[0] ≠ view P[0]

/-- **why line `i - 1` is flagged on the receiver once line `i` has been written with `wrapping = true`**: it is flagged already
and wrapped in P too, so that `diffStart` repairs nothing (`NoPad` is asked where it matters: the emitter's cursor `pos` is in
its pending-wrap column and the first cell of line `i` is unchanged); or the cursor is parked at its end — in the pending-wrap
column, or in the last column with a wide character coming first — and the first cell of line `i` is changed, so that the first
thing written wraps; or the line has JUST become wrapped and `diffStart` re-types the unchanged first cell from there -/
def WrapsBy (cols i : Nat) (S P : List Cell) (pos : Pos) (pw : Bool) (Rp : Row) : Prop :=
  (pw = true ∧ Rp.wrapped = true ∧ (pos = ⟨i - 1, cols⟩ → ¬ FirstChanged S P → NoPad S P)) ∨
  ((∃ c0, pos = ⟨i - 1, c0⟩ ∧ (c0 = cols ∨ (c0 + 1 = cols ∧ ∃ h : 0 < S.length, S[0].wide = true))) ∧ FirstChanged S P) ∨
  (pw = false ∧ pos = ⟨i - 1, cols⟩ ∧ ¬ FirstChanged S P)

/-- **one line of a diff, whatever the four wrap flags** (full width; with `wrapping = true` under `WrapsBy`, which restricts where
the emitter's cursor may be): on a receiver whose
line `i` is `LineWf` and shows the previous line `pr` — cells AND wrap flag — processing the bytes of
`sr.write_contents_diff(pr, …)` makes line `i` show the cells of the current line `sr`, again `LineWf`; its wrap flag ends ON
iff both `pr` and `sr` are wrapped; when `sr` is wrapped and `pr` is not, the flag is still off, the cursor is in the
pending-wrap column of line `i` and the receiver will record the wrap when the next line's first character is typed.  With
`wrapping = true` the line above, whose last column is occupied on the receiver, ends up flagged (`wrapBase`), for one of the
reasons of `WrapsBy`.  Everything else on the receiver is as before (`shape`).
Hypotheses on the pair of lines: a wrapped line has its last column occupied (`Inv⁺`, true of every reachable screen), and — when
BOTH lines are wrapped — `noF8b`. -/
theorem diff_line (hW : WOk W) (p0 : Parser) (hr : Ready p0)
    (hcv : Canvas (rsOf p0.ws).g) (i : Nat) (hi : i < (rsOf p0.ws).g.size.rows) (sr pr : Row)
    (hlen : sr.cells.length = (rsOf p0.ws).g.size.cols) (hplen : pr.cells.length = (rsOf p0.ws).g.size.cols)
    (hS : SrcOk W sr.cells) (hP : SrcOk W pr.cells)
    (Ri0 : Row) (hrow : (rsOf p0.ws).g.rows[i]? = some Ri0) (hshow : Ri0.cells.map view = pr.cells.map view)
    (hwf0 : LineWf Ri0) (hRw : Ri0.wrapped = pr.wrapped) (hpc : (rsOf p0.ws).g.pos.col ≤ (rsOf p0.ws).g.size.cols)
    (hoccS : sr.wrapped = true → lastOcc sr.cells) (hoccP : pr.wrapped = true → lastOcc pr.cells)
    (hnof : sr.wrapped = true → pr.wrapped = true → noF8b sr.cells pr.cells = true)
    (w pw : Bool) (Rp : Row)
    (hab : w = true → 1 ≤ i ∧ (rsOf p0.ws).g.rows[i - 1]? = some Rp ∧
      (∃ last, Rp.cells[(rsOf p0.ws).g.size.cols - 1]? = some last ∧ (last.hasContents || last.cont) = true) ∧
      WrapsBy (rsOf p0.ws).g.size.cols i sr.cells pr.cells (rsOf p0.ws).g.pos pw Rp) :
    ∃ res, sr.writeContentsDiff pr 0 sr.cells.length i w pw (rsOf p0.ws).g.pos (rsOf p0.ws).pen = .ok res ∧
      LineDoneWf W cb p0 (if w = true then wrapBase (rsOf p0.ws) i Rp else rsOf p0.ws) i sr pr (rsOf p0.ws).g.size.cols res := by
  have hne : 0 < sr.cells.length := by rw [hlen]; exact hcv.cols_pos
  have hpl : pr.cells.length = sr.cells.length := by rw [hplen, hlen]
  have hneP : 0 < pr.cells.length := by rw [hpl]; exact hne
  rw [← hlen] at hpc ⊢
  have hk : ∀ w' pw', C12.MPred (fun res => Bytes res.1 ∧ res.2.1.col ≤ sr.cells.length ∧
      (Attrs.wf (rsOf p0.ws).pen → Attrs.wf res.2.2))
      (sr.writeContentsDiff pr 0 sr.cells.length i w' pw' (rsOf p0.ws).g.pos (rsOf p0.ws).pen) := fun _ _ =>
    (row_diff_keeps hS ..).mono fun _ h => ⟨h.1, h.2.1 hpc, h.2.2⟩
  let K : Ctx W cb := ⟨p0, hr, rsOf p0.ws, hcv, i, hi, sr.cells, hlen⟩
  let D : DCtx W K.src.length := ⟨pr.cells, hpl, hP⟩
  let F : FlagSpec sr.cells pr.cells := specOf sr pr (fun h1 h2 => ⟨hoccS h1, hnof h1 h2⟩)
  have hfl : F.holds Ri0.wrapped := specOf_holds hRw
  -- `wrapping = false`: the cell loop from the receiver as it is
  have hplain : ∀ pw', ∃ res, sr.writeContentsDiff pr 0 sr.cells.length i false pw' (rsOf p0.ws).g.pos (rsOf p0.ws).pen = .ok res ∧
      (Bytes res.1 ∧ res.2.1.col ≤ sr.cells.length ∧ (Attrs.wf (rsOf p0.ws).pen → Attrs.wf res.2.2) →
        LineDoneWf W cb p0 (rsOf p0.ws) i sr pr sr.cells.length res) := fun pw' => by
    have hJ0 : CellLoop K D F.holds 0 (start (rsOf p0.ws).g.pos (rsOf p0.ws).pen) :=
      CellLoop.enter K D hne (fun k _ h => absurd h (Nat.not_lt_zero k)) (edge_cont hP _ (Or.inl rfl)) hrow rfl hshow hfl hwf0
    obtain ⟨st', e, hJ⟩ := fold_win K D (F.keeps hS) hW hS sr.cells.length 0 _ (Nat.le_of_eq (Nat.zero_add _)) hJ0
    rw [Nat.zero_add] at hJ
    obtain ⟨res, eend, hdone⟩ := line_tailF K D F hW hS hne sr.wrapped pr rfl hJ hoccS hoccP specOf_off specOf_on
    exact ⟨res, (writeContentsDiff_of_loop sr pr 0 sr.cells.length i pw' _ _ e).trans eend, hdone⟩
  cases w with
  | false => exact lineDone_of_run (hk false pw) (hplain pw)
  | true =>
    obtain ⟨hi1, hRp, ⟨last, hlast, hocc⟩, hby⟩ := hab rfl
    rw [if_pos rfl]
    refine lineDone_of_run (hk true pw) ?_
    let X : WCtx K := ⟨hi1, Rp, hRp, last, hlast, hocc⟩
    have hch : FirstChanged sr.cells pr.cells → view (sr.cells[0]'hne) ≠ view (pr.cells[0]'hneP) := fun ⟨_, _, h⟩ => h
    have hem0 : ∀ c0, (rsOf p0.ws).g.pos = ⟨i - 1, c0⟩ →
        Emitted W cb p0 [] (shape (rsOf p0.ws) i Ri0 ⟨i - 1, c0⟩ (rsOf p0.ws).pen) := fun c0 hpos => by
      rw [← hpos, shape_self _ _ _ hrow]
      exact emitted_nil W cb p0 hr
    -- from the parked position, nothing repaired: the pending phase
    have hparked : ∀ c0, (rsOf p0.ws).g.pos = ⟨i - 1, c0⟩ →
        (c0 = (rsOf p0.ws).g.size.cols ∨ (c0 + 1 = (rsOf p0.ws).g.size.cols ∧ ∃ h : 0 < sr.cells.length,
          sr.cells[0].wide = true ∧ view sr.cells[0] ≠ view (pr.cells[0]'(hpl ▸ h)))) → Quiet K D X →
        (pw = true ∨ view (sr.cells[0]'hne) ≠ view (pr.cells[0]'hneP)) →
        ∃ res, sr.writeContentsDiff pr 0 sr.cells.length i true pw (rsOf p0.ws).g.pos (rsOf p0.ws).pen = .ok res ∧
          (Bytes res.1 ∧ res.2.1.col ≤ sr.cells.length ∧ (Attrs.wf (rsOf p0.ws).pen → Attrs.wf res.2.2) →
            LineDoneWf W cb p0 (wrapBase (rsOf p0.ws) i Rp) i sr pr sr.cells.length res) := fun c0 hpos park hq hnr => by
      obtain ⟨st', e, h⟩ := parked_line K D F X hW hS hne sr.wrapped pr rfl
        ⟨hem0 c0 hpos, ⟨mid_zero hpl hshow, hfl⟩, hwf0, park⟩ hq
        hoccS hoccP specOf_off specOf_on
      have e' : (C14.enumFrom 0 (sr.cells.zip pr.cells)).foldlM (Row.diffStep sr.cells.length i true)
          ⟨false, ⟨i - 1, c0⟩, (rsOf p0.ws).pen, none, []⟩ = .ok st' := e
      unfold Row.writeContentsDiff
      rw [hpos, diffStart_norepair sr pr 0 i pw _ _ (hnr.imp id fun hv => Or.inr ⟨hne, hneP, hv⟩)]
      simp only [ok_bind, window_zip_full hpl, Row.cols, e']
      exact h
    rcases hby with ⟨rfl, hRpw, hnp⟩ | ⟨⟨c0, hpos, hpk⟩, hc⟩ | ⟨rfl, hpos, hnc⟩
    · -- the line above is flagged already
      by_cases hfull : (rsOf p0.ws).g.pos.row + 1 = i ∧ sr.cells.length ≤ (rsOf p0.ws).g.pos.col
      · -- the cursor is parked in the pending-wrap column
        have hppe := pos_eq (Nat.eq_sub_of_add_eq hfull.1) (Nat.le_antisymm hpc hfull.2)
        rw [hlen] at hppe
        refine hparked _ hppe (Or.inl rfl) ⟨Or.inl hRpw, ?_⟩ (Or.inl rfl)
        by_cases hc : FirstChanged sr.cells pr.cells
        · exact noPad_of_first hne hneP (hch hc)
        · exact hnp hppe hc
      · by_cases hsemi : (rsOf p0.ws).g.pos.row + 1 = i ∧ (rsOf p0.ws).g.pos.col + 1 = sr.cells.length ∧
            ((sr.cells[0]'hne).wide = true ∧ view (sr.cells[0]'hne) ≠ view (pr.cells[0]'hneP))
        · -- the cursor is in the last column and the line starts with a changed wide character
          exact hparked _ (pos_eq (Nat.eq_sub_of_add_eq hsemi.1) rfl) (Or.inr ⟨hlen ▸ hsemi.2.1, hne, hsemi.2.2⟩)
            ⟨Or.inl hRpw, noPad_of_first hne hneP hsemi.2.2.2⟩ (Or.inl rfl)
        · -- otherwise `wrapping` is irrelevant
          rw [wrapBase_id hRp hRpw, writeContentsDiff_irrel sr pr 0 _ i true _ _ ⟨hfull, ?_⟩ (Or.inr rfl)]
          · exact hplain true
          · by_cases hu : Unparked sr.cols i (rsOf p0.ws).g.pos
            · exact Or.inl hu
            · refine Or.inr (firstOk_window hpl (fun _ hc => hsemi ?_))
              have hu' : (rsOf p0.ws).g.pos.row + 1 = i ∧ sr.cells.length ≤ (rsOf p0.ws).g.pos.col + 1 :=
                Decidable.not_not.mp hu
              exact ⟨hu'.1, Nat.le_antisymm (Nat.lt_of_not_le fun hle => hfull ⟨hu'.1, hle⟩) hu'.2, hc⟩
    · -- the first thing written wraps
      exact hparked c0 hpos (hpk.imp id fun ⟨h1, h0, hw⟩ => ⟨h1, h0, hw, hch hc⟩)
        ⟨Or.inr ⟨hne, hch hc⟩, noPad_of_first hne hneP (hch hc)⟩ (Or.inr (hch hc))
    · -- `diffStart` repairs
      obtain ⟨st0, hst0, hA0⟩ := repair_start K D F X hW hS hne sr.wrapped pr.wrapped hshow hfl hwf0 (hem0 _ hpos)
        (Classical.not_not.mp fun h => hnc ⟨hne, hneP, h⟩)
      obtain ⟨st', e, h⟩ := started_line K D F X hW hS hne sr.wrapped pr rfl hA0 hoccS hoccP specOf_off specOf_on
      have hst0' : Row.diffStart sr pr 0 i true false ⟨i - 1, (rsOf p0.ws).g.size.cols⟩ (rsOf p0.ws).pen = .ok st0 := hst0
      have e' : (C14.enumFrom 0 (sr.cells.zip pr.cells)).foldlM (Row.diffStep sr.cells.length i true) st0 = .ok st' := e
      unfold Row.writeContentsDiff
      rw [hpos, hst0']
      simp only [ok_bind, window_zip_full hpl, Row.cols, e']
      exact h

set_option linter.unusedVariables false in -- `hcb`: of the parser invariant `hpi` only `LineWf` of line `i` is used
/-- **one line of a diff, `wrapping = false`, the line itself wrapped in P and/or S**: `diff_line` for a receiver that is a
parser satisfying the invariant (its lines are `LineWf`) -/
theorem row_diff_draws_flags (hW : WOk W) (hcb : C13.CbInv W cb) (p0 : Parser) (hr : Ready p0) (hpi : C13.ParserInv W p0)
    (hcv : Canvas (rsOf p0.ws).g) (i : Nat) (hi : i < (rsOf p0.ws).g.size.rows) (sr pr : Row)
    (hlen : sr.cells.length = (rsOf p0.ws).g.size.cols) (hplen : pr.cells.length = (rsOf p0.ws).g.size.cols)
    (hS : SrcOk W sr.cells) (hP : SrcOk W pr.cells)
    (Ri0 : Row) (hrow : (rsOf p0.ws).g.rows[i]? = some Ri0) (hshow : Ri0.cells.map view = pr.cells.map view)
    (hRw : Ri0.wrapped = pr.wrapped)
    (hpc : (rsOf p0.ws).g.pos.col ≤ (rsOf p0.ws).g.size.cols) (pw : Bool)
    (hoccS : sr.wrapped = true → lastOcc sr.cells) (hoccP : pr.wrapped = true → lastOcc pr.cells)
    (hnof : sr.wrapped = true → pr.wrapped = true → noF8b sr.cells pr.cells = true) :
    ∃ out np na, sr.writeContentsDiff pr 0 sr.cells.length i false pw (rsOf p0.ws).g.pos (rsOf p0.ws).pen = .ok (out, np, na) ∧
      (∃ Ri, Emitted W cb p0 out (shape (rsOf p0.ws) i Ri np na) ∧ Ri.cells.map view = sr.cells.map view ∧
        Ri.wrapped = (pr.wrapped && sr.wrapped)) ∧
      Bytes out ∧ np.col ≤ (rsOf p0.ws).g.size.cols ∧ (Attrs.wf (rsOf p0.ws).pen → Attrs.wf na) ∧
      (sr.wrapped = true → pr.wrapped = false → np = ⟨i, (rsOf p0.ws).g.size.cols⟩) :=
  have ⟨(out, np, na), e, ⟨Ri, hem, hv, hw, _⟩, h⟩ := diff_line (cb := cb) hW p0 hr hcv i hi sr pr hlen hplen hS hP Ri0 hrow
    hshow (lineWf_of_parserInv hpi hrow) hRw hpc hoccS hoccP hnof false pw Ri0 (fun h => nomatch h)
  ⟨out, np, na, e, ⟨Ri, hem, hv, hw⟩, h⟩

set_option linter.unusedVariables false in -- `hcb`: of the parser invariant `hpi` only `LineWf` of line `i` is used
/-- **one line of a diff, `wrapping = true`, the receiver's cursor PARKED at the end of the line above** (in its
pending-wrap column; or in its last column when the line starts with a changed wide character), no repair by
`diffStart` (the line above is wrapped in P too and flagged on the receiver, or the first cell is changed): `diff_line` for
a receiver that is a parser satisfying the invariant.  Side condition: `NoPad` (excludes the F8a pattern) -/
theorem row_diff_draws_parked (hW : WOk W) (hcb : C13.CbInv W cb) (p0 : Parser) (hr : Ready p0) (hpi : C13.ParserInv W p0)
    (hcv : Canvas (rsOf p0.ws).g) (i : Nat) (hi1 : 1 ≤ i) (hi : i < (rsOf p0.ws).g.size.rows) (sr pr : Row)
    (hlen : sr.cells.length = (rsOf p0.ws).g.size.cols) (hplen : pr.cells.length = (rsOf p0.ws).g.size.cols)
    (hS : SrcOk W sr.cells) (hP : SrcOk W pr.cells)
    (Ri0 : Row) (hrow : (rsOf p0.ws).g.rows[i]? = some Ri0) (hshow : Ri0.cells.map view = pr.cells.map view)
    (hRw : Ri0.wrapped = pr.wrapped)
    (Rp : Row) (hp : (rsOf p0.ws).g.rows[i - 1]? = some Rp) (last : Cell)
    (hlast : Rp.cells[(rsOf p0.ws).g.size.cols - 1]? = some last) (hocc : (last.hasContents || last.cont) = true)
    (c0 : Nat) (hpos : (rsOf p0.ws).g.pos = ⟨i - 1, c0⟩)
    (park : c0 = (rsOf p0.ws).g.size.cols ∨ (c0 + 1 = (rsOf p0.ws).g.size.cols ∧ ∃ h : 0 < sr.cells.length,
      sr.cells[0].wide = true ∧ view sr.cells[0] ≠ view (pr.cells[0]'(by rw [hplen, ← hlen]; exact h))))
    (nopad : NoPad sr.cells pr.cells) (pw : Bool)
    (hnr : (pw = true ∧ Rp.wrapped = true) ∨ ∃ h : 0 < sr.cells.length,
      view sr.cells[0] ≠ view (pr.cells[0]'(by rw [hplen, ← hlen]; exact h)))
    (hoccS : sr.wrapped = true → lastOcc sr.cells) (hoccP : pr.wrapped = true → lastOcc pr.cells)
    (hnof : sr.wrapped = true → pr.wrapped = true → noF8b sr.cells pr.cells = true) :
    ∃ res, sr.writeContentsDiff pr 0 sr.cells.length i true pw (rsOf p0.ws).g.pos (rsOf p0.ws).pen = .ok res ∧
      LineDone W cb p0 (wrapBase (rsOf p0.ws) i Rp) i sr pr (rsOf p0.ws).g.size.cols res :=
  (diff_line hW p0 hr hcv i hi sr pr hlen hplen hS hP Ri0 hrow hshow (lineWf_of_parserInv hpi hrow) hRw
    (by rw [hpos]; show c0 ≤ _; rcases park with h | ⟨h, _⟩ <;> omega) hoccS hoccP hnof true pw Rp fun _ =>
    ⟨hi1, hp, ⟨last, hlast, hocc⟩, hnr.elim (fun h => Or.inl ⟨h.1, h.2, fun _ _ => nopad⟩) fun ⟨h0, hv⟩ =>
      Or.inr (Or.inl ⟨⟨c0, hpos, park.imp id fun ⟨h1, h, hw, _⟩ => ⟨h1, h, hw⟩⟩, h0, by rw [hplen, ← hlen]; exact h0, hv⟩)⟩).imp
    fun _ h => ⟨h.1, h.2.done⟩

set_option linter.unusedVariables false in -- `hcb`: of the parser invariant `hpi` only `LineWf` of line `i` is used
/-- **one line of a diff, `wrapping = true`, the line above has JUST become wrapped** (`prev_wrapping = false`) and this
line's first cell is unchanged, so that `diffStart` re-types it: `diff_line` for a receiver that is a parser satisfying the
invariant.  (When the first cell is changed, `row_diff_draws_parked` applies.) -/
theorem row_diff_draws_owed (hW : WOk W) (hcb : C13.CbInv W cb) (p0 : Parser) (hr : Ready p0) (hpi : C13.ParserInv W p0)
    (hcv : Canvas (rsOf p0.ws).g) (i : Nat) (hi1 : 1 ≤ i) (hi : i < (rsOf p0.ws).g.size.rows) (sr pr : Row)
    (hlen : sr.cells.length = (rsOf p0.ws).g.size.cols) (hplen : pr.cells.length = (rsOf p0.ws).g.size.cols)
    (hS : SrcOk W sr.cells) (hP : SrcOk W pr.cells)
    (Ri0 : Row) (hrow : (rsOf p0.ws).g.rows[i]? = some Ri0) (hshow : Ri0.cells.map view = pr.cells.map view)
    (hRw : Ri0.wrapped = pr.wrapped)
    (Rp : Row) (hp : (rsOf p0.ws).g.rows[i - 1]? = some Rp) (last : Cell)
    (hlast : Rp.cells[(rsOf p0.ws).g.size.cols - 1]? = some last) (hocc : (last.hasContents || last.cont) = true)
    (hpos : (rsOf p0.ws).g.pos = ⟨i - 1, (rsOf p0.ws).g.size.cols⟩)
    (hv0 : ∀ h : 0 < sr.cells.length, view sr.cells[0] = view (pr.cells[0]'(by rw [hplen, ← hlen]; exact h)))
    (hoccS : sr.wrapped = true → lastOcc sr.cells) (hoccP : pr.wrapped = true → lastOcc pr.cells)
    (hnof : sr.wrapped = true → pr.wrapped = true → noF8b sr.cells pr.cells = true) :
    ∃ res, sr.writeContentsDiff pr 0 sr.cells.length i true false (rsOf p0.ws).g.pos (rsOf p0.ws).pen = .ok res ∧
      LineDone W cb p0 (wrapBase (rsOf p0.ws) i Rp) i sr pr (rsOf p0.ws).g.size.cols res :=
  (diff_line hW p0 hr hcv i hi sr pr hlen hplen hS hP Ri0 hrow hshow (lineWf_of_parserInv hpi hrow) hRw
    (by rw [hpos]; exact Nat.le_refl _) hoccS hoccP hnof true false Rp fun _ =>
    ⟨hi1, hp, ⟨last, hlast, hocc⟩, Or.inr (Or.inr ⟨rfl, hpos, fun ⟨h0, _, hv⟩ => hv (hv0 h0)⟩)⟩).imp fun _ h => ⟨h.1, h.2.done⟩

end Vt.C02
