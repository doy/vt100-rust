/-
  C16 — resize keeps content, re-clamps all positions, and stays safe afterwards.  `setSize_eq` is the one walk through
  `Grid::set_size` (failing runs included, with their panic sites, which C12c `setSize_rel` compares); `grid_setSize_eq`,
  `setSize_iff` and `screen_setSize_eq` read the closed form `setSizeSpec` off it for the runs that return: every row resized to
  `c` columns (a wide character cut by the right edge blanked, new cells blank), `r` rows (new rows blank), wrap flags cleared,
  scrollback history, capacity and offset untouched, cursor / saved cursor / scroll region inside the new bounds.  The
  positional statements are in C16cells.
-/
import Vt.Lemmas.Inv
namespace Vt.C16
open Vt

theorem resizeList_get {α} (l : List α) (n : Nat) (x : α) (i : Nat) (hi : i < n) :
    (resizeList l n x)[i]? = if i < l.length then l[i]? else some x := by
  simp only [resizeList]
  by_cases h : i < l.length
  · simp only [h, ↓reduceIte]
    rw [List.getElem?_append_left (by simp [List.length_take]; omega)]
    simp [hi]
  · simp only [h, ↓reduceIte]
    rw [List.getElem?_append_right (by simp [List.length_take]; omega)]
    have : min n l.length = l.length := by omega
    simp only [List.length_take, this]
    rw [List.getElem?_replicate]
    simp; omega

theorem resizeList_length {α} (l : List α) (n : Nat) (x : α) : (resizeList l n x).length = n := by
  simp [resizeList, List.length_take]; omega

theorem rowResize_length (r : Row) (len : Nat) : (r.resize len Cell.new).cells.length = len := by
  simp only [Row.resize]
  split
  · split <;> simp [resizeList_length]
  · simp [resizeList_length]

theorem rowResize_unwrapped (r : Row) (len : Nat) : (r.resize len Cell.new).wrapped = false := by
  simp [Row.resize]

/-- cell `j` of a row after `Row::resize(c, Cell::new())`, from the old cells `cs`: kept, unless it becomes the
last cell (`j + 1 = c`) and is wide — then cleared keeping its own attributes; the default cell past the old end -/
def resizedCell (cs : List Cell) (c j : Nat) : Cell :=
  match cs[j]? with
  | some x => if j + 1 = c ∧ x.wide = true then x.clear x.attrs else x
  | none => Cell.new

theorem rowResize_cell (row : Row) (c j : Nat) (hj : j < c) :
    (row.resize c Cell.new).cells[j]? = some (resizedCell row.cells c j) := by
  have hlen := resizeList_length row.cells c Cell.new
  have hget : ∀ k, k < c → (resizeList row.cells c Cell.new)[k]? =
      some (match row.cells[k]? with | some x => x | none => Cell.new) := by
    intro k hk
    rw [resizeList_get _ _ _ _ hk]
    by_cases h : k < row.cells.length
    · simp [h]
    · simp [h]
  have hlast : (resizeList row.cells c Cell.new).getLast? =
      some (match row.cells[c - 1]? with | some x => x | none => Cell.new) := by
    rw [List.getLast?_eq_getElem?, hlen]
    exact hget _ (by omega)
  have hnew : Cell.new.wide = false := rfl
  simp only [Row.resize, hlast, hlen]
  unfold resizedCell
  -- after the `Vec::resize` (`hget`) `Row::resize` writes one cell, the new last one if it is wide: `j` is it, or not
  by_cases hjc : j + 1 = c
  · have hj' : c - 1 = j := by omega
    rw [hj']
    cases hx : row.cells[j]? with
    | none =>
      simp only [hnew, Cell.isWide, Bool.false_eq_true, ↓reduceIte]
      rw [hget j hj, hx]
    | some x =>
      simp only [Cell.isWide]
      by_cases hw : x.wide = true
      · simp only [hw, ↓reduceIte, hjc, and_self]
        rw [List.getElem?_set_self (by omega)]
      · simp only [hw, ↓reduceIte, and_false, Bool.false_eq_true]
        rw [hget j hj, hx]
  · have hne : c - 1 ≠ j := by omega
    simp only [hjc, false_and, ↓reduceIte]
    generalize (match row.cells[c - 1]? with | some x => x | none => Cell.new) = last
    by_cases hw : last.isWide = true
    · simp only [hw, ↓reduceIte]
      rw [List.getElem?_set_ne hne, hget j hj]
    · simp only [hw, ↓reduceIte, Bool.false_eq_true]
      rw [hget j hj]

theorem rowResize_get (r : Row) (len i : Nat) (hi : i + 1 < len) :
    (r.resize len Cell.new).cells[i]? = if i < r.cells.length then r.cells[i]? else some Cell.new := by
  rw [rowResize_cell r len i (by omega), resizedCell]
  by_cases h : i < r.cells.length
  · simp [h, Nat.ne_of_lt hi]
  · simp [h]

/-- the closed form of `Grid::set_size` -/
def setSizeSpec (g : Grid) (size : Size) : Grid :=
  let rows0 := if size.cols != g.size.cols then g.rows.map (fun r => r.wrap false) else g.rows
  let sb1 := if g.scrollBottom == g.size.rows - 1 then size.rows - 1 else g.scrollBottom
  let rows1 := rows0.map (fun (r : Row) => r.resize size.cols Cell.new)
  let rows2 := resizeList rows1 size.rows (Row.new size.cols)
  let sb2 := if sb1 ≥ size.rows then size.rows - 1 else sb1
  let top := if sb2 < g.scrollTop then 0 else g.scrollTop
  { g with size := size, rows := rows2, scrollBottom := sb2, scrollTop := top,
           pos := ⟨min g.pos.row (size.rows - 1), min g.pos.col (size.cols - 1)⟩,
           savedPos := ⟨min g.savedPos.row (size.rows - 1), min g.savedPos.col (size.cols - 1)⟩ }

/-- `Grid::set_size`, every run: it panics on an old height, a new height or a new width of 0, and otherwise returns
the closed form.  A new height 0 is met by the margin adjustment (site 407 if the bottom margin was the last line,
else 408, since then `sb1 ≥ 0`), a new width 0 by `col_clamp`; the later subtractions repeat `r - 1`, `c - 1`. -/
theorem setSize_eq (g : Grid) (size : Size) : g.setSize size =
    (do let _ ← subM 406 g.size.rows 1
        let _ ← subM (if g.scrollBottom == g.size.rows - 1 then 407 else 408) size.rows 1
        let _ ← subM 405 size.cols 1
        pure (setSizeSpec g size)) := by
  have hp : ∀ site a, ¬ 1 ≤ a → subM site a 1 = panic site := fun _ _ h => if_neg h
  unfold Grid.setSize
  by_cases h0 : 1 ≤ g.size.rows
  · by_cases hr : 1 ≤ size.rows
    · -- the `do` block continues after each `if` through a join point; `-zeta` keeps it a variable, so that the `if`
      -- moves into its argument instead of the continuation being copied into both branches
      simp -zeta only [subM_ok h0, subM_ok hr, pure_eq_ok, ok_bind, ← apply_ite]
      simp only [rowClampTop_spec, Bool.false_and, Bool.false_eq_true, ↓reduceIte]
      rw [rowClampBottom_spec _ _ hr, ok_bind]
      by_cases hc : 1 ≤ size.cols
      · rw [colClamp_spec _ hc]; simp only [subM_ok hc, ok_bind]; rfl
      · simp only [Grid.colClamp, hp _ _ hc]; rfl
    · -- new height 0: the first margin adjustment that subtracts fails, and both sides evaluate
      obtain ⟨r, c⟩ := size
      obtain rfl : r = 0 := by simp only at hr; omega
      simp -zeta only [subM_ok h0, ok_bind]
      cases (g.scrollBottom == g.size.rows - 1) <;> rfl
  · rw [hp _ _ h0]; rfl

theorem grid_setSize_eq (g : Grid) (size : Size) (hr : 1 ≤ g.size.rows) (hnr : 1 ≤ size.rows)
    (hnc : 1 ≤ size.cols) : g.setSize size = .ok (setSizeSpec g size) := by
  rw [setSize_eq, subM_ok hr, subM_ok hnr, subM_ok hnc]; rfl

theorem setSize_iff {g g' : Grid} {size : Size} :
    g.setSize size = .ok g' ↔ 1 ≤ g.size.rows ∧ 1 ≤ size.rows ∧ 1 ≤ size.cols ∧ g' = setSizeSpec g size := by
  simp only [setSize_eq, bind_eq_ok, subM_eq_ok, pure_eq_ok, Except.ok.injEq]
  exact ⟨fun ⟨_, ⟨h0, _⟩, _, ⟨hr, _⟩, _, ⟨hc, _⟩, e⟩ => ⟨h0, hr, hc, e.symm⟩,
    fun ⟨h0, hr, hc, e⟩ => ⟨_, ⟨h0, rfl⟩, _, ⟨hr, rfl⟩, _, ⟨hc, rfl⟩, e.symm⟩⟩

theorem setSizeSpec_props (g : Grid) (size : Size) (hnr : 1 ≤ size.rows) (hnc : 1 ≤ size.cols) :
    let g' := setSizeSpec g size
    g'.size = size ∧ g'.rows.length = size.rows ∧
      g'.scrollback = g.scrollback ∧ g'.scrollbackLen = g.scrollbackLen ∧
      g'.scrollbackOffset = g.scrollbackOffset ∧
      g'.pos.row < size.rows ∧ g'.pos.col < size.cols ∧
      g'.savedPos.row < size.rows ∧ g'.savedPos.col < size.cols ∧
      g'.scrollBottom < size.rows ∧ g'.scrollTop ≤ g'.scrollBottom := by
  have hlt : ∀ a n, 1 ≤ n → min a (n - 1) < n := fun a n h =>
    Nat.lt_of_le_of_lt (Nat.min_le_right _ _) (Nat.sub_lt h Nat.one_pos)
  have hsb : ∀ x, (if x ≥ size.rows then size.rows - 1 else x) < size.rows := fun x => by split <;> omega
  have htop : ∀ x, (if x < g.scrollTop then 0 else g.scrollTop) ≤ x := fun x => by split <;> omega
  exact ⟨rfl, resizeList_length _ _ _, rfl, rfl, rfl, hlt _ _ hnr, hlt _ _ hnc, hlt _ _ hnr, hlt _ _ hnc, hsb _, htop _⟩

/-- a row of the closed form is an old row resized (unflagged first when the width changes) or a blank row -/
theorem setSizeSpec_rows {P : Row → Prop} {g : Grid} {size : Size}
    (hold : ∀ r0 ∈ g.rows, P (r0.resize size.cols Cell.new) ∧ P ((r0.wrap false).resize size.cols Cell.new))
    (hnew : P (Row.new size.cols)) : ∀ r ∈ (setSizeSpec g size).rows, P r := by
  intro r hr
  rcases List.mem_append.mp hr with hr | hr
  · obtain ⟨r1, hr1, rfl⟩ := List.mem_map.mp (List.mem_of_mem_take hr)
    split at hr1
    · obtain ⟨r0, hr0, rfl⟩ := List.mem_map.mp hr1
      exact (hold r0 hr0).2
    · exact (hold r1 hr1).1
  · rw [(List.mem_replicate.mp hr).2]; exact hnew

/-- `Screen::set_size(r, c)` is `Grid::set_size` on BOTH grids and nothing else -/
theorem screen_setSize_of_ok {s s' : Screen} {r c : Nat} (e : s.setSize r c = .ok s') :
    ∃ g1 g2, s.grid.setSize ⟨r, c⟩ = .ok g1 ∧ s.altGrid.setSize ⟨r, c⟩ = .ok g2 ∧
      s' = { s with grid := g1, altGrid := g2 } := by
  unfold Screen.setSize at e
  obtain ⟨g1, h1, e⟩ := bind_eq_ok.mp e
  obtain ⟨g2, h2, e⟩ := bind_eq_ok.mp e
  exact ⟨g1, g2, h1, h2, (Except.ok.inj e).symm⟩

theorem screen_setSize_eq (s : Screen) (r c : Nat) (h1 : 1 ≤ s.grid.size.rows) (h2 : 1 ≤ s.altGrid.size.rows)
    (hr : 1 ≤ r) (hc : 1 ≤ c) :
    s.setSize r c = .ok { s with grid := setSizeSpec s.grid ⟨r, c⟩, altGrid := setSizeSpec s.altGrid ⟨r, c⟩ } := by
  simp [Screen.setSize, grid_setSize_eq s.grid ⟨r, c⟩ h1 hr hc, grid_setSize_eq s.altGrid ⟨r, c⟩ h2 hr hc]

end Vt.C16

/-! `Shaped`, the hypothesis of the positional statements of C16cells, stands in this file so that C03b can use it
without the imports of C16cells. -/
namespace Vt.C16cells
open Vt

variable {W : Nat → Option Nat}

structure Shaped (g : Grid) : Prop where
  rows_len : g.rows.length = g.size.rows
  cols_len : ∀ row ∈ g.rows, row.cells.length = g.size.cols

theorem GridInv.shaped {g : Grid} {un : Bool} (h : GridInv W g un) (hl : g.rows.length = g.size.rows) :
    Shaped g := ⟨hl, fun row hrow => (h.row_ok row hrow).1⟩

theorem Shaped.cell_some {g : Grid} (h : Shaped g) (i j : Nat) (hi : i < g.size.rows) (hj : j < g.size.cols) :
    ∃ row x, g.rows[i]? = some row ∧ row.cells[j]? = some x ∧ g.drawingCell ⟨i, j⟩ = some x := by
  have hi' : i < g.rows.length := by rw [h.rows_len]; exact hi
  have hj' : j < (g.rows[i]).cells.length := by rw [h.cols_len _ (List.getElem_mem hi')]; exact hj
  exact ⟨g.rows[i], (g.rows[i]).cells[j], List.getElem?_eq_getElem hi', List.getElem?_eq_getElem hj',
    drawingCell_of (List.getElem?_eq_getElem hi') (List.getElem?_eq_getElem hj')⟩

theorem Shaped.cell_none {g : Grid} (h : Shaped g) (i j : Nat) (hij : g.size.rows ≤ i ∨ g.size.cols ≤ j) :
    g.drawingCell ⟨i, j⟩ = none := by
  simp only [Grid.drawingCell, Grid.drawingRow, Row.get]
  cases hrow : g.rows[i]? with
  | none => rfl
  | some row =>
    obtain ⟨hi, _⟩ := List.getElem?_eq_some_iff.mp hrow
    have hl := h.cols_len row (List.mem_of_getElem? hrow)
    have := h.rows_len
    simp only [Option.bind_some]
    rcases hij with h1 | h1
    · omega
    · exact List.getElem?_eq_none (by omega)

end Vt.C16cells
