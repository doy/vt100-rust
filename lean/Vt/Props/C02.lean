/-
  C02 — contents_diff / state_diff turns a reproduction of prev into the current screen.

  The property is FALSE of the crate in general (findings F8a, F8b; DESIGN §7).  This file holds the
  kernel-evaluated runs of the model (`decide +kernel`) — which the correspondence check ties to the
  code — that exhibit the two failures, and one pair on which the diff works:
  * `F8a_witness` : 2x2, P = "jwme", S = P then "m": the receiver that reproduces P and is fed
    `S.state_diff(P)` does NOT end in S's observable state (an unchanged cell after a wrapped
    row is overwritten by a space).
  * `F8b_witness` : 3x4, P = "ab一c", S = "ab", CUF, "x", "c": both rows wrapped in P and S, the
    receiver ends with row 0 unwrapped.
  * `diff_ok_example` : colours, a wide character, a wrapped row.
  The region on which the property is proved is in C02b, DiffWrap, DiffGrid2, DiffGrid, C02reach.
-/
import Vt.Spec.Obs
import Vt.Lemmas.Except
namespace Vt.C02

def run (rows cols sb : Nat) (chunks : List (List Nat)) : M Parser := do
  let p ← Parser.new rows cols sb
  chunks.foldlM (fun p bs => p.process W0 cbNone bs) p

/-- does the receiver that reproduces `P` and is fed `S.state_diff(P)` end observably equal to `S`? -/
def diffReproduces (P S : Screen) : M Bool := do
  let q ← Parser.new P.cur.size.rows P.cur.size.cols 0
  let f ← P.stateFormatted
  let q ← q.process W0 cbNone f
  let d ← S.stateDiff P
  let q ← q.process W0 cbNone d
  let a ← obs S
  let b ← obs q.screen
  pure (obsEq (S.cur.scrollbackOffset != 0) a b)

def isOkFalse : M Bool → Bool
  | .ok b => !b
  | .error _ => false

/-- F8a: 2x2, "jwme" then "m" -/
theorem F8a_witness : isOkFalse (do
    let p ← run 2 2 0 [[106, 119, 109, 101]]
    let s ← p.process W0 cbNone [109]
    diffReproduces p.screen s.screen) = true := by decide +kernel

/-- F8b: 3x4, P = "ab一c", S = "ab" CUF "x" "c" -/
theorem F8b_witness : isOkFalse (do
    let p ← run 3 4 0 [[97, 98, 0xE4, 0xB8, 0x80, 99]]
    let s ← run 3 4 0 [[97, 98, 0x1b, 0x5b, 0x43, 120, 99]]
    diffReproduces p.screen s.screen) = true := by decide +kernel

/-- a pair on which the diff works: colours, a wide character, a wrapped row -/
theorem diff_ok_example : isOkTrue (do
    let p ← run 3 4 0 [[0x1b, 0x5b, 0x33, 0x31, 0x6d, 97, 98, 99, 100, 101]]
    let s ← p.process W0 cbNone [0x1b, 0x5b, 0x34, 0x6d, 0xE4, 0xB8, 0x80, 13, 10, 120]
    diffReproduces p.screen s.screen) = true := by decide +kernel

end Vt.C02
