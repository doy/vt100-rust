/-
  C09 (continued) — the pen round trip at the level of BYTES: vte turns the bytes of `write_escape_code_diff` into one
  `csi_dispatch … 'm'` whose groups are `diffGroups` (`sgr_bytes_parse`), and C09's round trip on groups does the rest.
  `params_bounds` (at most 32 parameters, each ≤ 65535) is vte's `MAX_PARAMS` and its saturating `u16`: nothing is
  dropped or clipped.
-/
import Vt.Props.C09
import Vt.Props.C04b
namespace Vt.C09
open Vt Vt.Tok

theorem joinParams_eq : ∀ ps : List Nat, Term.joinParams ps = paramBytes ps
  | [] => rfl
  | [_] => rfl
  | p :: q :: ps => by
    simp only [Term.joinParams, paramBytes, joinParams_eq (q :: ps)]

theorem groups_eq (ps : List Nat) (h : ps ≠ []) : Tok.groups ps = C09.groups ps := by
  simp [Tok.groups, C09.groups, h]

theorem fgParams_le (c : Color) (h : Color.wf c) : ∀ q ∈ Term.fgParams c, q ≤ 65535 := by
  cases c <;> simp only [Color.wf] at h <;> simp only [Term.fgParams] <;> (repeat' split) <;> simp <;> omega

theorem bgParams_le (c : Color) (h : Color.wf c) : ∀ q ∈ Term.bgParams c, q ≤ 65535 := by
  cases c <;> simp only [Color.wf] at h <;> simp only [Term.bgParams] <;> (repeat' split) <;> simp <;> omega

theorem flagPart_bounds (on off : Nat) (o : Option Bool) (h1 : on ≤ 65535) (h2 : off ≤ 65535) :
    (∀ q ∈ flagPart on off o, q ≤ 65535) ∧ (flagPart on off o).length ≤ 1 := by
  rcases o with _ | b
  · simp [flagPart]
  · cases b <;> simp [flagPart, h1, h2]

theorem intPart_bounds (o : Option Intensity) : (∀ q ∈ intPart o, q ≤ 65535) ∧ (intPart o).length ≤ 1 := by
  rcases o with _ | i
  · simp [intPart]
  · cases i <;> simp [intPart]

theorem params_bounds (s : Term.SgrAttrs) (hs : SgrAttrs.wf s) :
    (∀ q ∈ s.params, q ≤ 65535) ∧ s.params.length ≤ 32 := by
  obtain ⟨hf, hb⟩ := hs
  have f1 : (∀ q ∈ fgPart s.fg, q ≤ 65535) ∧ (fgPart s.fg).length ≤ 5 := by
    cases h : s.fg with
    | none => simp [fgPart]
    | some c => exact ⟨fgParams_le c (hf c h), (fgParams_len c).2⟩
  have f2 : (∀ q ∈ bgPart s.bg, q ≤ 65535) ∧ (bgPart s.bg).length ≤ 5 := by
    cases h : s.bg with
    | none => simp [bgPart]
    | some c => exact ⟨bgParams_le c (hb c h), (bgParams_len c).2⟩
  have f3 := intPart_bounds s.intensity
  have f4 := flagPart_bounds 3 23 s.italic (by omega) (by omega)
  have f5 := flagPart_bounds 4 24 s.underline (by omega) (by omega)
  have f6 := flagPart_bounds 7 27 s.inverse (by omega) (by omega)
  simp only [params_eq, List.forall_mem_append, List.length_append]
  exact ⟨⟨⟨⟨⟨⟨f1.1, f2.1⟩, f3.1⟩, f4.1⟩, f5.1⟩, f6.1⟩, by omega⟩

theorem tok_clearAttrs : Tok Term.clearAttrs [.csiDispatch [[0]] [] false 109] :=
  tok_csi [] 109 (fun _ h => nomatch h) (Nat.zero_le _) (by omega)

/-- **bytes ↦ groups**: vte reads the bytes of `write_escape_code_diff` as one `CSI … m` with exactly the
parameter groups `diffGroups`, or as nothing when nothing is written -/
theorem sgr_bytes_parse (a b : Attrs) (hwf : Attrs.wf a) :
    Tok (a.writeEscapeCodeDiff b)
      (match diffGroups a b with | none => [] | some gs => [.csiDispatch gs [] false 109]) := by
  unfold Attrs.writeEscapeCodeDiff diffGroups
  by_cases h : (a != b && a == Attrs.default) = true
  · simp only [h, ↓reduceIte]
    exact tok_clearAttrs
  · simp only [h, Bool.false_eq_true, ↓reduceIte]
    by_cases he : (Attrs.diffBuilder a b).isEmpty = true
    · simp only [Term.SgrAttrs.write, he, ↓reduceIte]
      exact tok_nil
    · have he' : (Attrs.diffBuilder a b).isEmpty = false := by simpa using he
      simp only [Term.SgrAttrs.write, he', Bool.false_eq_true, ↓reduceIte]
      obtain ⟨hq, hl⟩ := params_bounds _ (diffBuilder_wf a b hwf)
      have := tok_csi (Attrs.diffBuilder a b).params 109 hq hl (by omega)
      rw [groups_eq _ (params_ne_nil _ he'), ← joinParams_eq] at this
      simpa [Term.ESC] using this

/-- **C09, bytes**: processing the bytes of `a.write_escape_code_diff(b)` on a parser whose pen is `b`
makes the pen `a`; nothing else of the screen changes, no event is reported, and the parser is ready
for the next sequence -/
theorem process_attrs_diff (W : Nat → Option Nat) (cb : CbPolicy) (p : Parser) (a b : Attrs) (hwf : Attrs.wf a)
    (hr : Ready p) (hb : p.ws.screen.attrs = b) :
    ∃ p', p.process W cb (a.writeEscapeCodeDiff b) = .ok p' ∧ p'.ws = p.ws.modAttrs (fun _ => a) ∧ Ready p' := by
  have ht := sgr_bytes_parse a b hwf
  have hrt := attrs_diff_roundtrip_params (emit cb (.unhandledCsi none none
    ((diffGroups a b).getD []) 109)) a b hwf p.ws hb
  cases hd : diffGroups a b with
  | none => rw [hd] at hrt ht; subst hrt; exact process_tok_ok ht p hr _ (by simp [WS.modAttrs, ← hb])
  | some gs => rw [hd] at hrt ht; exact process_tok1 ht p hr _ hrt

theorem process_clearAttrs (W : Nat → Option Nat) (cb : CbPolicy) (p : Parser) (hr : Ready p) :
    ∃ p', p.process W cb Term.clearAttrs = .ok p' ∧ p'.ws = p.ws.modAttrs (fun _ => Attrs.default) ∧ Ready p' :=
  process_tok1 tok_clearAttrs p hr _ ((sgr_nonempty _ _ _ _).trans (by rw [sgr_reset, sgrLoop_nil]; rfl))

/-- **C09, bytes**: processing `attributes_formatted()` of a screen with pen `pen` sets the receiver's pen
to `pen`, whatever it was; nothing else changes -/
theorem process_attributes_formatted (W : Nat → Option Nat) (cb : CbPolicy) (p : Parser) (s : Screen)
    (hwf : Attrs.wf s.attrs) (hr : Ready p) :
    ∃ p', p.process W cb s.attributesFormatted = .ok p' ∧ p'.ws = p.ws.modAttrs (fun _ => s.attrs) ∧ Ready p' := by
  obtain ⟨p1, e1, w1, r1⟩ := process_clearAttrs W cb p hr
  obtain ⟨p2, e2, w2, r2⟩ := process_attrs_diff W cb p1 s.attrs Attrs.default hwf r1 (by rw [w1]; rfl)
  exact ⟨p2, process_then W cb hr e1 r1 e2, by rw [w2, w1]; rfl, r2⟩

end Vt.C09
