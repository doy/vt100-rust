/-
  C11 (continued) — entering and leaving the alternate screen: whole-record closed forms of `?47h` / `?1049h` / `?47l` /
  `?1049l`, and the round trip (`alt_round_trip`, all four ways to enter and leave): whatever is drawn in between, the
  primary grid record is what it was, except that the view offset is 0.
-/
import Vt.Props.C11
import Vt.Lemmas.Inv
namespace Vt.C11
open Vt

/-- the screen after `CSI ? 47 h` on the primary screen -/
def entered47 (s : Screen) : Screen :=
  { s with
    grid := s.grid.setScrollback 0
    altScreen := true
    altGrid := s.altGrid.allocateRows }

/-- the screen after `CSI ? 1049 h` on the primary screen, `ag` being the cleared alternate grid -/
def entered1049 (s : Screen) (ag : Grid) : Screen :=
  { s with
    grid := (s.grid.saveCursor).setScrollback 0
    savedAttrs := s.attrs
    altScreen := true
    altGrid := ag.allocateRows }

/-- the screen after `CSI ? 1049 l` -/
def left1049 (s : Screen) : Screen :=
  { s with
    altScreen := false
    grid := s.grid.restoreCursor
    attrs := s.savedAttrs }

/-- `Grid::clear` -/
def clearedGrid (g : Grid) : Grid :=
  { g with
    pos := ⟨0, 0⟩
    savedPos := ⟨0, 0⟩
    rows := g.rows.map (fun r => r.clear Attrs.default)
    scrollTop := 0
    scrollBottom := g.size.rows - 1
    originMode := false
    savedOriginMode := false }

theorem enter47_eq (s : Screen) (hs : s.altScreen = false) :
    s.decsetOne [47] = .ok (some (entered47 s)) := by
  unfold entered47
  simp [Screen.decsetOne, Screen.enterAlternateGrid, Screen.modifyGrid, hs]

theorem enter1049_eq (s : Screen) (hs : s.altScreen = false) (hr : 1 ≤ s.altGrid.size.rows) :
    s.altGrid.clear = .ok (clearedGrid s.altGrid) ∧
      s.decsetOne [1049] = .ok (some (entered1049 s (clearedGrid s.altGrid))) := by
  have e : s.altGrid.clear = .ok (clearedGrid s.altGrid) := by
    simp [Grid.clear, subM_ok hr, clearedGrid]
  refine ⟨e, ?_⟩
  simp [entered1049, Screen.decsetOne, Screen.decsc, Screen.saveCursor, Screen.enterAlternateGrid, Screen.modifyGrid, hs, e]

/-- after `CSI ? 1049 h` every cell of the alternate screen is blank and its cursor is home -/
theorem alt_cleared (s s' : Screen) (hs : s.altScreen = false) (hr : 1 ≤ s.altGrid.size.rows)
    (h : s.decsetOne [1049] = .ok (some s')) :
    s'.altGrid.pos = ⟨0, 0⟩ ∧ ∀ r ∈ s'.altGrid.rows, ∀ c ∈ r.cells, c.hasContents = false ∧ c.attrs = Attrs.default := by
  obtain ⟨_, e'⟩ := enter1049_eq s hs hr
  rw [e'] at h
  simp only [Except.ok.injEq, Option.some.injEq] at h
  subst h
  simp only [entered1049, clearedGrid, Grid.allocateRows]
  by_cases hemp : (List.map (fun r => r.clear Attrs.default) s.altGrid.rows).isEmpty = true
  all_goals simp only [hemp, ↓reduceIte, Bool.false_eq_true]
  · refine ⟨trivial, ?_⟩
    intro r hr' c hc
    simp only [List.mem_replicate] at hr'
    obtain ⟨_, rfl⟩ := hr'
    simp only [Row.new, List.mem_replicate] at hc
    obtain ⟨_, rfl⟩ := hc
    exact ⟨rfl, rfl⟩
  · refine ⟨trivial, ?_⟩
    intro r hr' c hc
    simp only [List.mem_map] at hr'
    obtain ⟨r0, _, rfl⟩ := hr'
    simp only [Row.clear, List.mem_map] at hc
    obtain ⟨c0, _, rfl⟩ := hc
    simp [Cell.clear, Cell.hasContents]

theorem exit47_eq (s : Screen) : s.decrstOne [47] = .ok (some s.exitAlternateGrid) := rfl

/-- `CSI ? 1049 l`: back to the primary grid, then a DECRC (position and origin mode from the primary grid's saved
cursor, the pen from the shared saved pen) -/
theorem exit1049_eq (s : Screen) :
    s.decrstOne [1049] = .ok (some (left1049 s)) := by
  simp [left1049, Screen.decrstOne, Screen.exitAlternateGrid, Screen.decrc, Screen.restoreCursor, Screen.modifyGrid]

/-- `Grid::clear` computes `rows - 1`: the hypothesis `hr` of `enter1049_eq` is implied by the run -/
theorem enter1049_rows (s s1 : Screen) (hs : s.altScreen = false)
    (h : s.decsetOne [1049] = .ok (some s1)) : 1 ≤ s.altGrid.size.rows := by
  by_cases hr : 1 ≤ s.altGrid.size.rows
  · exact hr
  · exfalso
    simp [Screen.decsetOne, Screen.decsc, Screen.saveCursor, Screen.modifyGrid, hs, Grid.clear, subM, hr,
      panic, bind, Except.bind] at h

/-- the primary grid right after `?47h` / `?1049h`: 1049 saves the cursor INTO THE PRIMARY GRID -/
def gridEntered (pin : List Nat) (g : Grid) : Grid :=
  if pin = [1049] then (g.saveCursor).setScrollback 0 else g.setScrollback 0

/-- … and what leaving with `?47l` / `?1049l` does to it -/
def gridLeft (pout : List Nat) (g : Grid) : Grid :=
  if pout = [1049] then g.restoreCursor else g

/-- **C11, all four combinations.**  Enter with `?47h` or `?1049h`, process ANY actions other than
RIS / `?47l` / `?1049l`, leave with `?47l` or `?1049l`: the primary grid record is
`gridLeft pout (gridEntered pin g)` — `round_trip_grid` (C11more) says what that means field by field —
and the pen is the saved pen if leaving with 1049, else whatever the alternate-screen input left. -/
theorem alt_round_trip (W : Nat → Option Nat) {cb : CbPolicy} (hcb : Vt.C11.CbKeeps cb) (ws : WS)
    (hs : ws.screen.altScreen = false) (pin pout : List Nat)
    (hin : pin = [47] ∨ pin = [1049]) (hout : pout = [47] ∨ pout = [1049])
    (s1 : Screen) (h1 : ws.screen.decsetOne pin = .ok (some s1))
    (acts : List Action) (hl : ∀ a ∈ acts, Leaves a = false) (ws2 : WS)
    (h2 : acts.foldlM (perform W cb) { ws with screen := s1 } = .ok ws2)
    (s3 : Screen) (h3 : ws2.screen.decrstOne pout = .ok (some s3)) :
    s3.altScreen = false ∧
    s3.grid = gridLeft pout (gridEntered pin ws.screen.grid) ∧
    s3.attrs = (if pout = [1049] then ws2.screen.savedAttrs else ws2.screen.attrs) ∧
    s3.savedAttrs = ws2.screen.savedAttrs ∧ s3.altGrid = ws2.screen.altGrid := by
  have hent : s1.grid = gridEntered pin ws.screen.grid ∧ s1.altScreen = true := by
    rcases hin with rfl | rfl
    · rw [enter47_eq _ hs] at h1
      simp only [Except.ok.injEq, Option.some.injEq] at h1
      subst h1
      exact ⟨by simp [gridEntered, entered47], rfl⟩
    · obtain ⟨_, e1⟩ := enter1049_eq _ hs (enter1049_rows _ _ hs h1)
      rw [e1] at h1
      simp only [Except.ok.injEq, Option.some.injEq] at h1
      subst h1
      exact ⟨by simp [gridEntered, entered1049], rfl⟩
  obtain ⟨hg, _⟩ := alt_isolation_stream W hcb acts _ ws2 hent.2 hl h2
  simp only at hg
  rcases hout with rfl | rfl
  · rw [exit47_eq] at h3
    simp only [Except.ok.injEq, Option.some.injEq] at h3
    subst h3
    refine ⟨rfl, ?_, by simp [Screen.exitAlternateGrid], rfl, rfl⟩
    simp only [Screen.exitAlternateGrid, hg, hent.1]
    simp [gridLeft]
  · rw [exit1049_eq] at h3
    simp only [Except.ok.injEq, Option.some.injEq] at h3
    subst h3
    refine ⟨rfl, ?_, by simp [left1049], rfl, rfl⟩
    simp only [left1049, hg, hent.1]
    simp [gridLeft]

/-- **C11** `?47h … ?47l`: whatever is drawn in between, the primary grid record is untouched but for the
view offset, which entering reset to 0 -/
theorem alt_round_trip_47 (W : Nat → Option Nat) {cb : CbPolicy} (hcb : CbKeeps cb) (ws : WS)
    (hs : ws.screen.altScreen = false) (s1 : Screen) (h1 : ws.screen.decsetOne [47] = .ok (some s1))
    (acts : List Action) (hl : ∀ a ∈ acts, Leaves a = false) (ws2 : WS)
    (h2 : acts.foldlM (perform W cb) { ws with screen := s1 } = .ok ws2)
    (s3 : Screen) (h3 : ws2.screen.decrstOne [47] = .ok (some s3)) :
    s3.altScreen = false ∧ s3.grid = ws.screen.grid.setScrollback 0 := by
  obtain ⟨a, b, _⟩ := alt_round_trip W hcb ws hs [47] [47] (Or.inl rfl) (Or.inl rfl) s1 h1 acts hl ws2 h2 s3 h3
  exact ⟨a, b⟩

set_option linter.unusedVariables false in -- `hr` follows from `h1` (`enter1049_rows`)
/-- **C11** `?1049h … ?1049l`: the primary grid comes back — cells, wrap flags, scroll region, scrollback,
cursor position, origin mode — with the view offset 0; its SAVED cursor is now the cursor of entry (`?1049h`
begins with a DECSC).  The pen: `alt_round_trip_1049_pen`. -/
theorem alt_round_trip_1049 (W : Nat → Option Nat) {cb : CbPolicy} (hcb : CbKeeps cb) (ws : WS)
    (hs : ws.screen.altScreen = false) (hr : 1 ≤ ws.screen.altGrid.size.rows)
    (s1 : Screen) (h1 : ws.screen.decsetOne [1049] = .ok (some s1))
    (acts : List Action) (hl : ∀ a ∈ acts, Leaves a = false) (ws2 : WS)
    (h2 : acts.foldlM (perform W cb) { ws with screen := s1 } = .ok ws2)
    (s3 : Screen) (h3 : ws2.screen.decrstOne [1049] = .ok (some s3)) :
    s3.altScreen = false ∧
    s3.grid = ((ws.screen.grid.saveCursor).setScrollback 0).restoreCursor ∧
    s3.grid.rows = ws.screen.grid.rows ∧ s3.grid.pos = ws.screen.grid.pos ∧
    s3.grid.scrollTop = ws.screen.grid.scrollTop ∧ s3.grid.scrollBottom = ws.screen.grid.scrollBottom ∧
    s3.grid.scrollback = ws.screen.grid.scrollback ∧ s3.grid.originMode = ws.screen.grid.originMode := by
  obtain ⟨a, b, _⟩ := alt_round_trip W hcb ws hs [1049] [1049] (Or.inr rfl) (Or.inr rfl) s1 h1 acts hl ws2 h2 s3 h3
  rw [b]
  exact ⟨a, rfl, rfl, rfl, rfl, rfl, rfl, rfl⟩

/-- **C11** the alternate screen never holds scrollback (`Inv`, hence every reachable state) -/
theorem alt_no_scrollback {W : Nat → Option Nat} {s : Screen} (h : Inv W s) :
    s.altGrid.scrollback = [] ∧ s.altGrid.scrollbackOffset = 0 := by
  have hi := (inv_iff W s).mp h
  have h1 := hi.alt.sb_len
  have h2 := hi.alt.sb_off
  rw [hi.alt_cap] at h1
  have : s.altGrid.scrollback.length = 0 := by omega
  exact ⟨List.eq_nil_of_length_eq_zero this, by omega⟩

end Vt.C11
