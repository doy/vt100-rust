/-
  Vt.Props.C15view — C15 (row-wise redraw) for a view that may be scrolled back (any offset), with the cursor inside
  its line.

  `rows_formatted(0, cols)` of a scrolled screen `S` draws the visible rows, as `contents_formatted()` does.  Neither
  the emitter (`rowsFormattedLoop_unflag`) nor the drawing protocol's rule "no cursor positioning after a wrapped line"
  (`drawRowsFrom_unflag`: the flag consulted is that of the line ABOVE the one being drawn) reads the wrap flag of
  the last visible row, and with the cursor inside its line `cursor_state_formatted()` reads nothing of the grid
  but its cursor.  So the three strings, and the protocol's byte stream, are those of `C01.surrogateScreen`
  (`rows_surrogate`, `cursorState_surrogate`, `protocol_surrogate`), to which the offset-0 theorem `rows_protocol_run`
  applies: the receiver shows the visible rows of `S`, every wrap flag but the bottom one — the exemption the
  property makes (`ShowsView`; in terms of `obs`: `obsEq true`).

  Hypotheses beyond the invariants (`ScreenInv`, `ScreenX`, `ScreenF`, as in `C01view`; every reachable screen has
  them): every visible row is `cols` wide (false after a `set_size` that changed the width while lines were in the
  scrollback: finding F12) and the cursor is not in the pending-wrap column (finding F9).

  READING (as for C15 at offset 0): the protocol has no input-mode part, so the agreement with the view of `S` is
  stated without the input modes: `ShowsView`, and `obsEq true o1 { o2 with modes := o1.modes }`.  The protocol's bytes
  leave the receiver's input modes alone (`rows_protocol_run`), so the full `obsEq true o1 o2` holds when the receiver
  started with the input modes of `S` (last conjunct of the theorems; `showsView_obs`).
-/
import Vt.Props.C01view
namespace Vt.C15
open Vt Vt.Recv Vt.C19 Vt.C09 Vt.RowDraw Vt.GridDraw Vt.Tok Vt.C01 Vt.C03 Vt.C13 Vt.InvX Vt.InvF

variable {W : Nat → Option Nat} {cb : CbPolicy}

theorem rowsFormattedLoop_unflag (fw : Bool) (start width : Nat) : ∀ (rs : List Row) (i : Nat) (w : Bool),
    Screen.rowsFormattedLoop fw start width (unflagLast rs) i w = Screen.rowsFormattedLoop fw start width rs i w
  | [], _, _ => rfl
  | [r], i, w => by
    simp only [unflagLast, Screen.rowsFormattedLoop]
    rfl
  | r :: r2 :: rs, i, w => by
    simp only [unflagLast, Screen.rowsFormattedLoop]
    cases r.writeContentsFormatted start width i w none none with
    | error e => rfl
    | ok p =>
      simp only [ok_bind]
      rw [rowsFormattedLoop_unflag fw start width (r2 :: rs)]
      simp only [Screen.rowsFormattedLoop]

theorem drawRowsFrom_nil_flags (i : Nat) (w : Bool) (rb : List (List Nat)) : drawRowsFrom i w rb [] = [] := by
  cases rb <;> rfl

theorem drawRowsFrom_dropLast : ∀ (ws ws' : List Bool) (i : Nat) (w : Bool) (rb : List (List Nat)),
    ws.dropLast = ws'.dropLast → ws.length = ws'.length → drawRowsFrom i w rb ws = drawRowsFrom i w rb ws'
  | [], [], _, _, _, _, _ => rfl
  | [], _ :: _, _, _, _, _, hl => by simp at hl
  | _ :: _, [], _, _, _, _, hl => by simp at hl
  | [a], [b], i, w, rb, _, _ => by
    cases rb with
    | nil => rfl
    | cons x rest => simp only [drawRowsFrom, drawRowsFrom_nil_flags]
  | [a], b :: b2 :: bs, _, _, _, _, hl => by simp at hl
  | a :: a2 :: as, [b], _, _, _, _, hl => by simp at hl
  | a :: a2 :: as, b :: b2 :: bs, i, w, rb, hd, hl => by
    rw [List.dropLast_cons_cons (x := a), List.dropLast_cons_cons (x := b)] at hd
    obtain ⟨hab, hd'⟩ := List.cons.inj hd
    subst hab
    cases rb with
    | nil => rfl
    | cons x rest =>
      simp only [drawRowsFrom]
      rw [drawRowsFrom_dropLast (a2 :: as) (b2 :: bs) (i + 1) a rest hd' (by simpa using hl)]

/-- **the protocol reads the wrap flag of the last visible row nowhere**, whatever the lines' strings are -/
theorem drawRowsFrom_unflag : ∀ (rs : List Row) (i : Nat) (w : Bool) (rb : List (List Nat)),
    drawRowsFrom i w rb ((unflagLast rs).map (·.wrapped)) = drawRowsFrom i w rb (rs.map (·.wrapped)) :=
  fun rs i w rb => drawRowsFrom_dropLast _ _ i w rb (unflagLast_wrapped rs) (by simp [unflagLast_length])

theorem surrogate_grid_size (S : Screen) (vis : List Row) : (surrogateScreen S vis).grid.size = S.grid.size := by
  unfold surrogateScreen Screen.setCur Screen.cur surrogate
  split <;> simp_all

theorem rows_surrogate {S : Screen} {vis : List Row} (hvis : S.cur.visibleRows = .ok vis) (start width : Nat) :
    S.rowsFormatted start width = (surrogateScreen S vis).rowsFormatted start width := by
  have hv2 : (surrogateScreen S vis).cur.visibleRows = .ok (unflagLast vis) := by
    rw [surrogate_cur]; exact C19.visibleRows_offset0 _ rfl
  simp only [Screen.rowsFormatted, hvis, hv2, ok_bind, surrogate_grid_size, rowsFormattedLoop_unflag]

theorem cursorState_inside (S : Screen) (hcol : S.cur.pos.col < S.cur.size.cols) :
    S.cursorStateFormatted = .ok (Term.hideCursor S.hideCursor ++ Term.moveTo S.cur.pos) := by
  simp only [Screen.cursorStateFormatted, cursor_inside S.cur none none hcol, Grid.moveOpt, pure_eq_ok, ok_bind]

theorem cursorState_surrogate {S : Screen} (vis : List Row) (hcol : S.cur.pos.col < S.cur.size.cols) :
    S.cursorStateFormatted = (surrogateScreen S vis).cursorStateFormatted := by
  have h2 := cursorState_inside (surrogateScreen S vis) (by rw [surrogate_cur]; exact hcol)
  rw [cursorState_inside S hcol, h2, surrogate_hide, surrogate_cur]
  rfl

/-- `protocolStream` with the wrap flags of the visible rows (what `row_wrapped(i-1)` returns) in place of those of the
live rows -/
def protocolStreamVis (S : Screen) (vis : List Row) (rb : List (List Nat)) (cursorState : List Nat) : List Nat :=
  drawRowsFrom 0 false rb (vis.map (·.wrapped)) ++ Term.clearAttrs ++ cursorState ++ S.attributesFormatted

theorem protocolStreamVis_offset0 (S : Screen) (rb : List (List Nat)) (cs : List Nat) :
    protocolStreamVis S S.cur.rows rb cs = protocolStream S rb cs := rfl

theorem protocol_surrogate (S : Screen) (vis : List Row) (rb : List (List Nat)) (cs : List Nat) :
    protocolStreamVis S vis rb cs = protocolStream (surrogateScreen S vis) rb cs := by
  unfold protocolStreamVis protocolStream
  rw [surrogate_cur, ← attributes_formatted_obs S _ (surrogate_attrs S vis).symm]
  show _ = drawRowsFrom 0 false rb ((unflagLast vis).map (·.wrapped)) ++ _ ++ _ ++ _
  rw [drawRowsFrom_unflag]

theorem showsView_of_shows {q S : Screen} (h : Shows q S) : ShowsView q S S.cur.rows :=
  ⟨h.size, h.cells, h.views, by rw [h.wrapped], by
    have := congrArg List.length h.wrapped
    simpa using this, h.cursor, h.hide, h.pen, h.off⟩

/-- **C15 for a scrolled view** (any scrollback offset; cursor inside its line, visible rows of the current
width): the protocol's bytes (`protocolStreamVis`: CUP unless the VISIBLE line above is wrapped) on a receiver whose
lines are blank (a new parser, a cleared terminal) make it show the VIEW of `S`: the visible cells, flags, colours,
every wrap flag but the bottom visible row's, cursor, visibility, pen (`ShowsView`); the receiver's input modes and
event list are as they were.  In terms of `obs`: `obsEq true` on every component but the input modes, and on all of
them if the receiver had the input modes of `S`. -/
theorem rows_protocol_view (hW : WOk W) {q : Parser} (hq : RecvOk W q)
    (hqoff : (rsOf q.ws).g.scrollbackOffset = 0)
    (hblank : ∀ r ∈ (rsOf q.ws).g.rows, BlankRow (rsOf q.ws).g.size.cols r)
    (S : Screen) (hi : ScreenInv W S) (hx : ScreenX S) (hf : ScreenF S)
    {vis : List Row} (hvis : S.cur.visibleRows = .ok vis) (hwid : ∀ r ∈ vis, r.cells.length = S.cur.size.cols)
    (hcol : S.cur.pos.col < S.cur.size.cols) (hsz : S.cur.size = (rsOf q.ws).g.size) :
    ∃ rb cs q', S.rowsFormatted 0 S.cur.size.cols = .ok rb ∧ S.cursorStateFormatted = .ok cs ∧
      q.process W cb (protocolStreamVis S vis rb cs) = .ok q' ∧ Ready q' ∧ ShowsView q'.screen S vis ∧
      C10.inputModes q'.screen = C10.inputModes q.screen ∧ q'.ws.events = q.ws.events ∧
      ∃ o1 o2, obs q'.screen = .ok o1 ∧ obs S = .ok o2 ∧ obsEq true o1 { o2 with modes := o1.modes } = true ∧
        (C10.inputModes q.screen = C10.inputModes S → obsEq true o1 o2 = true) := by
  have hS := srcScreen_surrogate hi hx hf hvis hwid
  have hcur := surrogate_cur S vis
  have hcsz : (surrogateScreen S vis).cur.size = S.cur.size := by rw [hcur]; rfl
  obtain ⟨rb, cs, q', e1, e2, e3, r4, hsh, hm, hev, _⟩ := rows_protocol_run (cb := cb) hW hq.ready hq.canvas hqoff hblank
    (surrogateScreen S vis) hS (by rw [hcsz]; exact hsz) (by rw [surrogate_grid_size, hcsz]; exact grid_size_cur hi)
  rw [hcsz, ← rows_surrogate hvis] at e1
  rw [← cursorState_surrogate vis hcol] at e2
  rw [← protocol_surrogate] at e3
  have hv := showsView_of_surrogate hsh
  obtain ⟨o1, o2, a1, a2, a3, a4⟩ := showsView_obs hv hvis
  exact ⟨rb, cs, q', e1, e2, e3, r4, hv, hm, hev, o1, o2, a1, a2, a3, fun h => a4 (hm.trans h)⟩

/-- **C15 for a scrolled view, on a new parser** of the same size; no event is reported -/
theorem rows_protocol_view_fresh (hW : WOk W) (S : Screen) (hi : ScreenInv W S) (hx : ScreenX S) (hf : ScreenF S)
    {vis : List Row} (hvis : S.cur.visibleRows = .ok vis) (hwid : ∀ r ∈ vis, r.cells.length = S.cur.size.cols)
    (hcol : S.cur.pos.col < S.cur.size.cols) (sb : Nat) :
    ∃ q rb cs q', Parser.new S.cur.size.rows S.cur.size.cols sb = .ok q ∧
      S.rowsFormatted 0 S.cur.size.cols = .ok rb ∧ S.cursorStateFormatted = .ok cs ∧
      q.process W cb (protocolStreamVis S vis rb cs) = .ok q' ∧ ShowsView q'.screen S vis ∧
      C10.inputModes q'.screen = C10.inputModes q.screen ∧ q'.ws.events = [] ∧
      ∃ o1 o2, obs q'.screen = .ok o1 ∧ obs S = .ok o2 ∧ obsEq true o1 { o2 with modes := o1.modes } = true ∧
        (C10.inputModes q.screen = C10.inputModes S → obsEq true o1 o2 = true) := by
  obtain ⟨hcg, _⟩ := hi.cur
  obtain ⟨q, enew, hq⟩ := new_recvOk W S.cur.size.rows S.cur.size.cols sb hcg.rows_pos hcg.cols_pos hcg.rows_u16 hcg.cols_u16
  obtain ⟨rb, cs, q', e1, e2, e3, _, hv, hm, hev, ho⟩ := rows_protocol_view (cb := cb) hW hq.ok hq.off hq.blank S hi hx hf
    hvis hwid hcol (by rw [hq.size])
  exact ⟨q, rb, cs, q', enew, e1, e2, e3, hv, hm, hev.trans hq.events, ho⟩

/-- **C15 for every reachable screen, scrolled back or not** (cursor inside its line; visible rows of the current
width): any history of `process` / `set_size` / `set_scrollback` from `Parser::new`; the protocol's bytes on a new
parser of the same size.  `ShowsView` / `obsEq true` exempt the wrap flag of the bottom visible row; for a view
that is not scrolled back `Reach.rows_protocol_reachable` gives every wrap flag (and every cursor position) -/
theorem rows_protocol_reachable_view (hW : WOk W) {cbS cbR : CbPolicy}
    (hcb : CbInv W cbS) (hcx : CbX W cbS) (hcf : CbF W cbS)
    (rows cols sb : Nat) (hr : 1 ≤ rows) (hc : 1 ≤ cols) (hr' : rows ≤ 65535) (hc' : cols ≤ 65535)
    (ops : List Op) (hv : ∀ op ∈ ops, op.Valid) (sbR : Nat) :
    ∃ p vis, (Parser.new rows cols sb >>= fun p0 => ops.foldlM (applyOp W cbS) p0) = .ok p ∧
      p.ws.screen.cur.visibleRows = .ok vis ∧
      ((∀ r ∈ vis, r.cells.length = p.ws.screen.cur.size.cols) →
        p.ws.screen.cur.pos.col < p.ws.screen.cur.size.cols →
        ∃ q rb cs q', Parser.new p.ws.screen.cur.size.rows p.ws.screen.cur.size.cols sbR = .ok q ∧
          p.ws.screen.rowsFormatted 0 p.ws.screen.cur.size.cols = .ok rb ∧
          p.ws.screen.cursorStateFormatted = .ok cs ∧
          q.process W cbR (protocolStreamVis p.ws.screen vis rb cs) = .ok q' ∧
          ShowsView q'.screen p.ws.screen vis ∧
          C10.inputModes q'.screen = C10.inputModes q.screen ∧ q'.ws.events = [] ∧
          ∃ o1 o2, obs q'.screen = .ok o1 ∧ obs p.ws.screen = .ok o2 ∧
            obsEq true o1 { o2 with modes := o1.modes } = true ∧
            (C10.inputModes q.screen = C10.inputModes p.ws.screen → obsEq true o1 o2 = true)) := by
  obtain ⟨p, e, hi, hx, hf⟩ := InvAll.reachable_all hW.space hcb hcx hcf rows cols sb hr hc hr' hc' ops hv
  obtain ⟨vis, hvis, _⟩ := C12.visibleRows_length p.ws.screen.cur hi.screen.cur.1.sb_off
  exact ⟨p, vis, e, hvis, fun hwid hcol => rows_protocol_view_fresh (cb := cbR) hW p.ws.screen hi.screen hx hf hvis hwid hcol sbR⟩

/-- the hypotheses of the scrolled-view theorem are satisfiable by a scrolled screen whose view has a WRAPPED
line: "abcd" (wraps after "abc") CR LF "e" CR LF "f" on a 3x3 screen with a history of 5 lines,
`set_scrollback(1)`: the view shows the history line "abc" (wrapped), and the live lines "d", "e"; every visible
row is 3 wide, the cursor is inside its line; and the protocol's bytes on a new 3x3 parser give
`obsEq true` (all components, the modes being the defaults on both sides) (kernel-evaluated; a test) -/
theorem rows_protocol_view_nonvacuous :
    isOkTrue (do
      let p0 ← Parser.new 3 3 5
      let p1 ← p0.process W0 cbNone [97, 98, 99, 100, 13, 10, 101, 13, 10, 102]
      let s ← p1.ws.screen.setScrollback 1
      let vis ← s.cur.visibleRows
      let rb ← s.rowsFormatted 0 s.cur.size.cols
      let cs ← s.cursorStateFormatted
      let q ← Parser.new 3 3 0
      let q' ← q.process W0 cbNone (protocolStreamVis s vis rb cs)
      let o1 ← obs q'.screen
      let o2 ← obs s
      pure (decide (s.cur.scrollbackOffset > 0) && vis.all (fun r => r.cells.length == s.cur.size.cols) &&
            decide (s.cur.pos.col < s.cur.size.cols) && vis.length == 3 &&
            (vis.map (·.wrapped) == [true, false, false]) && obsEq true o1 o2)) = true := by
  decide +kernel

end Vt.C15
