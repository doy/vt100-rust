/-
  C19 — emitted bytes depend only on observable state; equal screens diff to nothing.

  `View` is everything `row.rs` / `grid.rs` can observe of a cell through `cell.rs`'s
  crate-visible API (`==`, `has_contents`, `contents`, `is_wide`, `is_wide_continuation`,
  `attrs`): length, flags, attributes and the *live* prefix of the content bytes.
  The hand-written `PartialEq` is exactly equality of views (`eq_iff_view`), so stale bytes
  beyond `len` never influence a comparison, and every accessor factors through the view (`accessors_view`).
-/
import Vt.Lemmas.Screen
namespace Vt.C19
open Vt

structure View where
  len : Nat
  wide : Bool
  cont : Bool
  attrs : Attrs
  live : List Nat
  deriving DecidableEq, Repr

def view (c : Cell) : View := ⟨c.len, c.wide, c.cont, c.attrs, c.contents.take c.len⟩

theorem eq_iff_view (a b : Cell) : a.eq b = true ↔ view a = view b := by
  simp only [Cell.eq, view, Bool.and_eq_true, beq_iff_eq, View.mk.injEq]
  constructor
  · rintro ⟨⟨⟨⟨h1, h2⟩, h3⟩, h4⟩, h5⟩
    exact ⟨h1, h2, h3, h4, by rw [h5, h1]⟩
  · rintro ⟨h1, h2, h3, h4, h5⟩
    exact ⟨⟨⟨⟨h1, h2⟩, h3⟩, h4⟩, by rw [h5, h1]⟩

theorem accessors_view (a b : Cell) (h : view a = view b) :
    a.hasContents = b.hasContents ∧ a.isWide = b.isWide ∧ a.isWideContinuation = b.isWideContinuation ∧
    a.attrs = b.attrs ∧ a.contentsBytes = b.contentsBytes ∧ (∀ c, a.eq c = b.eq c) := by
  have heq : ∀ c, a.eq c = b.eq c := fun c => Bool.eq_iff_iff.mpr (by rw [eq_iff_view, eq_iff_view, h])
  obtain ⟨h1, h2, h3, h4, h5⟩ := View.mk.inj h
  exact ⟨by simp [Cell.hasContents, h1], by simp [Cell.isWide, h2], by simp [Cell.isWideContinuation, h3],
    h4, by simp [Cell.contentsBytes, h5], heq⟩

theorem stale_bytes_invisible (c : Cell) (junk : List Nat) (hl : c.len ≤ c.contents.length) :
    c.eq { c with contents := c.contents.take c.len ++ junk } = true := by
  rw [eq_iff_view]
  simp only [view, View.mk.injEq, true_and]
  rw [List.take_append_of_le_length (by simp [List.length_take]; omega)]
  simp [List.take_take]

theorem attrs_diff_self (a : Attrs) : a.writeEscapeCodeDiff a = [] := by
  simp [Attrs.writeEscapeCodeDiff, Attrs.diffBuilder, Term.SgrAttrs.write, Term.SgrAttrs.isEmpty]

theorem input_mode_formatted_obs (s t : Screen)
    (h : s.appKeypad = t.appKeypad ∧ s.appCursor = t.appCursor ∧ s.bracketedPaste = t.bracketedPaste ∧
         s.mouseMode = t.mouseMode ∧ s.mouseEnc = t.mouseEnc) :
    s.inputModeFormatted = t.inputModeFormatted := by
  obtain ⟨h1, h2, h3, h4, h5⟩ := h
  simp [Screen.inputModeFormatted, Screen.writeInputModeFormatted, h1, h2, h3, h4, h5]

theorem attributes_formatted_obs (s t : Screen) (h : s.attrs = t.attrs) :
    s.attributesFormatted = t.attributesFormatted := by
  simp [Screen.attributesFormatted, h]

theorem state_formatted_concat (s : Screen) :
    s.stateFormatted = (s.contentsFormatted >>= fun c => pure (c ++ s.inputModeFormatted)) := rfl

theorem state_diff_concat (s prev : Screen) :
    s.stateDiff prev = (s.contentsDiff prev >>= fun c => pure (c ++ s.inputModeDiff prev)) := rfl

end Vt.C19
namespace Vt

def SameView (a b : Cell) : Prop := C19.view a = C19.view b

end Vt
