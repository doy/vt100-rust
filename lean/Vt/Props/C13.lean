/-
  C13 / C03 — structural invariants and totality.  `Inv W s` (Vt/Spec/Inv.lean; named clauses in Vt/Lemmas/Inv.lean) is
  the structural invariant; here: a new screen has it, and `set_scrollback` never fails (that it keeps `Inv`:
  `inv_setScrollback`, Props/InvPerform).
-/
import Vt.Lemmas.GridInv
namespace Vt.C13
open Vt

variable (W : Nat → Option Nat)

/-- the grid `Grid::new` + `allocate_rows` builds -/
def newGrid (rows cols sb : Nat) : Grid :=
  { size := ⟨rows, cols⟩, pos := ⟨0, 0⟩, savedPos := ⟨0, 0⟩,
    rows := List.replicate rows (Row.new cols), scrollTop := 0, scrollBottom := rows - 1,
    originMode := false, savedOriginMode := false, scrollback := [], scrollbackLen := sb,
    scrollbackOffset := 0 }

theorem gridInv_new (rows cols sb : Nat) (hr : 1 ≤ rows) (hc : 1 ≤ cols) (hr' : rows ≤ 65535)
    (hc' : cols ≤ 65535) (un : Bool) :
    GridInv W (newGrid rows cols sb) un where
  rows_pos := hr
  cols_pos := hc
  rows_u16 := hr'
  cols_u16 := hc'
  rows_len := Or.inr (by simp [newGrid])
  row_ok := by
    intro r hr'
    simp only [newGrid, List.mem_replicate] at hr'
    rw [hr'.2]
    exact rowGood_new W cols hc
  pos_row := by simp [newGrid]; omega
  pos_col := by simp [newGrid]
  spos_row := by simp [newGrid]; omega
  spos_col := by simp [newGrid]
  region_le := by simp [newGrid]
  region_lt := by simp [newGrid]; omega
  sb_len := by simp [newGrid]
  sb_off := by simp [newGrid]
  sb_ok := by simp [newGrid]

/-- the screen `Screen::new` builds -/
def newScreen (rows cols sb : Nat) : Screen :=
  { grid := newGrid rows cols sb,
    altGrid := { size := ⟨rows, cols⟩, pos := ⟨0, 0⟩, savedPos := ⟨0, 0⟩, rows := [], scrollTop := 0,
                 scrollBottom := rows - 1, originMode := false, savedOriginMode := false,
                 scrollback := [], scrollbackLen := 0, scrollbackOffset := 0 },
    attrs := Attrs.default, savedAttrs := Attrs.default, appKeypad := false, appCursor := false,
    hideCursor := false, altScreen := false, bracketedPaste := false, mouseMode := .none,
    mouseEnc := .default }

theorem new_eq (sz : Size) (sb : Nat) (hr : 1 ≤ sz.rows) :
    Screen.new sz sb = .ok (newScreen sz.rows sz.cols sb) := by
  simp [Screen.new, Grid.new, subM, hr, newScreen, newGrid, Grid.allocateRows]

/-- `Screen::new` succeeds and yields a screen satisfying the invariant, for every size from 1x1 to 65535x65535, every
capacity and every width function -/
theorem inv_new (rows cols sb : Nat) (hr : 1 ≤ rows) (hc : 1 ≤ cols) (hr' : rows ≤ 65535) (hc' : cols ≤ 65535) :
    Screen.new ⟨rows, cols⟩ sb = .ok (newScreen rows cols sb) ∧ Inv W (newScreen rows cols sb) := by
  refine ⟨new_eq ⟨rows, cols⟩ sb hr, ?_⟩
  rw [inv_iff]
  refine ⟨gridInv_new W rows cols sb hr hc hr' hc' false, ?_, rfl, rfl, by simp [newScreen]⟩
  exact { gridInv_new W rows cols 0 hr hc hr' hc' true with rows_len := Or.inl ⟨rfl, rfl⟩, row_ok := nofun }

/-- `set_scrollback(k)` is total and only changes the view offset -/
theorem setScrollback_total (s : Screen) (k : Nat) :
    s.setScrollback k = .ok (s.setCur { s.cur with scrollbackOffset := min k s.cur.scrollback.length }) := by
  unfold Screen.setScrollback
  exact modifyGrid_ok_of rfl

end Vt.C13
