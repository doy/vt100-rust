/-
  Vt.Props.C04write — C04, the `std::io::Write` clause beyond `write`: the provided methods `write_all` and
  `write_vectored` (the crate overrides neither), as the correspondence check drives them (ops `WA`, `WV`).
  The model (`Parser.writeAll`, `writeVectored`, `writeVectoredAll` in Vt/Model/Perform.lean) has the LOOPS of the
  provided methods / of the caller, advancing by the count `write` reports; that they come down to `process` calls is
  proved here from `write` reporting the whole buffer (`C04.write_eq_process`).

  * `writeAll_eq_process`   : `write_all(buf)` is one `process(buf)` (no call at all for an empty buffer).
  * `writeVectored_first`   : `write_vectored` hands exactly the first non-empty slice to `process` and reports its length.
  * `writeVectoredAll_eq`   : offering what is left again until all is taken is one `process` call per non-empty slice, in
                              order.
-/
import Vt.Props.C04cut
namespace Vt.C04

theorem writeAll_eq_process (W : Nat → Option Nat) (cb : CbPolicy) (p : Parser) (bytes : List Nat) (hne : bytes ≠ []) :
    p.writeAll W cb bytes = p.process W cb bytes := by
  cases bytes with
  | nil => exact absurd rfl hne
  | cons b bs =>
    unfold Parser.writeAll
    simp only [List.length_cons, Parser.writeAllLoop, List.isEmpty_cons, Bool.false_eq_true, ↓reduceIte, write_eq_process]
    cases h : p.process W cb (b :: bs) with
    | error e => rfl
    | ok p1 =>
      simp only [bind, Except.bind, pure, Except.pure]
      have : ((bs.length + 1 == 0) = false) := by simp
      simp only [this, Bool.false_eq_true, ↓reduceIte]
      have hd : (b :: bs).drop (bs.length + 1) = [] := by simp
      rw [hd]
      cases bs <;> simp

theorem writeAll_nil (W : Nat → Option Nat) (cb : CbPolicy) (p : Parser) : p.writeAll W cb [] = .ok p := rfl

theorem writeVectored_first (W : Nat → Option Nat) (cb : CbPolicy) (p : Parser) (s : List Nat) (rest : List (List Nat))
    (hs : s ≠ []) :
    p.writeVectored W cb (s :: rest) = (p.process W cb s >>= fun p' => pure (p', s.length)) := by
  unfold Parser.writeVectored
  have : (s :: rest).find? (fun s => !s.isEmpty) = some s := by
    cases s with
    | nil => exact absurd rfl hs
    | cons a as => simp [List.find?]
  rw [this]
  rfl

theorem writeVectored_skip (W : Nat → Option Nat) (cb : CbPolicy) (p : Parser) (rest : List (List Nat)) :
    p.writeVectored W cb ([] :: rest) = p.writeVectored W cb rest := by
  simp [Parser.writeVectored, List.find?]

theorem advanceSlices_nil_cons (rest : List (List Nat)) (n : Nat) :
    Parser.advanceSlices ([] :: rest) n = Parser.advanceSlices rest n := by
  simp [Parser.advanceSlices]

theorem advanceSlices_full (s : List Nat) (rest : List (List Nat)) :
    (Parser.advanceSlices (s :: rest) s.length).filter (fun t => !t.isEmpty) = rest.filter (fun t => !t.isEmpty) ∧
    ((Parser.advanceSlices (s :: rest) s.length).map List.length).sum = (rest.map List.length).sum := by
  simp only [Parser.advanceSlices, Nat.lt_irrefl, ↓reduceIte, Nat.sub_self]
  induction rest with
  | nil => exact ⟨rfl, rfl⟩
  | cons t ts ih =>
    cases t with
    | nil => simpa [Parser.advanceSlices] using ih
    | cons a as => simp [Parser.advanceSlices]

theorem writeVectoredAllLoop_succ (W : Nat → Option Nat) (cb : CbPolicy) (fuel : Nat) (p : Parser)
    (slices : List (List Nat)) :
    Parser.writeVectoredAllLoop W cb (fuel + 1) p slices =
      if slices.all (fun s => s.isEmpty) then pure p
      else p.writeVectored W cb slices >>= fun r =>
        if r.2 == 0 then pure r.1 else Parser.writeVectoredAllLoop W cb fuel r.1 (Parser.advanceSlices slices r.2) :=
  rfl

theorem writeVectoredAllLoop_eq (W : Nat → Option Nat) (cb : CbPolicy) (fuel : Nat) : ∀ (slices : List (List Nat)) (p : Parser),
    (slices.map List.length).sum < fuel →
    Parser.writeVectoredAllLoop W cb fuel p slices =
      (slices.filter (fun s => !s.isEmpty)).foldlM (fun p c => p.process W cb c) p := by
  induction fuel with
  | zero => exact fun _ _ h => absurd h (Nat.not_lt_zero _)
  | succ fuel ih =>
    intro slices
    induction slices with
    | nil => exact fun _ _ => rfl
    | cons s rest ihs =>
      intro p h
      cases s with
      | nil =>
        -- a leading empty slice is skipped within the round
        have := ihs p (by simpa using h)
        rw [writeVectoredAllLoop_succ] at this ⊢
        simp only [List.all_cons, List.isEmpty_nil, Bool.true_and, writeVectored_skip, advanceSlices_nil_cons]
        exact this
      | cons a as =>
        rw [writeVectoredAllLoop_succ, if_neg (by simp), writeVectored_first W cb p (a :: as) rest (List.cons_ne_nil a as)]
        simp only [List.filter_cons, List.isEmpty_cons, Bool.not_false, ↓reduceIte, List.foldlM_cons]
        cases p.process W cb (a :: as) with
        | error e => rfl
        | ok p1 =>
          have hsum : ((Parser.advanceSlices ((a :: as) :: rest) (a :: as).length).map List.length).sum < fuel := by
            rw [(advanceSlices_full _ _).2]
            simp only [List.map_cons, List.sum_cons, List.length_cons] at h
            omega
          simp only [ok_bind, pure_bind']
          rw [if_neg (by simp), ih _ p1 hsum, (advanceSlices_full (a :: as) rest).1]

theorem writeVectoredAll_eq (W : Nat → Option Nat) (cb : CbPolicy) (slices : List (List Nat)) (p : Parser) :
    p.writeVectoredAll W cb slices = (slices.filter (fun s => !s.isEmpty)).foldlM (fun p c => p.process W cb c) p :=
  writeVectoredAllLoop_eq W cb _ slices p (Nat.lt_succ_self _)

/-- hence, when no UTF-8 bytes are pending at the start and no slice boundary is a losing cut (F10), the vectored write
equals one `process` of everything -/
theorem writeVectoredAll_eq_process (W : Nat → Option Nat) (cb : CbPolicy) (slices : List (List Nat)) (p : Parser)
    (hc : p.vte.carry = [])
    (h : ∀ i (hi : i < (slices.filter (fun s => !s.isEmpty)).length),
      C04cut.WindowLoses (C04cut.runVte p.vte ((slices.filter (fun s => !s.isEmpty)).take i)).carry
        (slices.filter (fun s => !s.isEmpty))[i] = false) :
    p.writeVectoredAll W cb slices = p.process W cb (slices.filter (fun s => !s.isEmpty)).flatten := by
  rw [writeVectoredAll_eq]
  exact C04cut.process_chunks_cut W cb _ p hc h

end Vt.C04
