/-
  C09spec — a specification FUNCTION for SGR (`CSI … m`) and the theorem that the model of
  `Screen::sgr` equals it, for EVERY parameter list, from EVERY pen.

  Rust: /repo/src/screen.rs `Screen::sgr` (the `loop { match next_param!() { … } }`), reached from
  `Perform::csi_dispatch` for final byte `m` without intermediates.  Model: `Vt.sgr` / `Vt.sgrLoop`
  (Vt/Model/Perform.lean), called by `performCsi` with `unh = emit cb (unhandledCsi none none params 109)`.

  A "group" is one `;`-separated parameter with its `:` sub-parameters, as vte hands them over
  (`CSI 1;38:5:9 m` = `[[1], [38,5,9]]`; `CSI m` = `[[0]]`).

  The SPEC is written independently of the shape of `sgrLoop`: `classify` says what ONE group means on its own, `sgrRun`
  recurses structurally over the groups (final pen, number of unhandled-CSI reports), `ending` says how a list ends.
  `sgr_spec` is for every closure that only logs the event, `sgr_spec_pen` for any closure that leaves the pen alone;
  `perform_sgr*` and `process_sgr_bytes` carry them through `perform` and the vte model.  There is no bound on the length
  of the list or on the values.

  READING — what the property text leaves open and the code (hence this specification) does:
  the property says what well-formed parameters do and that unknown ones are skipped.  For a 38 / 48 that
  is NOT followed by a well-formed colour, `Screen::sgr` does not skip — it RETURNS, so every later
  parameter of the same sequence is dropped (earlier ones have already been applied):
    - `38;5;n` with n > 255, `38;2;r;g;b` with a component > 255 (the `u16_to_u8` conversion fails; there is
      no clamping or wrapping), and the colon forms `38:5:n`, `38:2:r:g:b` likewise: return SILENTLY, colour
      unchanged.  `CSI 38;5;300;1 m` does not set bold.
    - `38` / `38;5` / `38;2` / `38;2;r` / `38;2;r;g` at the end of the sequence: silently nothing.
    - `38;5;X` or `38;2;…X…` where X is a group with sub-parameters (e.g. `38;5;1:2`): return silently.
    - `38;X` where X is not the single number 2 or 5 (e.g. `38;7`, `38;5:1`): ONE unhandled-CSI event, then
      return.  `CSI 38;7;1 m` reports once and does not set bold.
  Not malformed in this sense, but plain UNKNOWN parameters (one event each, later parameters still apply):
  any other number; an empty group; a multi-number group not of the exact shapes `38:5:n` / `38:2:r:g:b`
  (48 alike) — in particular `38:5`, `38:2:r:g`, `38:7:…` and the ITU form `38:2::r:g:b` (= `[38,2,0,r,g,b]`).
  The event always carries the WHOLE parameter list of the sequence, so the n reports of one sequence are
  n equal events.
-/
import Vt.Props.C09b
namespace Vt.C09spec
open Vt

inductive Layer where
  | fg | bg
  deriving Repr, DecidableEq

def Layer.set : Layer → Color → Attrs → Attrs
  | .fg, c, a => { a with fg := c }
  | .bg, c, a => { a with bg := c }

/-- what ONE parameter group means, looked at on its own -/
inductive Head where
  /-- complete and meaningful: change the pen by `f`, go on with the next group -/
  | set (f : Attrs → Attrs)
  /-- a bare `38` / `48`: the colour is spelled out in the FOLLOWING groups -/
  | ext (l : Layer)
  /-- a colon form `38:5:n` / `38:2:r:g:b` (or 48) with a component above 255: stop, silently -/
  | stop
  /-- anything else: report one unhandled-CSI event, skip the group, go on -/
  | unknown

def classifySingle (n : Nat) : Head :=
  if n = 0 then .set (fun _ => Attrs.default)
  else if n = 1 then .set (fun a => { a with intensity := .bold })
  else if n = 2 then .set (fun a => { a with intensity := .dim })
  else if n = 22 then .set (fun a => { a with intensity := .normal })
  else if n = 3 then .set (fun a => { a with italic := true })
  else if n = 23 then .set (fun a => { a with italic := false })
  else if n = 4 then .set (fun a => { a with underline := true })
  else if n = 24 then .set (fun a => { a with underline := false })
  else if n = 7 then .set (fun a => { a with inverse := true })
  else if n = 27 then .set (fun a => { a with inverse := false })
  else if 30 ≤ n ∧ n ≤ 37 then .set (Layer.fg.set (.idx (n - 30)))
  else if 40 ≤ n ∧ n ≤ 47 then .set (Layer.bg.set (.idx (n - 40)))
  else if 90 ≤ n ∧ n ≤ 97 then .set (Layer.fg.set (.idx (n - 90 + 8)))
  else if 100 ≤ n ∧ n ≤ 107 then .set (Layer.bg.set (.idx (n - 100 + 8)))
  else if n = 39 then .set (Layer.fg.set .default)
  else if n = 49 then .set (Layer.bg.set .default)
  -- extended colours, `;` form: arguments follow
  else if n = 38 then .ext .fg
  else if n = 48 then .ext .bg
  else .unknown

/-- the sub-parameters after `38:` / `48:` inside one group -/
def classifyColon (l : Layer) : List Nat → Head
  | [5, n] => if n ≤ 255 then .set (l.set (.idx n)) else .stop
  | [2, r, g, b] => if r ≤ 255 ∧ g ≤ 255 ∧ b ≤ 255 then .set (l.set (.rgb r g b)) else .stop
  | _ => .unknown

/-- vte never delivers an empty group; the code treats it as unknown -/
def classify : List Nat → Head
  | [] => .unknown
  | [n] => classifySingle n
  | n :: sub => if n = 38 then classifyColon .fg sub else if n = 48 then classifyColon .bg sub else .unknown

def report (r : Attrs × Nat) : Attrs × Nat := (r.1, r.2 + 1)

/-- the parameters one after the other: final pen and number of unhandled-CSI reports.
A result `(pen, k)` that does not mention `rest` is a STOP: the remaining groups are ignored. -/
def sgrRun (pen : Attrs) : List (List Nat) → Attrs × Nat
  | [] => (pen, 0)
  | g :: rest =>
    match classify g with
    | .set f => sgrRun (f pen) rest
    | .unknown => report (sgrRun pen rest)
    | .stop => (pen, 0)
    | .ext l =>
      match rest with
      | [] => (pen, 0)
      | [5] :: [n] :: rest' => if n ≤ 255 then sgrRun (l.set (.idx n) pen) rest' else (pen, 0)
      -- `38;5` at the end, or followed by a group with sub-parameters: stop silently
      | [5] :: _ => (pen, 0)
      | [2] :: [r] :: [g] :: [b] :: rest' =>
        if r ≤ 255 ∧ g ≤ 255 ∧ b ≤ 255 then sgrRun (l.set (.rgb r g b) pen) rest' else (pen, 0)
      -- `38;2` followed by fewer than three groups, or by one with sub-parameters: stop silently
      | [2] :: _ => (pen, 0)
      -- `38;x`, x not the single number 2 or 5: ONE report, then stop
      | _ :: _ => (pen, 1)

/-- **the specification of `CSI groups m`**: pen afterwards, number of unhandled-CSI events reported.
An empty `Params` (which vte never produces: `CSI m` arrives as `[[0]]`) resets, like `0`. -/
def sgrSpec (pen : Attrs) (groups : List (List Nat)) : Attrs × Nat :=
  if groups = [] then (Attrs.default, 0) else sgrRun pen groups

section laws
variable (pen : Attrs) (rest : List (List Nat))

theorem run_nil : sgrRun pen [] = (pen, 0) := rfl

theorem run_set {g : List Nat} {f : Attrs → Attrs} (h : classify g = .set f) :
    sgrRun pen (g :: rest) = sgrRun (f pen) rest := by
  simp [sgrRun, h]

theorem run_unknown {g : List Nat} (h : classify g = .unknown) :
    sgrRun pen (g :: rest) = report (sgrRun pen rest) := by
  simp [sgrRun, h]

theorem run_stop {g : List Nat} (h : classify g = .stop) :
    sgrRun pen (g :: rest) = (pen, 0) := by
  simp [sgrRun, h]

def ofSingle : Option (Attrs → Attrs) → Head
  | some f => .set f
  | none => .unknown

/-- `Sgr.single` (Vt/Lemmas/Sgr.lean) makes the same tests in the order of the source, and writes the bright colours `n - 82`,
`n - 92` as the crate does -/
theorem classifySingle_eq {n : Nat} (h38 : n ≠ 38) (h48 : n ≠ 48) : classifySingle n = ofSingle (Sgr.single n) := by
  fun_cases classifySingle n
  case case1 | case2 | case3 | case4 | case5 | case6 | case7 | case8 | case9 | case10 | case15 | case16 => subst_vars; rfl
  -- the four ranges, `38` / `48`, and the numbers without a meaning: every test of `single` is refuted in the context
  · rw [Sgr.single_fg ‹_›]; rfl
  · rw [Sgr.single_bg ‹_›]; rfl
  · rw [Sgr.single_fg_bright ‹_›, show n - 82 = n - 90 + 8 by omega]; rfl
  · rw [Sgr.single_bg_bright ‹_›, show n - 92 = n - 100 + 8 by omega]; rfl
  · exact absurd ‹_› h38
  · exact absurd ‹_› h48
  · rw [Sgr.single_eq_none_iff.mpr (by simp only [*, or_self, not_false_eq_true])]; rfl

def knownSingle (n : Nat) : Prop :=
  n = 0 ∨ n = 1 ∨ n = 2 ∨ n = 22 ∨ n = 3 ∨ n = 23 ∨ n = 4 ∨ n = 24 ∨ n = 7 ∨ n = 27 ∨
  (30 ≤ n ∧ n ≤ 49) ∨ (90 ≤ n ∧ n ≤ 97) ∨ (100 ≤ n ∧ n ≤ 107)

theorem classifySingle_unknown {n : Nat} (h : ¬ knownSingle n) : classifySingle n = .unknown := by
  unfold knownSingle at h
  rw [classifySingle_eq (by omega) (by omega), Sgr.single_eq_none_iff.mpr (by omega)]; rfl

end laws

def finish (e : Event) (ws : WS) (r : Attrs × Nat) : WS :=
  { screen := { ws.screen with attrs := r.1 }, events := ws.events ++ List.replicate r.2 e }

theorem finish_zero (e : Event) (ws : WS) : finish e ws (ws.screen.attrs, 0) = ws := by
  simp [finish]

theorem finish_one (e : Event) (ws : WS) :
    finish e ws (ws.screen.attrs, 1) = { ws with events := ws.events ++ [e] } := by
  simp [finish]

theorem finish_report (e : Event) (ws : WS) (r : Attrs × Nat) :
    finish e { ws with events := ws.events ++ [e] } r = finish e ws (report r) := by
  simp [finish, report, List.replicate_succ]

theorem classifyColon_unknown (l : Layer) {sub : List Nat}
    (h5 : ∀ n, sub = [5, n] → False) (h2 : ∀ r g b, sub = [2, r, g, b] → False) :
    classifyColon l sub = .unknown := by
  unfold classifyColon
  split
  · exact (h5 _ rfl).elim
  · exact (h2 _ _ _ rfl).elim
  · rfl

def Layer.code : Layer → Nat
  | .fg => 38
  | .bg => 48

theorem classify_code (l : Layer) : classify [l.code] = .ext l := by cases l <;> rfl

section extlaws
variable (pen : Attrs) {l : Layer} {g0 : List Nat} (hg : classify g0 = .ext l)
include hg

theorem run_ext_nil : sgrRun pen [g0] = (pen, 0) := by
  simp [sgrRun, hg]

theorem run_ext_idx (n : Nat) (rest : List (List Nat)) :
    sgrRun pen (g0 :: [5] :: [n] :: rest) =
      if n ≤ 255 then sgrRun (l.set (.idx n) pen) rest else (pen, 0) := by
  simp [sgrRun, hg]

theorem run_ext_rgb (r g b : Nat) (rest : List (List Nat)) :
    sgrRun pen (g0 :: [2] :: [r] :: [g] :: [b] :: rest) =
      if r ≤ 255 ∧ g ≤ 255 ∧ b ≤ 255 then sgrRun (l.set (.rgb r g b) pen) rest else (pen, 0) := by
  simp [sgrRun, hg]

theorem run_ext_idx_trunc (rest2 : List (List Nat)) (h : ∀ i rest3, rest2 = [i] :: rest3 → False) :
    sgrRun pen (g0 :: [5] :: rest2) = (pen, 0) := by
  simp only [sgrRun, hg]

theorem run_ext_rgb_trunc (rest2 : List (List Nat))
    (h : ∀ r g b rest3, rest2 = [r] :: [g] :: [b] :: rest3 → False) :
    sgrRun pen (g0 :: [2] :: rest2) = (pen, 0) := by
  simp only [sgrRun, hg]

end extlaws

/-! `Sgr.step` (Vt/Lemmas/Sgr.lean) describes one turn of the loop of `Screen::sgr`; `classify` and the inner
`match` of `sgrRun` say the same in the specification's own terms. -/

def Head.toStep (rest : List (List Nat)) : Head → Sgr.Step
  | .set f => .apply f 0
  | .ext l => Sgr.behind l.set rest
  | .stop => .stop
  | .unknown => .report

theorem within_eq (l : Layer) (rest : List (List Nat)) (sub : List Nat) :
    Sgr.within l.set sub = (classifyColon l sub).toStep rest := by
  unfold Sgr.within
  split
  · simp only [classifyColon]; split <;> rfl
  · simp only [classifyColon]; split <;> rfl
  · rename_i h2 h5
    rw [classifyColon_unknown l h5 h2]; rfl

theorem step_eq (g : List Nat) (rest : List (List Nat)) : Sgr.step g rest = (classify g).toStep rest := by
  match g with
  | [] => rfl
  | [n] =>
    by_cases h38 : n = 38
    · subst h38; rfl
    · by_cases h48 : n = 48
      · subst h48; rfl
      · rw [Sgr.step_single _ h38 h48, classify, classifySingle_eq h38 h48]
        cases Sgr.single n <;> rfl
  | n :: a :: t =>
    by_cases h38 : n = 38
    · subst h38; exact within_eq .fg rest _
    · by_cases h48 : n = 48
      · subst h48; exact within_eq .bg rest _
      · simp only [Sgr.step, Sgr.layer, classify, h38, h48, ↓reduceIte]; rfl

theorem sgrRun_cons (pen : Attrs) (g : List Nat) (rest : List (List Nat)) :
    sgrRun pen (g :: rest) =
      match Sgr.step g rest with
      | .apply f k => sgrRun (f pen) (rest.drop k)
      | .report => report (sgrRun pen rest)
      | .reportStop => (pen, 1)
      | .stop => (pen, 0) := by
  rw [step_eq]
  cases hg : classify g with
  | set f => exact run_set pen rest hg
  | unknown => exact run_unknown pen rest hg
  | stop => exact run_stop pen rest hg
  | ext l =>
    simp only [Head.toStep]
    fun_cases Sgr.behind l.set rest <;> simp only [sgrRun, List.drop, and_self, ↓reduceIte, *]

theorem run_ext_bad_selector (pen : Attrs) {l : Layer} {g0 : List Nat} (hg : classify g0 = .ext l) (sel : List Nat)
    (tail : List (List Nat)) (h2 : sel ≠ [2]) (h5 : sel ≠ [5]) : sgrRun pen (g0 :: sel :: tail) = (pen, 1) := by
  rw [sgrRun_cons, step_eq, hg, Head.toStep, Sgr.behind_other _ _ h2 h5]

theorem sgrLoop_run (e : Event) (unh : WS → M WS)
    (hunh : ∀ w, unh w = .ok { w with events := w.events ++ [e] }) :
    ∀ (groups : List (List Nat)) (ws : WS),
      sgrLoop unh groups ws = .ok (finish e ws (sgrRun ws.screen.attrs groups)) := by
  intro groups
  induction groups using Sgr.drop_induction with
  | nil => intro ws; rw [sgrLoop_nil, run_nil, finish_zero]; rfl
  | cons g rest ih =>
    intro ws
    rw [sgrLoop_cons, sgrRun_cons]
    cases Sgr.step g rest with
    | apply f k => exact ih k _
    | report => rw [hunh, ok_bind, ← finish_report]; exact ih 0 _
    | reportStop => simp only [hunh, finish_one]
    | stop => simp only [finish_zero]; rfl

inductive Ending where
  /-- every group was consumed by a complete parameter (meaningful or unknown) -/
  | complete
  /-- the list ends inside a `38;…` / `48;…` form that more groups could still complete -/
  | truncated
  /-- a malformed extended colour was met: processing stopped there -/
  | malformed
  deriving Repr, DecidableEq

/-- a proper prefix of a well-formed `r;g;b` -/
def rgbPrefix (gs : List (List Nat)) : Bool :=
  gs.length < 3 && gs.all (fun g => match g with | [v] => v ≤ 255 | _ => false)

def ending : List (List Nat) → Ending
  | [] => .complete
  | g :: rest =>
    match classify g with
    | .set _ => ending rest
    | .unknown => ending rest
    | .stop => .malformed
    | .ext _ =>
      match rest with
      | [] => .truncated
      | [5] :: [] => .truncated
      | [5] :: [n] :: rest' => if n ≤ 255 then ending rest' else .malformed
      | [5] :: _ :: _ => .malformed
      | [2] :: [r] :: [g] :: [b] :: rest' =>
        if r ≤ 255 ∧ g ≤ 255 ∧ b ≤ 255 then ending rest' else .malformed
      | [2] :: rest2 => if rgbPrefix rest2 then .truncated else .malformed
      | _ :: _ => .malformed

def andThen (r : Attrs × Nat) (k : Attrs → Attrs × Nat) : Attrs × Nat := ((k r.1).1, r.2 + (k r.1).2)

theorem run_append_complete : ∀ (xs : List (List Nat)) (pen : Attrs) (ys : List (List Nat)),
    ending xs = .complete →
    sgrRun pen (xs ++ ys) = andThen (sgrRun pen xs) (fun p => sgrRun p ys) := by
  intro xs
  fun_induction ending xs <;> intro pen ys hc
  case case1 | case2 | case7 | case10 => simp only [List.cons_append, List.nil_append, sgrRun, andThen, and_self, ↓reduceIte, Nat.zero_add, *]
  case case3 =>
    rename_i hg ih
    rw [List.cons_append, run_unknown _ _ hg, run_unknown _ _ hg, ih _ _ hc]
    simp [andThen, report, Nat.add_right_comm]
  all_goals exact absurd hc (by decide)

theorem run_ext_rgb_bad (pen : Attrs) {l : Layer} {g0 : List Nat} (hg : classify g0 = .ext l)
    (rest2 : List (List Nat))
    (h : ∀ r g b rest3, rest2 = [r] :: [g] :: [b] :: rest3 → ¬ (r ≤ 255 ∧ g ≤ 255 ∧ b ≤ 255)) :
    sgrRun pen (g0 :: [2] :: rest2) = (pen, 0) := by
  by_cases hs : ∃ r g b rest3, rest2 = [r] :: [g] :: [b] :: rest3
  · obtain ⟨r, g, b, rest3, rfl⟩ := hs
    rw [run_ext_rgb _ hg, if_neg (h r g b rest3 rfl)]
  · exact run_ext_rgb_trunc _ hg _ fun r g b rest3 e => hs ⟨r, g, b, rest3, e⟩

theorem run_stops : ∀ (xs : List (List Nat)) (pen : Attrs) (ys : List (List Nat)),
    ending xs = .malformed → sgrRun pen (xs ++ ys) = sgrRun pen xs := by
  intro xs
  fun_induction ending xs <;> intro pen ys hc
  case case2 | case3 | case4 | case7 | case8 | case10 | case11 =>
    simp only [List.cons_append, sgrRun, and_self, ↓reduceIte, *]
  case case9 hg hd tl hx =>
    simp only [List.cons_append, run_ext_idx_trunc _ hg (_ :: _) fun i _ e => hx i (List.cons.inj e).1]
  case case13 hg rest2 hshape hp =>
    -- whatever is appended, three single numbers ≤ 255 do not come to stand behind the `2`
    have hbad : ∀ r g b rest3, rest2 ++ ys = [r] :: [g] :: [b] :: rest3 → ¬ (r ≤ 255 ∧ g ≤ 255 ∧ b ≤ 255) := by
      intro r g b rest3 heq hr
      match rest2, heq with
      | [], _ => exact hp rfl
      | [_], heq => cases heq; exact hp (by simp [rgbPrefix, hr.1])
      | [_, _], heq => cases heq; exact hp (by simp [rgbPrefix, hr.1, hr.2.1])
      | _ :: _ :: _ :: _, heq => cases heq; exact hshape _ _ _ _ rfl
    rw [List.cons_append, List.cons_append, run_ext_rgb_bad _ hg _ hbad, run_ext_rgb_trunc _ hg _ hshape]
  case case14 hg hd tl h5a _ h5c _ h2 =>
    have h5 : hd ≠ [5] := fun e => by
      cases tl with
      | nil => exact h5a e rfl
      | cons a t => exact h5c a t e rfl
    simp only [List.cons_append, run_ext_bad_selector _ hg _ _ h2 h5]
  all_goals exact absurd hc (by decide)

theorem ending_append_complete : ∀ (xs ys : List (List Nat)),
    ending xs = .complete → ending (xs ++ ys) = ending ys := by
  intro xs
  fun_induction ending xs <;> intro ys hc
  case case1 => rfl
  case case2 | case3 =>
    rename_i hg ih
    rw [List.cons_append, ending.eq_def]
    simp only [hg]
    exact ih _ hc
  case case7 | case10 =>
    simp only [List.cons_append, ending, and_self, ↓reduceIte, *]
  all_goals exact absurd hc (by decide)

/-- **`Screen::sgr` = `sgrSpec`, for every parameter list, from every pen.**  `unh` is the closure
`Screen::sgr` receives for unhandled parameters; in `perform` it is `emit cb (unhandledCsi …)`, which
appends one event and hands the screen to the callback object; `hunh`: that object leaves the screen alone. -/
theorem sgr_spec (e : Event) (unh : WS → M WS)
    (hunh : ∀ w, unh w = .ok { w with events := w.events ++ [e] })
    (groups : List (List Nat)) (ws : WS) :
    sgr unh groups ws = .ok (finish e ws (sgrSpec ws.screen.attrs groups)) := by
  cases groups with
  | nil => simp [sgr, sgrSpec, finish, WS.modAttrs, pure, Except.pure]
  | cons g rest =>
    simp only [sgr, List.isEmpty_cons, Bool.false_eq_true, ↓reduceIte, sgrSpec, reduceCtorEq]
    exact sgrLoop_run e unh hunh _ _

/-- **any callbacks**: whatever the `unhandled` closure does to the rest of the screen, and whether or not it
fails, the pen after `Screen::sgr` is the specification's as long as the closure leaves the PEN alone (the public
`Screen` API offers a callback nothing that writes the pen). -/
theorem sgrLoop_pen (unh : WS → M WS)
    (hunh : ∀ w w', unh w = .ok w' → w'.screen.attrs = w.screen.attrs) :
    ∀ (groups : List (List Nat)) (ws ws' : WS),
      sgrLoop unh groups ws = .ok ws' → ws'.screen.attrs = (sgrRun ws.screen.attrs groups).1 := by
  intro groups
  induction groups using Sgr.drop_induction with
  | nil => intro ws ws' hok; rw [sgrLoop_nil] at hok; cases hok; rfl
  | cons g rest ih =>
    intro ws ws' hok
    rw [sgrLoop_cons] at hok
    rw [sgrRun_cons]
    cases hs : Sgr.step g rest <;> rw [hs] at hok
    · exact ih _ _ _ hok
    · obtain ⟨w1, hw1, hw2⟩ := bind_eq_ok.mp hok
      rw [ih 0 _ _ hw2, hunh _ _ hw1]; rfl
    · exact hunh _ _ hok
    · cases hok; rfl

theorem sgr_spec_pen (unh : WS → M WS)
    (hunh : ∀ w w', unh w = .ok w' → w'.screen.attrs = w.screen.attrs)
    (groups : List (List Nat)) (ws ws' : WS) (hok : sgr unh groups ws = .ok ws') :
    ws'.screen.attrs = (sgrSpec ws.screen.attrs groups).1 := by
  cases groups with
  | nil =>
    simp only [sgr, List.isEmpty_nil, ↓reduceIte, pure, Except.pure, Except.ok.injEq] at hok
    subst hok; rfl
  | cons g rest =>
    simp only [sgr, List.isEmpty_cons, Bool.false_eq_true, ↓reduceIte] at hok
    exact sgrLoop_pen unh hunh _ _ _ hok

/-- the event `CSI … m` reports for each parameter it does not handle: the whole sequence -/
def sgrEvent (groups : List (List Nat)) : Event := .unhandledCsi none none groups 109

/-- **`CSI groups m` through `Perform::csi_dispatch`**, for every callback object that does not modify the
screen when told about this unhandled sequence -/
theorem perform_sgr (W : Nat → Option Nat) (cb : CbPolicy) (ws : WS) (groups : List (List Nat)) (ig : Bool)
    (hcb : ∀ s, cb (sgrEvent groups) s = .ok s) :
    perform W cb ws (.csiDispatch groups [] ig 109) =
      .ok (finish (sgrEvent groups) ws (sgrSpec ws.screen.attrs groups)) :=
  sgr_spec _ (emit cb (sgrEvent groups)) (fun w => by simp only [emit, hcb, ok_bind]; rfl) groups ws

theorem perform_sgr_cbNone (W : Nat → Option Nat) (ws : WS) (groups : List (List Nat)) (ig : Bool) :
    perform W cbNone ws (.csiDispatch groups [] ig 109) =
      .ok (finish (sgrEvent groups) ws (sgrSpec ws.screen.attrs groups)) :=
  perform_sgr W cbNone ws groups ig (fun _ => rfl)

theorem perform_sgr_cbResize (W : Nat → Option Nat) (ws : WS) (groups : List (List Nat)) (ig : Bool) :
    perform W cbResize ws (.csiDispatch groups [] ig 109) =
      .ok (finish (sgrEvent groups) ws (sgrSpec ws.screen.attrs groups)) :=
  perform_sgr W cbResize ws groups ig (fun _ => rfl)

/-- `perform` with ANY callback object that leaves the pen alone when told about the unhandled sequence -/
theorem perform_sgr_pen (W : Nat → Option Nat) (cb : CbPolicy) (ws ws' : WS) (groups : List (List Nat))
    (ig : Bool) (hcb : ∀ s s', cb (sgrEvent groups) s = .ok s' → s'.attrs = s.attrs)
    (hok : perform W cb ws (.csiDispatch groups [] ig 109) = .ok ws') :
    ws'.screen.attrs = (sgrSpec ws.screen.attrs groups).1 := by
  refine sgr_spec_pen _ (fun w w' h => ?_) groups ws ws' hok
  obtain ⟨s1, h1, h2⟩ := bind_eq_ok.mp h
  cases h2
  exact hcb _ _ h1

/-- non-vacuity of `perform_sgr_pen`: a callback object that hides the cursor whenever it is told about
something unhandled meets `hcb`, and the screen really changes elsewhere -/
def cbHide : CbPolicy := fun _ s => pure { s with hideCursor := true }
example : ∀ e s s', cbHide e s = .ok s' → s'.attrs = s.attrs := by
  intro e s s' h
  simp only [cbHide, pure, Except.pure, Except.ok.injEq] at h
  subst h; rfl
example (W : Nat → Option Nat) (ws : WS) :
    perform W cbHide ws (.csiDispatch [[5], [1]] [] false 109) =
      .ok { screen := { ws.screen with hideCursor := true, attrs := { ws.screen.attrs with intensity := .bold } },
            events := ws.events ++ [sgrEvent [[5], [1]]] } := by
  refine (C09.sgr_nonempty _ _ _ _).trans ?_
  simp only [C09.sgr_unknown_skip _ _ _ 5 (by decide) (by decide) rfl, C09.sgr_bold, sgrLoop_nil]
  rfl

/-! ## Corollaries: the sentences of property C09 (/verif/properties.jsonl) -/

section corollaries
variable (pen : Attrs) (rest : List (List Nat))

/-- "no parameter resets" -/
theorem sgr_nil : sgrSpec pen [] = (Attrs.default, 0) := rfl

/-- "0 resets"; `CSI m` reaches `Screen::sgr` as the single group `[0]` (see `process_sgr_bytes`) -/
theorem sgr_zero : sgrSpec pen [[0]] = (Attrs.default, 0) := rfl

theorem sgrSpec_cons (g : List Nat) : sgrSpec pen (g :: rest) = sgrRun pen (g :: rest) := rfl

theorem sgrSpec_of_ne_nil {xs : List (List Nat)} (h : xs ≠ []) : sgrSpec pen xs = sgrRun pen xs := by
  simp [sgrSpec, h]

theorem run_single {n : Nat} {f : Attrs → Attrs} (h : classifySingle n = .set f) :
    sgrRun pen ([n] :: rest) = sgrRun (f pen) rest :=
  run_set pen rest (g := [n]) h

theorem run_reset : sgrRun pen ([0] :: rest) = sgrRun Attrs.default rest :=
  run_single pen rest (f := fun _ => Attrs.default) rfl
theorem run_bold : sgrRun pen ([1] :: rest) = sgrRun { pen with intensity := .bold } rest :=
  run_single pen rest (f := fun a => { a with intensity := .bold }) rfl
theorem run_dim : sgrRun pen ([2] :: rest) = sgrRun { pen with intensity := .dim } rest :=
  run_single pen rest (f := fun a => { a with intensity := .dim }) rfl
theorem run_normal : sgrRun pen ([22] :: rest) = sgrRun { pen with intensity := .normal } rest :=
  run_single pen rest (f := fun a => { a with intensity := .normal }) rfl
theorem run_italic : sgrRun pen ([3] :: rest) = sgrRun { pen with italic := true } rest :=
  run_single pen rest (f := fun a => { a with italic := true }) rfl
theorem run_no_italic : sgrRun pen ([23] :: rest) = sgrRun { pen with italic := false } rest :=
  run_single pen rest (f := fun a => { a with italic := false }) rfl
theorem run_underline : sgrRun pen ([4] :: rest) = sgrRun { pen with underline := true } rest :=
  run_single pen rest (f := fun a => { a with underline := true }) rfl
theorem run_no_underline : sgrRun pen ([24] :: rest) = sgrRun { pen with underline := false } rest :=
  run_single pen rest (f := fun a => { a with underline := false }) rfl
theorem run_inverse : sgrRun pen ([7] :: rest) = sgrRun { pen with inverse := true } rest :=
  run_single pen rest (f := fun a => { a with inverse := true }) rfl
theorem run_no_inverse : sgrRun pen ([27] :: rest) = sgrRun { pen with inverse := false } rest :=
  run_single pen rest (f := fun a => { a with inverse := false }) rfl
theorem run_fg_default : sgrRun pen ([39] :: rest) = sgrRun { pen with fg := .default } rest :=
  run_single pen rest (f := Layer.fg.set .default) rfl
theorem run_bg_default : sgrRun pen ([49] :: rest) = sgrRun { pen with bg := .default } rest :=
  run_single pen rest (f := Layer.bg.set .default) rfl
theorem run_fg_basic {n : Nat} (h : 30 ≤ n ∧ n ≤ 37) :
    sgrRun pen ([n] :: rest) = sgrRun { pen with fg := .idx (n - 30) } rest :=
  run_single pen rest (n := n) (by rw [classifySingle_eq (by omega) (by omega), Sgr.single_fg h]; rfl)
theorem run_bg_basic {n : Nat} (h : 40 ≤ n ∧ n ≤ 47) :
    sgrRun pen ([n] :: rest) = sgrRun { pen with bg := .idx (n - 40) } rest :=
  run_single pen rest (n := n) (by rw [classifySingle_eq (by omega) (by omega), Sgr.single_bg h]; rfl)
theorem run_fg_bright {n : Nat} (h : 90 ≤ n ∧ n ≤ 97) :
    sgrRun pen ([n] :: rest) = sgrRun { pen with fg := .idx (n - 90 + 8) } rest :=
  run_single pen rest (n := n) (by
    rw [classifySingle_eq (by omega) (by omega), Sgr.single_fg_bright h, show n - 82 = n - 90 + 8 by omega]; rfl)
theorem run_bg_bright {n : Nat} (h : 100 ≤ n ∧ n ≤ 107) :
    sgrRun pen ([n] :: rest) = sgrRun { pen with bg := .idx (n - 100 + 8) } rest :=
  run_single pen rest (n := n) (by
    rw [classifySingle_eq (by omega) (by omega), Sgr.single_bg_bright h, show n - 92 = n - 100 + 8 by omega]; rfl)

/-- "mutually exclusive": intensity is one three-valued field -/
theorem intensity_exclusive (a : Attrs) : ¬ (a.bold = true ∧ a.dim = true) := by
  cases h : a.intensity <;> simp [Attrs.bold, Attrs.dim, h]

theorem run_intensity_last_wins {m n : Nat} (hm : m = 1 ∨ m = 2 ∨ m = 22) (hn : n = 1 ∨ n = 2 ∨ n = 22) :
    sgrRun pen ([m] :: [n] :: rest) = sgrRun pen ([n] :: rest) := by
  rcases hm with rfl | rfl | rfl <;> rcases hn with rfl | rfl | rfl <;>
    simp only [run_bold, run_dim, run_normal]

theorem bold_after_1 : (sgrRun pen [[1]]).1.bold = true ∧ (sgrRun pen [[1]]).1.dim = false := by
  simp [run_bold, run_nil, Attrs.bold, Attrs.dim]
theorem dim_after_2 : (sgrRun pen [[2]]).1.bold = false ∧ (sgrRun pen [[2]]).1.dim = true := by
  simp [run_dim, run_nil, Attrs.bold, Attrs.dim]
theorem normal_after_22 : (sgrRun pen [[22]]).1.bold = false ∧ (sgrRun pen [[22]]).1.dim = false := by
  simp [run_normal, run_nil, Attrs.bold, Attrs.dim]

variable (l : Layer)

theorem ext_semicolon_idx {n : Nat} (h : n ≤ 255) :
    sgrRun pen ([l.code] :: [5] :: [n] :: rest) = sgrRun (l.set (.idx n) pen) rest := by
  rw [run_ext_idx _ (classify_code l), if_pos h]

theorem ext_semicolon_rgb {r g b : Nat} (h : r ≤ 255 ∧ g ≤ 255 ∧ b ≤ 255) :
    sgrRun pen ([l.code] :: [2] :: [r] :: [g] :: [b] :: rest) = sgrRun (l.set (.rgb r g b) pen) rest := by
  rw [run_ext_rgb _ (classify_code l), if_pos h]

theorem classify_colon (sub : List Nat) (h : sub ≠ []) : classify (l.code :: sub) = classifyColon l sub := by
  cases sub with
  | nil => exact absurd rfl h
  | cons a t => cases l <;> simp [classify, Layer.code]

theorem ext_colon_idx {n : Nat} (h : n ≤ 255) :
    sgrRun pen ([l.code, 5, n] :: rest) = sgrRun (l.set (.idx n) pen) rest :=
  run_set pen rest (by rw [classify_colon l _ (by simp)]; simp [classifyColon, h])

theorem ext_colon_rgb {r g b : Nat} (h : r ≤ 255 ∧ g ≤ 255 ∧ b ≤ 255) :
    sgrRun pen ([l.code, 2, r, g, b] :: rest) = sgrRun (l.set (.rgb r g b) pen) rest :=
  run_set pen rest (by rw [classify_colon l _ (by simp)]; simp [classifyColon, h])

theorem ext_colon_idx_range {n : Nat} (h : 255 < n) : sgrRun pen ([l.code, 5, n] :: rest) = (pen, 0) :=
  run_stop pen rest (by rw [classify_colon l _ (by simp)]; simp [classifyColon, Nat.not_le.mpr h])

theorem ext_colon_rgb_range {r g b : Nat} (h : ¬ (r ≤ 255 ∧ g ≤ 255 ∧ b ≤ 255)) :
    sgrRun pen ([l.code, 2, r, g, b] :: rest) = (pen, 0) :=
  run_stop pen rest (by rw [classify_colon l _ (by simp)]; simp only [classifyColon, h, ↓reduceIte])

/-- e.g. `38:5`, `38:2:r:g`, `38:7:…`, and the ITU form `38:2::r:g:b`, which vte delivers as `[38,2,0,r,g,b]` -/
theorem ext_colon_other (sub : List Nat) (hne : sub ≠ [])
    (h5 : ∀ n, sub ≠ [5, n]) (h2 : ∀ r g b, sub ≠ [2, r, g, b]) :
    sgrRun pen ((l.code :: sub) :: rest) = report (sgrRun pen rest) :=
  run_unknown pen rest (by
    rw [classify_colon l _ hne]
    exact classifyColon_unknown l h5 h2)

theorem ext_semicolon_idx_range {n : Nat} (h : 255 < n) :
    sgrRun pen ([l.code] :: [5] :: [n] :: rest) = (pen, 0) := by
  rw [run_ext_idx _ (classify_code l), if_neg (Nat.not_le.mpr h)]

theorem ext_semicolon_rgb_range {r g b : Nat} (h : ¬ (r ≤ 255 ∧ g ≤ 255 ∧ b ≤ 255)) :
    sgrRun pen ([l.code] :: [2] :: [r] :: [g] :: [b] :: rest) = (pen, 0) := by
  rw [run_ext_rgb _ (classify_code l), if_neg h]

theorem ext_semicolon_selector {sel : List Nat} (h2 : sel ≠ [2]) (h5 : sel ≠ [5]) :
    sgrRun pen ([l.code] :: sel :: rest) = (pen, 1) :=
  run_ext_bad_selector _ (classify_code l) _ _ h2 h5

theorem ext_truncated :
    sgrRun pen [[l.code]] = (pen, 0) ∧ sgrRun pen [[l.code], [5]] = (pen, 0) ∧
    sgrRun pen [[l.code], [2]] = (pen, 0) ∧ (∀ r, sgrRun pen [[l.code], [2], [r]] = (pen, 0)) ∧
    (∀ r g, sgrRun pen [[l.code], [2], [r], [g]] = (pen, 0)) := by
  have hc := classify_code l
  refine ⟨run_ext_nil _ hc, run_ext_idx_trunc _ hc _ (by simp), run_ext_rgb_trunc _ hc _ (by simp),
    fun r => run_ext_rgb_trunc _ hc _ (by simp), fun r g => run_ext_rgb_trunc _ hc _ (by simp)⟩

/-- "unknown parameters are skipped without affecting later ones", for a single number -/
theorem unknown_skipped {n : Nat} (h : ¬ knownSingle n) :
    sgrRun pen ([n] :: rest) = report (sgrRun pen rest) :=
  run_unknown pen rest (g := [n]) (classifySingle_unknown h)

theorem unknown_group_skipped {a : Nat} {sub : List Nat} (hs : sub ≠ []) (h38 : a ≠ 38) (h48 : a ≠ 48) :
    sgrRun pen ((a :: sub) :: rest) = report (sgrRun pen rest) :=
  run_unknown pen rest (by
    cases sub with
    | nil => exact absurd rfl hs
    | cons b t => simp [classify, h38, h48])

/-- **well-formed prefix**: if `xs` consists of complete parameters only (meaningful ones, unknown ones, well-formed
extended colours), then processing `xs ++ ys` is processing `xs`, then `ys` from the pen `xs` left; the reports add up -/
theorem sgr_append_wellformed {xs ys : List (List Nat)} (hx : xs ≠ []) (hy : ys ≠ [])
    (hc : ending xs = .complete) :
    sgrSpec pen (xs ++ ys) = andThen (sgrSpec pen xs) (fun p => sgrSpec p ys) := by
  have hxy : xs ++ ys ≠ [] := by simp [hx]
  simp only [sgrSpec, hx, hy, hxy, ↓reduceIte]
  exact run_append_complete xs pen ys hc

/-- **malformed extended colour**: what follows it has no influence whatever -/
theorem sgr_stops {xs : List (List Nat)} (ys : List (List Nat)) (hm : ending xs = .malformed) :
    sgrSpec pen (xs ++ ys) = sgrSpec pen xs := by
  have hx : xs ≠ [] := by rintro rfl; exact absurd hm (by decide)
  have hxy : xs ++ ys ≠ [] := by simp [hx]
  simp only [sgrSpec, hx, hxy, ↓reduceIte]
  exact run_stops xs pen ys hm

theorem sgr_stops_after {xs m : List (List Nat)} (ys : List (List Nat))
    (hc : ending xs = .complete) (hm : ending m = .malformed) :
    sgrRun pen (xs ++ m ++ ys) = sgrRun pen (xs ++ m) := by
  rw [List.append_assoc, run_append_complete xs pen _ hc, run_append_complete xs pen _ hc]
  simp only [andThen, run_stops m _ ys hm]

end corollaries

/-- **bytes**: `ESC [ p1;…;pk m` (decimal parameters ≤ 65535, k ≤ 32 — vte's `u16` and `MAX_PARAMS` —, `;`-separated;
k = 0 is `ESC [ m`, which vte delivers as the single group `[0]`) on a parser ready for a new sequence: nothing but the
pen changes, the pen and the number of unhandled-CSI events are the specification's, and the parser is ready again. -/
theorem process_sgr_bytes (W : Nat → Option Nat) (cb : CbPolicy) (p : Parser) (ps : List Nat)
    (hq : ∀ q ∈ ps, q ≤ 65535) (hl : ps.length ≤ 32) (hr : C09.Ready p)
    (hcb : ∀ s, cb (sgrEvent (Tok.groups ps)) s = .ok s) :
    ∃ p', p.process W cb ([0x1B, 0x5B] ++ Tok.paramBytes ps ++ [109]) = .ok p' ∧
      p'.ws = finish (sgrEvent (Tok.groups ps)) p.ws (sgrSpec p.ws.screen.attrs (Tok.groups ps)) ∧
      C09.Ready p' :=
  Tok.process_tok1 (Tok.tok_csi ps 109 hq hl (by omega)) p hr _ (perform_sgr W cb p.ws _ false hcb)

/-- `CSI 38;5;300;1 m`: the index does not fit a `u8`, `Screen::sgr` returns: bold is NOT set, nothing is
reported, whatever the `unhandled` closure is -/
example (unh : WS → M WS) (ws : WS) : sgr unh [[38], [5], [300], [1]] ws = .ok ws := by
  rw [C09.sgr_nonempty, sgrLoop_cons]; rfl

/-- `CSI 38;7;1 m`: the closure is called ONCE (one unhandled-CSI event), then `Screen::sgr` returns:
bold is NOT set -/
example (unh : WS → M WS) (ws : WS) : sgr unh [[38], [7], [1]] ws = unh ws := by
  rw [C09.sgr_nonempty, sgrLoop_cons]; rfl

/-- for contrast, an unknown plain parameter does not stop anything: `CSI 5;1 m` reports once and sets bold -/
example (unh : WS → M WS) (ws : WS) :
    sgr unh [[5], [1]] ws = (unh ws >>= fun w => pure (w.modAttrs fun a => { a with intensity := .bold })) := by
  simp only [C09.sgr_nonempty, C09.sgr_unknown_skip _ _ _ 5 (by decide) (by decide) rfl, C09.sgr_bold, sgrLoop_nil]

example : sgrSpec {} [[38], [5], [300], [1]] = ({}, 0) := by decide +kernel
example : sgrSpec {} [[38], [7], [1]] = ({}, 1) := by decide +kernel
example : sgrSpec {} [[5], [1]] = ({ intensity := .bold }, 1) := by decide +kernel
example : sgrSpec {} [[38], [5], [200], [1]] = ({ fg := .idx 200, intensity := .bold }, 0) := by decide +kernel
example : ending [[38], [5], [300]] = .malformed ∧ ending [[38], [7]] = .malformed ∧
    ending [[38], [2], [1], [2]] = .truncated ∧ ending [[38], [2], [1], [2, 3]] = .malformed ∧
    ending [[1], [38], [5], [3], [38, 2, 1, 2, 3], [38, 2, 0, 1, 2, 3], [5]] = .complete := by decide +kernel

/-- the whole machine (bytes → vte → perform), 2x2 parser, `impl Callbacks for ()`: pen and events after the bytes -/
def runBytes (bs : List Nat) : Option (Attrs × List Event) :=
  match Parser.new 2 2 0 >>= fun p => p.process (fun _ => some 1) cbNone bs with
  | .ok p => some (p.ws.screen.attrs, p.ws.events)
  | .error _ => none

-- ESC [ 3 8 ; 5 ; 3 0 0 ; 1 m
example : runBytes [0x1B, 0x5B, 0x33, 0x38, 0x3B, 0x35, 0x3B, 0x33, 0x30, 0x30, 0x3B, 0x31, 0x6D] =
    some ({}, []) := by decide +kernel
-- ESC [ 3 8 ; 7 ; 1 m
example : runBytes [0x1B, 0x5B, 0x33, 0x38, 0x3B, 0x37, 0x3B, 0x31, 0x6D] =
    some ({}, [.unhandledCsi none none [[38], [7], [1]] 109]) := by decide +kernel
-- ESC [ 3 8 : 5 ; 1 m   (`38:5` is an unknown group: reported, bold still set)
example : runBytes [0x1B, 0x5B, 0x33, 0x38, 0x3A, 0x35, 0x3B, 0x31, 0x6D] =
    some ({ intensity := .bold }, [.unhandledCsi none none [[38, 5], [1]] 109]) := by decide +kernel

end Vt.C09spec
