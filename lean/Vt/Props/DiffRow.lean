/-
  Vt.Props.DiffRow — the simulation of the cell loop of the row emitters: `Row::write_contents_diff` of a current line `S`
  against a previous line `P`, and `Row::write_contents_formatted` of `S`, which runs the same loop body against blank default
  cells (`Row.fmtStep` is `Row.diffStep` against `Cell.new`, by `rfl`).  The receiver's line shows `P`; processing the emitted
  bytes makes it show `S`, cell for cell.

  What is typed and erased lands on arbitrary cells (wide characters under and next to the cursor included), so the receiver
  side uses the closed forms `C05.printedRow` (typing, via `type_cell_links`) and `C07.erasedRow` (ECH / EL): `emitted_ech`,
  `emitted_el`, `type_at`.  These ask of the receiving line only that it is `LineWf` and keep it so; the simulation carries that
  beside the cells, so nothing is asked of the receiver beyond `Ready`, `Canvas` and `LineWf` of the one line at its start (a
  parser satisfying the invariant has it, `lineWf_of_parserInv`; so has a blank line, `RowDraw.lineWf_of_blank`).

  The line invariant (`DiffAt`) is `C15wrap.Mid'` (the cells; Props/DiffCells) together with a predicate `Q` on the line's wrap
  flag that the writes preserve (`KeepsFlag`): ECH, EL and typing inside the line never set the flag, so "the flag is off" and "no
  claim" are instances (`KeepsFlag.of_clear`); they may clear it, so "the flag is on" needs an argument of its own (`C02.FlagSpec`).
  Between two cells an erase run may be pending (`Between`); `CellLoop` is the invariant of the loop, kept by `diffStep_inv`
  (= `flush_inv`, then `emit_inv`).  It is stated for a loop over any columns `[j, j + n)` of the line (`fold_win`); for a
  window that starts at column `s` it runs on the current line masked with the previous line on `[0, s)` (`window_loop`).
  `finish_win` ends a window wherever its right edge is (the full line included) for a `Q` that clearing the flag preserves;
  `finish_line` ends a whole line for any `Q` the writes keep.

  What the emitters keep whatever a receiver makes of their bytes — the output consists of bytes, the column stays on the line,
  the pen stays well formed — is not part of the simulation: `row_formatted_keeps`, `row_diff_keeps` (instances of `Fmt.All`).
-/
import Vt.Props.DiffCells
import Vt.Props.Bytes
namespace Vt.DiffRow
open Vt Vt.Recv Vt.C19 Vt.C09 Vt.RowDraw Vt.C03 Vt.Bytes Vt.C15wrap
open Vt.Fmt (start)

variable {W : Nat → Option Nat} {cb : CbPolicy}

theorem parserInv_of_emitted (hW32 : W 32 = some 1) (hcb : C13.CbInv W cb) {p0 p1 : Parser} (hp : C13.ParserInv W p0)
    {out : List Nat} (hb : Bytes out) (e : p0.process W cb out = .ok p1) : C13.ParserInv W p1 := by
  obtain ⟨p', e', hinv⟩ := C13.process_total hW32 hcb p0 hp out hb
  cases e.symm.trans e'
  exact hinv

theorem emitted_inv (hW32 : W 32 = some 1) (hcb : C13.CbInv W cb) {p0 : Parser} (hp : C13.ParserInv W p0) {out : List Nat}
    {R : RS} (hb : Bytes out) (h : Emitted W cb p0 out R) :
    GridInv W R.g true ∧ R.g.rows.length = R.g.size.rows := by
  obtain ⟨p', e, w, _⟩ := h
  have hc := (parserInv_of_emitted hW32 hcb hp hb e).screen.cur
  rw [w] at hc
  have : (withRS p0.ws R).screen.cur = R.g := by
    simp only [withRS]
    exact setCur_cur _ _
  rw [this] at hc
  exact hc

/-- of the whole-machine invariant the line simulations use this one consequence, at the start of the line -/
theorem lineWf_of_parserInv {p0 : Parser} (hp : C13.ParserInv W p0) {i : Nat} {Ri0 : Row}
    (hrow : (rsOf p0.ws).g.rows[i]? = some Ri0) : LineWf Ri0 :=
  lineWf_of_inv ((rowOk_iff W Ri0).mp (hp.screen.cur.1.row_ok Ri0 (List.mem_of_getElem? hrow)).2).2

/-- what the row emitters keep by themselves (no receiver): the output consists of bytes; the pen stays well formed if the pen
they start with is (`P`); the column stays on the line, its pending-wrap column included, if it starts there (`Q`) -/
theorem kept_line (i n : Nat) (P Q : Prop) :
    Fmt.Kept i (fun a => P → Attrs.wf a) (fun p => Q → p.col ≤ n) (fun pc a => Attrs.wf a ∧ pc ≤ n) Bytes :=
  ⟨Bytes.append, fun h => ⟨fun _ => h.1, fun _ => h.2⟩⟩

theorem rowOk_line {r : Row} (hS : SrcOk W r.cells) (i : Nat) (P Q : Prop) :
    Fmt.RowOk i (fun a => P → Attrs.wf a) (fun p => Q → p.col ≤ r.cells.length)
      (fun pc a => Attrs.wf a ∧ pc ≤ r.cells.length) r :=
  fun j hj => ⟨fun _ => hS.wf j hj, fun _ => cell_fits hS j hj, hS.wf j hj, Nat.le_of_lt hj⟩

theorem row_formatted_keeps {r : Row} (hS : SrcOk W r.cells) (start width i : Nat) (w : Bool) (pp : Pos) (pa : Attrs) :
    C12.MPred (fun res => Bytes res.1 ∧ (pp.col ≤ r.cells.length → res.2.1.col ≤ r.cells.length) ∧
      (Attrs.wf pa → Attrs.wf res.2.2)) (r.writeContentsFormatted start width i w (some pp) (some pa)) :=
  Fmt.wcf_all (kept_line ..) Bytes.nil (fun _ => wf_default) (fun _ => Nat.zero_le _) (rowOk_line hS _ _ _) start width w
    (pp := some pp) (pa := some pa) (fun _ h => (show pp = _ from h) ▸ id) id

theorem row_diff_keeps {r : Row} (hS : SrcOk W r.cells) (prev : Row) (start width i : Nat) (w pw : Bool) (pp : Pos)
    (pa : Attrs) :
    C12.MPred (fun res => Bytes res.1 ∧ (pp.col ≤ r.cells.length → res.2.1.col ≤ r.cells.length) ∧
      (Attrs.wf pa → Attrs.wf res.2.2)) (r.writeContentsDiff prev start width i w pw pp pa) :=
  Fmt.wcd_all (kept_line ..) Bytes.nil (fun _ => Nat.zero_le _) (rowOk_line hS _ _ _) prev start width w pw id id

theorem shape_erase (K : Ctx W cb) {Ri : Row} (hl : Ri.cells.length = K.r0.g.size.cols) (hwf : Links Ri.cells)
    (e hi : Nat) (he : e ≤ hi) (hh : hi ≤ K.r0.g.size.cols) (a : Attrs) :
    (shape K.r0 K.i Ri ⟨K.i, e⟩ a).g.modifyCurrentRow (fun row => forRange e hi (fun col r => r.erase col a) row) =
      .ok (shape K.r0 K.i (C07.erasedRow Ri.cells Ri.wrapped e hi a) ⟨K.i, e⟩ a).g := by
  rw [C07.erase_line_links (shape_row K.canvas K.hi Ri ⟨K.i, e⟩ a) hwf e hi he (by rw [hl]; exact hh) a]
  simp [C07.erasedGrid, shape, List.set_set]

theorem emitted_ech (K : Ctx W cb) {out : List Nat} {Ri : Row} {e : Nat} {a : Attrs}
    (hem : Emitted W cb K.p0 out (shape K.r0 K.i Ri ⟨K.i, e⟩ a)) (hwf : LineWf Ri)
    (hl : Ri.cells.length = K.src.length) (n : Nat) (hn : n ≠ 0) (hen : e + n ≤ K.src.length) :
    Emitted W cb K.p0 (out ++ Term.eraseChar n)
        (shape K.r0 K.i (C07.erasedRow Ri.cells Ri.wrapped e (e + n) a) ⟨K.i, e⟩ a) ∧
      LineWf (C07.erasedRow Ri.cells Ri.wrapped e (e + n) a) := by
  have hu := K.canvas.cols_u16
  have hs := K.hsrc
  have e1 := shape_erase K (hl.trans hs) hwf.links e (e + n) (by omega) (by omega) a
  refine ⟨emitted_step W cb K.ready hem (step_eraseChar W cb n (by omega)) ?_, erasedRow_wf hwf _ _ (by omega) (by omega) a⟩
  have hmin : min (satAddU16 e n) K.r0.g.size.cols = e + n := by simp only [satAddU16, U16_MAX]; omega
  have hpen : (shape K.r0 K.i Ri ⟨K.i, e⟩ a).pen = a := rfl
  have hpos : (shape K.r0 K.i Ri ⟨K.i, e⟩ a).g.pos = ⟨K.i, e⟩ := rfl
  have hsz : (shape K.r0 K.i Ri ⟨K.i, e⟩ a).g.size = K.r0.g.size := rfl
  simp only [hn, ↓reduceIte, hpen, Grid.eraseCells, hpos, hsz, hmin]
  rw [e1]; rfl

theorem emitted_el (K : Ctx W cb) {out : List Nat} {Ri : Row} {e : Nat} {a : Attrs}
    (hem : Emitted W cb K.p0 out (shape K.r0 K.i Ri ⟨K.i, e⟩ a)) (hwf : LineWf Ri)
    (hl : Ri.cells.length = K.src.length) (he : e ≤ K.src.length) :
    Emitted W cb K.p0 (out ++ Term.clearRowForward)
        (shape K.r0 K.i (C07.erasedRow Ri.cells Ri.wrapped e K.src.length a) ⟨K.i, e⟩ a) ∧
      LineWf (C07.erasedRow Ri.cells Ri.wrapped e K.src.length a) := by
  have hs := K.hsrc
  have e1 := shape_erase K (hl.trans hs) hwf.links e K.src.length he (by omega) a
  refine ⟨emitted_step W cb K.ready hem (step_clearRowForward W cb) ?_, erasedRow_wf hwf _ _ he (by omega) a⟩
  have hpen : (shape K.r0 K.i Ri ⟨K.i, e⟩ a).pen = a := rfl
  have hpos : (shape K.r0 K.i Ri ⟨K.i, e⟩ a).g.pos = ⟨K.i, e⟩ := rfl
  have hsz : (shape K.r0 K.i Ri ⟨K.i, e⟩ a).g.size = K.r0.g.size := rfl
  simp only [hpen, Grid.eraseRowForward, hpos, hsz, ← K.hsrc]
  rw [e1]; rfl

theorem shape_type (K : Ctx W cb) (hW32 : W 32 = some 1) {R : Row} (hwf : LineWf R) (hl : R.cells.length = K.r0.g.size.cols)
    (c : Nat) (pen : Attrs) (f : Nat) (zs : List Nat) (hfirst : ¬ (W f = none ∧ f < 256)) (hwidth : 1 ≤ (W f).getD 1)
    (hzero : ∀ z ∈ zs, W z = some 0) (hpre : prefixOk (Utf8.encode f).length zs)
    (hfit : c + C05.effWidth W f ≤ K.r0.g.size.cols) :
    ∃ cellF, typeChars W pen (f :: zs) (shape K.r0 K.i R ⟨K.i, c⟩ pen).g =
        .ok (shape K.r0 K.i (typedRow W R c K.r0.g.size.cols pen f cellF) ⟨K.i, c + C05.effWidth W f⟩ pen).g ∧
      view cellF = typedView W pen f zs ∧ LineWf (typedRow W R c K.r0.g.size.cols pen f cellF) := by
  obtain ⟨cellF, et, hvF, h22F⟩ := type_cell_links (g := (shape K.r0 K.i R ⟨K.i, c⟩ pen).g)
    (shape_row K.canvas K.hi R ⟨K.i, c⟩ pen) hwf hl K.canvas.cols_u16 hW32 pen f zs hfirst hwidth hzero hfit hpre
  have hfl : cellF.wide = decide ((W f).getD 1 > 1) ∧ cellF.cont = false := by
    simp only [view, typedView, View.mk.injEq] at hvF
    exact ⟨hvF.2.1, hvF.2.2.1⟩
  refine ⟨cellF, ?_, hvF, typedRow_wf hwf pen f cellF hW32 (by unfold C05.effWidth; omega) (by rw [hl]; exact hfit)
    hfl.1 hfl.2 h22F⟩
  rw [et]
  simp [typedGrid, shape, List.set_set]

/-- typing the cell `K.src[c]` (pen change included) at column `c` of whatever line the receiver holds there -/
theorem type_at (K : Ctx W cb) (hW : WOk W) (hS : SrcOk W K.src)
    {c : Nat} (hc : c < K.src.length) (hh : K.src[c].hasContents = true)
    {out : List Nat} {R : Row} {pen : Attrs} (hem : Emitted W cb K.p0 out (shape K.r0 K.i R ⟨K.i, c⟩ pen))
    (hwf : LineWf R) (hl : R.cells.length = K.src.length) :
    ∃ f cellF, Emitted W cb K.p0
        ((out ++ (if (pen != K.src[c].attrs) = true then K.src[c].attrs.writeEscapeCodeDiff pen else [])) ++
          K.src[c].contents.take K.src[c].len)
        (shape K.r0 K.i (typedRow W R c K.r0.g.size.cols K.src[c].attrs f cellF)
          ⟨K.i, c + (if K.src[c].wide = true then 2 else 1)⟩ K.src[c].attrs) ∧
      view cellF = view K.src[c] ∧ C05.effWidth W f = (if K.src[c].wide = true then 2 else 1) ∧
      LineWf (typedRow W R c K.r0.g.size.cols K.src[c].attrs f cellF) := by
  obtain ⟨f, zs, ht⟩ := textCell_of hW (hS.cells_ok _ (List.getElem_mem hc)) (hS.emit_ok c hc) hh
  have hstep := step_text W cb (K.src[c].contents.take K.src[c].len) ht.valid
    (by rw [ht.chars]; exact ht.plain) ht.noesc
  rw [ht.chars] at hstep
  obtain ⟨cellF, et, hvF, hwf'⟩ := shape_type K hW.space hwf (hl.trans K.hsrc) c K.src[c].attrs f zs ht.first ht.width ht.zero ht.pre
    (by rw [← K.hsrc]; exact ht.fits)
  have hwe : C05.effWidth W f = (if K.src[c].wide = true then 2 else 1) := ht.eff
  have h3 := emitted_step W cb K.ready (K.emitted_pen hem (hS.wf c hc)) hstep
    (r' := shape K.r0 K.i (typedRow W R c K.r0.g.size.cols K.src[c].attrs f cellF) ⟨K.i, c + C05.effWidth W f⟩ K.src[c].attrs) (by
      have : (shape K.r0 K.i R ⟨K.i, c⟩ K.src[c].attrs).pen = K.src[c].attrs := rfl
      rw [this, et]; rfl)
  rw [hwe] at h3
  exact ⟨f, cellF, h3, by rw [hvF, ht.view], hwe, hwf'⟩

theorem space_facts (hW32 : W 32 = some 1) : ¬ (W 32 = none ∧ 32 < 256) ∧ 1 ≤ (W 32).getD 1 ∧ C05.effWidth W 32 = 1 ∧
    ∀ {pen : Attrs} {cellF : Cell}, view cellF = typedView W pen 32 [] → cellF.wide = false ∧ cellF.cont = false := by
  refine ⟨by rw [hW32]; simp, by rw [hW32]; simp, by simp [C05.effWidth, hW32], fun hv => ?_⟩
  simp only [view, typedView, hW32, View.mk.injEq] at hv
  exact ⟨by simpa using hv.2.1, hv.2.2.1⟩

theorem emitted_space (K : Ctx W cb) (hW32 : W 32 = some 1) {out : List Nat} {R : Row} {c : Nat} {pen : Attrs}
    (hem : Emitted W cb K.p0 out (shape K.r0 K.i R ⟨K.i, c⟩ pen)) (hwf : LineWf R) (hl : R.cells.length = K.src.length)
    (hc : c < K.src.length) :
    ∃ cellF, Emitted W cb K.p0 (out ++ [32]) (shape K.r0 K.i (typedRow W R c K.r0.g.size.cols pen 32 cellF) ⟨K.i, c + 1⟩ pen) ∧
      cellF.cont = false ∧ LineWf (typedRow W R c K.r0.g.size.cols pen 32 cellF) := by
  obtain ⟨hfirst, hwidth, hew, hplain⟩ := space_facts hW32
  obtain ⟨cellF, et, hvF, hwf'⟩ := shape_type K hW32 hwf (hl.trans K.hsrc) c pen 32 [] hfirst hwidth (fun z hz => by cases hz)
    trivial (by rw [hew, ← K.hsrc]; exact hc)
  rw [hew] at et
  exact ⟨cellF, emitted_step W cb K.ready hem (step_space W cb) (by show typeChars W pen [32] _ >>= _ = _; rw [et]; rfl),
    (hplain hvF).2, hwf'⟩

/-- the previous line of a diff of a source line of `n` cells: the same for a context and for the one that differs from it
in the receiver only (`Ctx.wrapped`).  With `D : DCtx W K.src.length` in a goal, `rw` cannot rewrite `K.src` or its length
there (`simp only` can). -/
structure DCtx (W : Nat → Option Nat) (n : Nat) where
  prv : List Cell
  hprv : prv.length = n
  hP : SrcOk W prv

/-- a redraw is a diff against a line of blank default cells -/
def DCtx.blank (K : Ctx W cb) : DCtx W K.src.length := ⟨List.replicate K.src.length Cell.new, List.length_replicate, srcOk_blank _⟩

theorem DCtx.blank_get (K : Ctx W cb) (k : Nat) (hk : k < K.src.length) :
    (DCtx.blank K).prv[k]'(by rw [(DCtx.blank K).hprv]; exact hk) = Cell.new := List.getElem_replicate ..

/-- the bytes emitted so far have been processed; the receiver's line `i` is `x` columns into the diff against `prv`, its
wrap flag satisfies `Q`, and it is still a line the closed forms of the receiver's writes apply to -/
def DiffAt (K : Ctx W cb) (prv : List Cell) (Q : Bool → Prop) (x : Nat) (st : Row.FmtSt) : Prop :=
  ∃ Ri, Emitted W cb K.p0 st.out (shape K.r0 K.i Ri st.prevPos st.prevAttrs) ∧ Mid' K.src prv x Ri ∧ Q Ri.wrapped ∧
    LineWf Ri

theorem eraseMove_false (n i : Nat) (st : Row.FmtSt) (e : Nat) (a : Attrs) :
    Row.eraseMove n i false st e a =
      { st with prevPos := ⟨i, e⟩, prevAttrs := a,
                out := (st.out ++ Term.moveFromTo st.prevPos ⟨i, e⟩) ++
                  if (st.prevAttrs != a) = true then a.writeEscapeCodeDiff st.prevAttrs else [] } :=
  Fmt.eraseMove_eq n i false st e a

/-- the simulation invariant between cells (not in the middle of a wide character) -/
structure Between (K : Ctx W cb) (D : DCtx W K.src.length) (Q : Bool → Prop) (j : Nat) (st : Row.FmtSt) : Prop where
  drawn : DiffAt K D.prv Q (esK j st) st
  /-- a pending run holds at least one cell (`e < j`): its flush is an ECH of `j - e` columns, which must be positive -/
  er : ∀ e a, st.erase = some (e, a) → e < j ∧ e < K.src.length ∧ Attrs.wf a ∧
    ∀ k (hk : k < K.src.length), e ≤ k → k < j → view K.src[k] = blankA a

theorem Between.of_none {K : Ctx W cb} {D : DCtx W K.src.length} {Q : Bool → Prop} {j : Nat} {st : Row.FmtSt} (h : Between K D Q j st)
    (hn : st.erase = none) : DiffAt K D.prv Q j st := by
  simpa only [esK, hn] using h.drawn

theorem Between.of_drawn {K : Ctx W cb} {D : DCtx W K.src.length} {Q : Bool → Prop} {j : Nat} {st : Row.FmtSt} (hn : st.erase = none)
    (hd : DiffAt K D.prv Q j st) : Between K D Q j st :=
  ⟨by simpa only [esK, hn] using hd, fun e a h => by rw [hn] at h; cases h⟩

theorem Between.of_some {K : Ctx W cb} {D : DCtx W K.src.length} {Q : Bool → Prop} {j : Nat} {st : Row.FmtSt} (h : Between K D Q j st)
    {e : Nat} {a : Attrs} (he : st.erase = some (e, a)) : DiffAt K D.prv Q e st := by
  simpa only [esK, he] using h.drawn

/-- the emitter's cursor move and pen change before the pending erase run `(e, a)` is flushed: the receiver is at
column `e` of a line `e` columns into the diff, with pen `a` -/
theorem Between.eraseMove {K : Ctx W cb} {D : DCtx W K.src.length} {Q : Bool → Prop} {j : Nat} {st : Row.FmtSt} (h : Between K D Q j st)
    {e : Nat} {a : Attrs} (he : st.erase = some (e, a)) :
    e < j ∧ e < K.src.length ∧ (∀ k (hk : k < K.src.length), e ≤ k → k < j → view K.src[k] = blankA a) ∧
      ∃ Ri, Emitted W cb K.p0 (Row.eraseMove K.src.length K.i false st e a).out (shape K.r0 K.i Ri ⟨K.i, e⟩ a) ∧
        Mid' K.src D.prv e Ri ∧ Q Ri.wrapped ∧ LineWf Ri ∧
        (Row.eraseMove K.src.length K.i false st e a).prevPos = ⟨K.i, e⟩ ∧
        (Row.eraseMove K.src.length K.i false st e a).prevAttrs = a ∧
        (Row.eraseMove K.src.length K.i false st e a).prevWasWide = st.prevWasWide := by
  obtain ⟨hej, hel, hwf, hvs⟩ := h.er e a he
  obtain ⟨Ri, hem, hmid, hq, hl⟩ := h.of_some he
  rw [eraseMove_false]
  exact ⟨hej, hel, hvs, Ri, K.emitted_pen (K.emitted_move hem hmid.len hel) hwf, hmid, hq, hl, rfl, rfl, rfl⟩

/-- the first half of the per-cell body: a pending erase run is flushed exactly when cell `j` ends it -/
theorem flush_inv (K : Ctx W cb) (D : DCtx W K.src.length) {Q : Bool → Prop} (hK : KeepsFlag W K.src D.prv Q)
    (hS : SrcOk W K.src) {j : Nat} (hj : j < K.src.length) {st : Row.FmtSt} (h : Between K D Q j st) :
    ∃ st2, C03.flush K.src.length K.i false st j K.src[j] = .ok st2 ∧ Between K D Q j st2 ∧
      st2.prevWasWide = st.prevWasWide ∧
      (st2.erase = none ∨ ∃ e a, st2.erase = some (e, a) ∧ K.src[j].hasContents = false ∧ K.src[j].attrs = a) := by
  unfold C03.flush
  cases he : st.erase with
  | none => exact ⟨st, rfl, h, rfl, Or.inl he⟩
  | some pa =>
    obtain ⟨e, a⟩ := pa
    simp only
    by_cases hcond : (K.src[j].hasContents || K.src[j].attrs != a) = true
    · obtain ⟨hej, hel, hvs, Ri, hem, hmid, hq, hb, hp', ha', hw'⟩ := h.eraseMove he
      simp only [hcond, ↓reduceIte, subM_ok (Nat.le_of_lt hej), ok_bind]
      refine ⟨_, rfl, ⟨?_, ?_⟩, hw', Or.inl rfl⟩
      · show DiffAt K D.prv Q j _
        have := emitted_ech K hem hb hmid.len (j - e) (by omega) (by omega)
        rw [show e + (j - e) = j by omega] at this
        refine ⟨_, ?_, hmid.erase hS hej (Nat.le_of_lt hj) a hvs, hK.erase hmid hq hej (Nat.le_of_lt hj) a hvs, this.2⟩
        simp only [hp', ha']; exact this.1
      · intro e' a' h'; simp at h'
    · simp only [hcond, Bool.false_eq_true, ↓reduceIte]
      simp only [Bool.or_eq_true, bne_iff_ne, ne_eq, not_or, Bool.not_eq_true, Decidable.not_not] at hcond
      exact ⟨st, rfl, h, rfl, Or.inr ⟨e, a, he, hcond.1, hcond.2⟩⟩

theorem draw_text (K : Ctx W cb) (prv : List Cell) {Q : Bool → Prop} (hK : KeepsFlag W K.src prv Q) (hPw : WideNext prv)
    (hW : WOk W) (hS : SrcOk W K.src) {j : Nat}
    (hj : j < K.src.length) {st : Row.FmtSt} (hd : DiffAt K prv Q j st) (hh : K.src[j].hasContents = true)
    (hnc : K.src[j].cont = false) :
    C03.emitCell K.src.length K.i false st j K.src[j] true = .ok (afterText K.i j st K.src[j]) ∧
      DiffAt K prv Q (j + (if K.src[j].wide then 2 else 1)) (afterText K.i j st K.src[j]) := by
  have hok := hS.cells_ok _ (List.getElem_mem hj)
  refine ⟨emit_text_eq K.src.length K.i j st K.src[j] hh (cellFine_of_ok hok) false (fun h => by simp at h), ?_⟩
  obtain ⟨Ri, hem, hmid, hq, hwf⟩ := hd
  have h1 : Emitted W cb K.p0 (if (({ row := K.i, col := j } : Pos) != st.prevPos) = true then
        st.out ++ Term.moveFromTo st.prevPos ⟨K.i, j⟩ else st.out) (shape K.r0 K.i Ri ⟨K.i, j⟩ st.prevAttrs) := by
    by_cases hne : (({ row := K.i, col := j } : Pos) != st.prevPos) = true
    · rw [if_pos hne]
      exact K.emitted_move hem hmid.len hj
    · rw [if_neg hne]
      have : st.prevPos = ⟨K.i, j⟩ := by
        have := hne; simp only [bne_iff_ne, ne_eq, Decidable.not_not] at this; exact this.symm
      rw [← this]; exact hem
  obtain ⟨f, cellF, h3, hvF, hwe, hwf'⟩ := type_at K hW hS hj hh h1 hwf hmid.len
  exact ⟨_, h3, hmid.typeCell hW.space hS hPw hwf.links hj hnc _ _ f hwe cellF hvF,
    hK.typed hmid hq hj hnc _ K.hsrc.symm _ f cellF hwe, hwf'⟩

theorem Between.extend {K : Ctx W cb} {D : DCtx W K.src.length} {Q : Bool → Prop} {j : Nat} {st : Row.FmtSt} (h : Between K D Q j st)
    (hS : SrcOk W K.src) (hj : j < K.src.length) {e : Nat} {a : Attrs} (hea : st.erase = some (e, a))
    (hnc : K.src[j].cont = false) (hh : K.src[j].hasContents = false) (haa : K.src[j].attrs = a) :
    Between K D Q (j + 1) st := by
  obtain ⟨h1, h2, h3, h4⟩ := h.er e a hea
  refine ⟨by have := h.drawn; simp only [esK, hea] at this ⊢; exact this, ?_⟩
  intro e' a' h''
  rw [hea] at h''
  simp only [Option.some.injEq, Prod.mk.injEq] at h''
  obtain ⟨rfl, rfl⟩ := h''
  refine ⟨Nat.lt_succ_of_lt h1, h2, h3, fun k hk hk1 hk2 => ?_⟩
  by_cases hkj : k = j
  · subst hkj
    exact haa ▸ blank_blankA hS k hk hh hnc
  · exact h4 k hk hk1 (by omega)

/-- cell `k` of `S` is typed by a diff against `P`: it holds text and differs, or is the second half of such a cell -/
def TypedAt (S P : List Cell) (k : Nat) : Prop :=
  ∃ (hk : k < S.length) (hkP : k < P.length), (S[k].hasContents = true ∧ view S[k] ≠ view P[k]) ∨
    (S[k].cont = true ∧ ∃ h0 : 0 < k, view (S[k - 1]'(by omega)) ≠ view (P[k - 1]'(by omega)))

theorem not_typedAt {S P : List Cell} {k : Nat} (hk : k < S.length) (hkP : k < P.length) (hc : S[k].cont = false)
    (h : S[k].hasContents = true → view S[k] = view P[k]) : ¬ TypedAt S P k := by
  rintro ⟨_, _, ⟨hh, hne⟩ | ⟨hcc, _⟩⟩
  · exact hne (h hh)
  · rw [hc] at hcc; cases hcc

/-- The invariant of the cell loop before cell `j`.  `pp`, `last`, `ww`, `w0` are the emitter's bookkeeping; the receiver is in
one of two states by the emitter's `prev_was_wide`: `A` inside a wide character, `B` between cells (`Between`). -/
structure CellLoop (K : Ctx W cb) (D : DCtx W K.src.length) (Q : Bool → Prop) (j : Nat) (st : Row.FmtSt) : Prop where
  /-- right after a typed cell the emitter's cursor is behind it and no erase run is pending -/
  pp : 0 < j → TypedAt K.src D.prv (j - 1) →
    st.erase = none ∧ st.prevPos = ⟨K.i, if st.prevWasWide then j + 1 else j⟩
  /-- a changed blank cell always leaves an erase run pending -/
  last : ∀ k (hk : k < K.src.length), k + 1 = j → st.prevWasWide = false → K.src[k].cont = false →
    K.src[k].hasContents = false → view K.src[k] ≠ view (D.prv[k]'(by rw [D.hprv]; exact hk)) → st.erase ≠ none
  /-- the emitter's `prev_was_wide` is the width flag of the cell before `j` -/
  ww : ∀ (_ : 0 < j) (hl : j ≤ K.src.length), st.prevWasWide = (K.src[j - 1]'(by omega)).wide
  w0 : j = 0 → st.prevWasWide = false
  /-- inside a wide character (cell `j` is its second half): the receiver's line is past both halves already -/
  A : st.prevWasWide = true → st.erase = none ∧ DiffAt K D.prv Q (j + 1) st
  B : st.prevWasWide = false → Between K D Q j st

/-- the invariant after cell `j`, in terms of that cell -/
theorem CellLoop.succ {K : Ctx W cb} {D : DCtx W K.src.length} {Q : Bool → Prop} {j : Nat} (hj : j < K.src.length) {st' : Row.FmtSt}
    (hw : st'.prevWasWide = K.src[j].wide)
    (hlast : K.src[j].cont = false → K.src[j].hasContents = false →
      view K.src[j] ≠ view (D.prv[j]'(by rw [D.hprv]; exact hj)) → st'.erase ≠ none)
    (hA : K.src[j].wide = true → st'.erase = none ∧ DiffAt K D.prv Q (j + 2) st')
    (hB : K.src[j].wide = false → Between K D Q (j + 1) st')
    (hpp : TypedAt K.src D.prv j →
      st'.erase = none ∧ st'.prevPos = ⟨K.i, j + (if K.src[j].wide then 2 else 1)⟩) : CellLoop K D Q (j + 1) st' := by
  refine ⟨fun _ ht => ?_, ?_, fun _ _ => hw, fun h0 => absurd h0 (Nat.succ_ne_zero j), fun h => hA (by rw [← hw]; exact h),
    fun h => hB (by rw [← hw]; exact h)⟩
  · obtain ⟨h1, h2⟩ := hpp (by rwa [Nat.add_sub_cancel] at ht)
    refine ⟨h1, ?_⟩
    rw [h2, hw]
    cases K.src[j].wide <;> rfl
  · intro k hk hkj _ hc hh hne
    have : k = j := by omega
    subst this
    exact hlast hc hh hne

/-- the second half of the per-cell body, from a state in which any finished erase run has been flushed -/
theorem emit_inv (K : Ctx W cb) (D : DCtx W K.src.length) {Q : Bool → Prop} (hK : KeepsFlag W K.src D.prv Q) (hW : WOk W) (hS : SrcOk W K.src) {j : Nat} (hj : j < K.src.length)
    (hnc : K.src[j].cont = false) {st2 : Row.FmtSt} (hI2 : Between K D Q j st2) (hw2' : st2.prevWasWide = K.src[j].wide)
    (hdisj : st2.erase = none ∨ ∃ e a, st2.erase = some (e, a) ∧ K.src[j].hasContents = false ∧ K.src[j].attrs = a) :
    ∃ st', C03.emitCell K.src.length K.i false st2 j K.src[j] (!(K.src[j].eq (D.prv[j]'(by rw [D.hprv]; exact hj)))) = .ok st' ∧
      CellLoop K D Q (j + 1) st' := by
  have hok := hS.cells_ok _ (List.getElem_mem hj)
  -- text or a wide character: no erase run is pending
  have hnone : K.src[j].hasContents = true → st2.erase = none := by
    intro hh
    rcases hdisj with h1 | ⟨_, _, _, h2, _⟩
    · exact h1
    · rw [hh] at h2; exact absurd h2 (by simp)
  by_cases hd : K.src[j].eq (D.prv[j]'(by rw [D.hprv]; exact hj)) = true
  · -- an unchanged cell: nothing is written
    have hv : view K.src[j] = view (D.prv[j]'(by rw [D.hprv]; exact hj)) := (eq_iff_view _ _).mp hd
    simp only [hd, Bool.not_true, C03.emitCell, Bool.false_eq_true, ↓reduceIte, pure_eq_ok]
    refine ⟨st2, rfl, CellLoop.succ hj hw2' (fun _ _ hne => absurd hv hne) (fun hwide => ?_) (fun _ => ?_)
      (fun ht => absurd ht (not_typedAt hj (by rw [D.hprv]; exact hj) hnc (fun _ => hv)))⟩
    · have hn := hnone (wide_has_contents hok hwide)
      obtain ⟨Ri, hem, hmid, hq, hb⟩ := hI2.of_none hn
      exact ⟨hn, Ri, hem, hmid.skip2 hS D.hP hj hv hwide, hq, hb⟩
    · rcases hdisj with hn | ⟨e, a, hea, hh', haa⟩
      · obtain ⟨Ri, hem, hmid, hq, hb⟩ := hI2.of_none hn
        exact Between.of_drawn hn ⟨Ri, hem, hmid.skip1 hj hv, hq, hb⟩
      · exact hI2.extend hS hj hea hnc hh' haa
  · have hd' : (!(K.src[j].eq (D.prv[j]'(by rw [D.hprv]; exact hj)))) = true := by simpa using hd
    rw [hd']
    by_cases hh : K.src[j].hasContents = true
    · -- text
      have hn := hnone hh
      obtain ⟨e3, hd3⟩ := draw_text K D.prv hK (wideNext_of_src D.hP) hW hS hj (hI2.of_none hn) hh hnc
      refine ⟨_, e3, CellLoop.succ hj hw2' (fun _ hnh _ => by rw [hh] at hnh; exact absurd hnh (by simp))
        (fun hwide => ⟨hn, ?_⟩) (fun hnw => Between.of_drawn hn ?_) (fun _ => ⟨hn, rfl⟩)⟩
      · rw [hwide] at hd3; exact hd3
      · rw [hnw] at hd3; exact hd3
    · -- a blank cell: an erase run starts or goes on
      have hh' : K.src[j].hasContents = false := by simpa using hh
      have hnw := blank_narrow hok hh'
      simp only [C03.emitCell, ↓reduceIte, hh', Bool.false_eq_true]
      rcases hdisj with hn | ⟨e, a, hea, _, haa⟩
      · simp only [hn, Option.isNone_none, ↓reduceIte, pure_eq_ok]
        refine ⟨_, rfl, CellLoop.succ hj hw2' (fun _ _ _ => by simp) (fun hw => by rw [hnw] at hw; exact absurd hw (by simp))
          (fun _ => ⟨hI2.of_none hn, ?_⟩)
          (fun ht => absurd ht (not_typedAt hj (by rw [D.hprv]; exact hj) hnc (fun h => by rw [hh'] at h; cases h)))⟩
        intro e' a' h'
        simp only [Option.some.injEq, Prod.mk.injEq] at h'
        obtain ⟨rfl, rfl⟩ := h'
        refine ⟨Nat.lt_succ_self _, hj, hS.wf j hj, fun k hk hk1 hk2 => ?_⟩
        obtain rfl : k = j := by omega
        exact blank_blankA hS k hk hh' hnc
      · simp only [hea, Option.isNone_some, Bool.false_eq_true, ↓reduceIte, pure_eq_ok]
        exact ⟨st2, rfl, CellLoop.succ hj hw2' (fun _ _ _ => by rw [hea]; simp)
          (fun hw => by rw [hnw] at hw; exact absurd hw (by simp)) (fun _ => hI2.extend hS hj hea hnc hh' haa)
          (fun ht => absurd ht (not_typedAt hj (by rw [D.hprv]; exact hj) hnc (fun h => by rw [hh'] at h; cases h)))⟩

theorem diffStep_inv (K : Ctx W cb) (D : DCtx W K.src.length) {Q : Bool → Prop} (hK : KeepsFlag W K.src D.prv Q) (hW : WOk W) (hS : SrcOk W K.src) {j : Nat} (hj : j < K.src.length)
    {st : Row.FmtSt} (h : CellLoop K D Q j st) :
    ∃ st', Row.diffStep K.src.length K.i false st (j, (K.src[j], D.prv[j]'(by rw [D.hprv]; exact hj))) = .ok st' ∧
      CellLoop K D Q (j + 1) st' := by
  have hok := hS.cells_ok _ (List.getElem_mem hj)
  have hcj := cont_eq_prevWide hS hj h.ww h.w0
  unfold Row.diffStep
  simp only
  by_cases hpw : st.prevWasWide = true
  · -- the second half of a wide character: skipped
    simp only [hpw, ↓reduceIte]
    obtain ⟨he, hd⟩ := h.A hpw
    have hcont : K.src[j].cont = true := hcj.trans hpw
    have hnw : K.src[j].wide = false := (cellOk_cont W _ hok hcont).1
    refine ⟨_, rfl, CellLoop.succ hj hnw.symm (fun hnc _ _ => by rw [hcont] at hnc; exact absurd hnc (by simp))
      (fun hw => by rw [hnw] at hw; exact absurd hw (by simp)) (fun _ => Between.of_drawn he (hd))
      (fun ht => ?_)⟩
    -- the second half of a typed wide character: the emitter's cursor is behind it already
    obtain ⟨_, hkP, ⟨hh, _⟩ | ⟨_, h0, hne⟩⟩ := ht
    · simp [Cell.hasContents, (cellOk_cont W _ hok hcont).2] at hh
    · have hpw1 : (K.src[j - 1]'(by omega)).wide = true := (h.ww h0 (Nat.le_of_lt hj)).symm.trans hpw
      obtain ⟨h1, h2⟩ := h.pp h0 ⟨by omega, by omega,
        Or.inl ⟨wide_has_contents (hS.cells_ok _ (List.getElem_mem (by omega))) hpw1, hne⟩⟩
      refine ⟨h1, ?_⟩
      rw [hnw]
      simpa [hpw] using h2
  · have hpw' : st.prevWasWide = false := by simpa using hpw
    simp only [hpw', Bool.false_eq_true, ↓reduceIte]
    have hnc : K.src[j].cont = false := hcj.trans hpw'
    have hB := h.B hpw'
    rw [C03.fmtCellStep_eq]
    have hB1 : Between K D Q j { st with prevWasWide := K.src[j].isWide } := ⟨hB.drawn, hB.er⟩
    obtain ⟨st2, e2, hI2, hw2, hdisj⟩ := flush_inv K D hK hS hj hB1
    rw [e2]
    simp only [ok_bind]
    have hw2' : st2.prevWasWide = K.src[j].wide := hw2
    exact emit_inv K D hK hW hS hj hnc hI2 hw2' hdisj

/-- the loop is entered at column `s` of a line that shows the previous line, `K.src` being the previous line on `[0, s)` -/
theorem CellLoop.enter (K : Ctx W cb) (D : DCtx W K.src.length) {Q : Bool → Prop} {s : Nat} (hs : s < K.src.length)
    (hpre : ∀ k (hk : k < K.src.length), k < s → K.src[k] = D.prv[k]'(by rw [D.hprv]; exact hk))
    (hsc : (D.prv[s]'(by rw [D.hprv]; exact hs)).cont = false) {Ri0 : Row} (hrow : K.r0.g.rows[K.i]? = some Ri0)
    (hr0 : K.r0 = rsOf K.p0.ws) (hshow : Ri0.cells.map view = D.prv.map view) (hq : Q Ri0.wrapped)
    (hwf : LineWf Ri0) : CellLoop K D Q s (start K.r0.g.pos K.r0.pen) := by
  obtain ⟨hl, hv⟩ := full_get hshow
  refine ⟨fun h0 ht => ?_, ?_, ?_, fun _ => rfl, fun h => by simp [start] at h, fun _ => ⟨?_, ?_⟩⟩
  · obtain ⟨hk, hkP, ⟨_, hne⟩ | ⟨_, h0', hne⟩⟩ := ht
    · exact absurd (by rw [hpre _ hk (by omega)]) hne
    · exact absurd (by rw [hpre _ (by omega) (by omega)]) hne
  · intro k hk hks _ _ _ hne'
    exact absurd (by rw [hpre k hk (by omega)]) hne'
  · intro h0 hl'
    show false = (K.src[s - 1]'(by omega)).wide
    rw [hpre (s - 1) (by omega) (by omega)]
    have := D.hP.cont_iff s (by rw [D.hprv]; exact hs)
    rw [if_neg (by omega), hsc] at this
    exact this
  · refine ⟨Ri0, ?_, ⟨hl.trans D.hprv, D.hprv, ?_, fun k hk _ => hv k (by rw [D.hprv]; exact hk), fun hk =>
      Or.inl (hv s (by rw [D.hprv]; exact hk))⟩, hq, hwf⟩
    · show Emitted W cb K.p0 [] (shape K.r0 K.i Ri0 K.r0.g.pos K.r0.pen)
      rw [shape_self _ _ _ hrow, hr0]
      exact emitted_nil W cb K.p0 K.ready
    · intro k hk hks
      rw [hv k (by rw [D.hprv]; exact hk), hpre k hk hks]
  · intro e a h; simp [start] at h

theorem fold_win (K : Ctx W cb) (D : DCtx W K.src.length) {Q : Bool → Prop} (hK : KeepsFlag W K.src D.prv Q) (hW : WOk W)
    (hS : SrcOk W K.src) (n j : Nat) (st : Row.FmtSt) (hjl : j + n ≤ K.src.length) (h : CellLoop K D Q j st) :
    ∃ st', (C14.enumFrom j (((K.src.zip D.prv).drop j).take n)).foldlM (Row.diffStep K.src.length K.i false) st = .ok st' ∧
      CellLoop K D Q (j + n) st' := by
  have hzl : (K.src.zip D.prv).length = K.src.length := by simp [List.length_zip, D.hprv]
  refine enum_fold_win (P := CellLoop K D Q) (fun j hj st h => ?_) n j st (by rw [hzl]; exact hjl) h
  rw [List.getElem_zip]
  exact diffStep_inv K D hK hW hS (by rw [← hzl]; exact hj) h

/-- `fold_win` to the end of the line.  The list is a variable `cs` with the equation `hcs` so that `C02.started_fold` can call
this from inside `C02.parked_fold`'s induction on `cs`. -/
theorem fold_inv (K : Ctx W cb) (D : DCtx W K.src.length) {Q : Bool → Prop} (hK : KeepsFlag W K.src D.prv Q) (hW : WOk W)
    (hS : SrcOk W K.src) (cs : List (Cell × Cell)) (j : Nat) (st : Row.FmtSt) (hcs : (K.src.zip D.prv).drop j = cs)
    (hjl : j ≤ K.src.length) (h : CellLoop K D Q j st) :
    ∃ st', (C14.enumFrom j cs).foldlM (Row.diffStep K.src.length K.i false) st = .ok st' ∧ CellLoop K D Q K.src.length st' := by
  obtain ⟨st', e, h'⟩ := fold_win K D hK hW hS (K.src.length - j) j st (by omega) h
  rw [List.take_of_length_le (by simp [List.length_zip, D.hprv]), hcs] at e
  rw [show j + (K.src.length - j) = K.src.length by omega] at h'
  exact ⟨st', e, h'⟩

theorem CellLoop.between {K : Ctx W cb} {D : DCtx W K.src.length} {Q : Bool → Prop} {e : Nat} {st : Row.FmtSt} (h : CellLoop K D Q e st) (he0 : 0 < e)
    (hel : e ≤ K.src.length) (hR : (K.src[e - 1]'(by omega)).wide = false) : Between K D Q e st :=
  h.B (by rw [h.ww he0 hel]; exact hR)

/-- the end of the line: a pending erase run becomes an EL -/
theorem finish_line (K : Ctx W cb) (D : DCtx W K.src.length) {Q : Bool → Prop} (hK : KeepsFlag W K.src D.prv Q)
    (hS : SrcOk W K.src) (hne : 0 < K.src.length) {st : Row.FmtSt} (h : CellLoop K D Q K.src.length st) :
    DiffAt K D.prv Q K.src.length (Row.fmtFinish K.src.length K.i false st) := by
  have hB := h.between hne (Nat.le_refl _) (hS.last_narrow hne)
  unfold Row.fmtFinish
  cases he : st.erase with
  | none => exact hB.of_none he
  | some pa =>
    obtain ⟨e, a⟩ := pa
    obtain ⟨hej, hel, hvs, Ri, hem, hmid, hq, hb, hp', ha', _⟩ := hB.eraseMove he
    have := emitted_el K hem hb hmid.len (Nat.le_of_lt hel)
    refine ⟨_, ?_, hmid.erase hS hel (Nat.le_refl _) a (fun k hk h1 _ => hvs k hk h1 hk),
      hK.erase hmid hq hel (Nat.le_refl _) a (fun k hk h1 _ => hvs k hk h1 hk), this.2⟩
    simp only [hp', ha']
    exact this.1

/-- when the last cell of the line is a changed blank, the cell loop ends with an erase run pending over it, whose flush
(`fmtFinish`) leaves the pen at that cell's attributes -/
theorem finish_pen (K : Ctx W cb) (D : DCtx W K.src.length) {Q : Bool → Prop} (hS : SrcOk W K.src) (hne : 0 < K.src.length)
    {st : Row.FmtSt} (h : CellLoop K D Q K.src.length st) {c : Nat} (hc : c < K.src.length) (hcl : c + 1 = K.src.length)
    (hcc : K.src[c].cont = false) (hh : K.src[c].hasContents = false)
    (hdf : view K.src[c] ≠ view (D.prv[c]'(by rw [D.hprv]; exact hc))) :
    (Row.fmtFinish K.src.length K.i false st).prevAttrs = K.src[c].attrs := by
  have hpw : st.prevWasWide = false := by rw [h.ww hne (Nat.le_refl _)]; exact hS.last_narrow hne
  have hsome := h.last c hc hcl hpw hcc hh hdf
  cases he : st.erase with
  | none => exact absurd he hsome
  | some pa =>
    obtain ⟨e, a⟩ := pa
    obtain ⟨hej, hel, hwf, hvs⟩ := (h.B hpw).er e a he
    rw [blankA_attrs (hvs c hc (by omega) (by omega))]
    unfold Row.fmtFinish
    simp only [he, eraseMove_false]

/-- the end of the window `[·, e)`: a pending erase run becomes an `EL`, which runs to the end of the LINE.  So the columns
from `e` on either still show the previous line (no run was pending; if the window's right edge does not split a wide
character of it) or are all blank with the same attributes -/
theorem finish_win (K : Ctx W cb) (D : DCtx W K.src.length) {Q : Bool → Prop} (hclr : ∀ w, Q w → Q false)
    (hS : SrcOk W K.src) {e : Nat} (he0 : 0 < e) (hel : e ≤ K.src.length) (hR : (K.src[e - 1]'(by omega)).wide = false)
    {st : Row.FmtSt} (h : CellLoop K D Q e st) :
    ∃ Ri, Emitted W cb K.p0 (Row.fmtFinish K.src.length K.i false st).out
        (shape K.r0 K.i Ri (Row.fmtFinish K.src.length K.i false st).prevPos
          (Row.fmtFinish K.src.length K.i false st).prevAttrs) ∧ Lo K.src e Ri ∧ Q Ri.wrapped ∧
      (∀ c, Ri.cells[e]? = some c → c.cont = false) ∧
      ((∀ c, D.prv[e]? = some c → c.cont = false) →
        (st.erase = none ∧ ∀ k, e ≤ k → k < K.src.length → (Ri.cells[k]?).map view = (D.prv[k]?).map view) ∨
        (st.erase ≠ none ∧ ∃ a, ∀ k, e ≤ k → k < K.src.length → (Ri.cells[k]?).map view = some (blankA a))) ∧
      LineWf Ri := by
  have hsc : ∀ (he : e < K.src.length), K.src[e].cont = false := by
    intro he
    rw [hS.cont_iff e he, if_neg (by omega)]; exact hR
  have hB := h.between he0 hel hR
  unfold Row.fmtFinish
  cases he : st.erase with
  | none =>
    -- nothing is written: from `e` on the line still shows the previous line
    obtain ⟨Ri, hem, hmid, hq, hwf⟩ := hB.of_none he
    refine ⟨Ri, hem, ⟨hmid.len, hmid.lo⟩, hq, ?_, ?_, hwf⟩
    · intro c hc'
      have hel' : e < K.src.length := by
        have := getElem?_lt hc'
        rw [hmid.len] at this; exact this
      rw [List.getElem?_eq_getElem (by rw [hmid.len]; exact hel')] at hc'
      rw [← Option.some.inj hc']
      exact hmid.not_cont hS hwf.links.paired hel' (hsc hel')
    · intro hPc
      refine Or.inl ⟨rfl, fun k hke hk => ?_⟩
      have hkR : k < Ri.cells.length := by rw [hmid.len]; exact hk
      have hkP : k < D.prv.length := by rw [D.hprv]; exact hk
      rw [List.getElem?_eq_getElem hkR, List.getElem?_eq_getElem hkP]
      simp only [Option.map_some, Option.some.injEq]
      by_cases hkk : e < k
      · exact hmid.hi k hk hkk
      · have : k = e := by omega
        subst this
        rcases hmid.mid hk with h1 | ⟨h2, _⟩
        · exact h1
        · have := hPc _ (List.getElem?_eq_getElem hkP)
          rw [h2] at this; exact absurd this (by simp)
  | some pa =>
    -- the pending run `[e0, e)` is flushed as EL: everything from `e0` on is blank
    obtain ⟨e0, a⟩ := pa
    obtain ⟨hej, hel0, hvs, Ri, hem, hmid, hq, hb, hp', ha', _⟩ := hB.eraseMove he
    have hem' := emitted_el K hem hb hmid.len (Nat.le_of_lt hel0)
    obtain ⟨t1, t2⟩ := erase_tail hS hmid hel0 a hvs (blankA_cont (hvs e0 hel0 (Nat.le_refl _) hej)) Ri.wrapped
    refine ⟨C07.erasedRow Ri.cells Ri.wrapped e0 K.src.length a, ?_, t1, ?_, ?_,
      fun _ => Or.inr ⟨Option.some_ne_none _, a, fun k hk1 hk2 => t2 k (by omega) hk2⟩, hem'.2⟩
    · simp only [hp', ha']; exact hem'.1
    · exact flag_pred hclr hq (erasedRow_wrapped ..)
    · intro c hc'
      have hel' : e < K.src.length := by
        have := getElem?_lt hc'
        rw [t1.len] at this; exact this
      have := t2 e (Nat.le_of_lt hej) hel'
      rw [hc', Option.map_some, Option.some.injEq] at this
      exact blankA_cont this

theorem writeContentsDiff_of_loop (sr pr : Row) (s n i : Nat) (pw : Bool) (pos : Pos) (pen : Attrs) {st' : Row.FmtSt}
    (e : (C14.enumFrom s (((sr.cells.zip pr.cells).drop s).take n)).foldlM (Row.diffStep sr.cells.length i false)
      (start pos pen) = .ok st') :
    sr.writeContentsDiff pr s n i false pw pos pen = Row.diffEnd sr pr i (Row.fmtFinish sr.cells.length i false st') := by
  unfold Row.writeContentsDiff
  rw [diffStart_false]
  simp only [ok_bind, C14.window_enum, Row.cols, e]

/-- **the cell loop of a window**: the loop of `sr.write_contents_diff(pr, s, n, …)` over the columns `[s, s + n)`
is the loop on the masked line `K.src`, entered at column `s` on a receiver whose line shows the previous line -/
theorem window_loop (K : Ctx W cb) (D : DCtx W K.src.length) {Q : Bool → Prop} (hK : KeepsFlag W K.src D.prv Q) (hW : WOk W)
    (hr0 : K.r0 = rsOf K.p0.ws) (S : List Cell) (hpl : D.prv.length = S.length) {s n : Nat} (hfit : s + n ≤ S.length)
    (hs : s < S.length) (hm : K.src = maskP D.prv S s) (hSm : SrcOk W K.src)
    (hsc : (D.prv[s]'(by omega)).cont = false) {Ri0 : Row} (hrow : K.r0.g.rows[K.i]? = some Ri0)
    (hshow : Ri0.cells.map view = D.prv.map view) (hq : Q Ri0.wrapped) (hwf : LineWf Ri0) :
    ∃ st', (C14.enumFrom s (((S.zip D.prv).drop s).take n)).foldlM (Row.diffStep S.length K.i false)
        (start K.r0.g.pos K.r0.pen) = .ok st' ∧ CellLoop K D Q (s + n) st' := by
  have hml : K.src.length = S.length := by rw [hm]; exact maskP_length _ _ _ (by omega) (by omega)
  have hJ0 : CellLoop K D Q s (start K.r0.g.pos K.r0.pen) := by
    refine CellLoop.enter K D (by omega) ?_ hsc hrow hr0 hshow hq hwf
    intro k hk hks
    simp only [hm]
    rw [maskP_getElem D.prv S s k hpl (by omega) (by rw [← hm]; exact hk), if_pos hks]
  obtain ⟨st', e, hJ⟩ := fold_win K D hK hW hSm n s _ (by omega) hJ0
  refine ⟨st', ?_, hJ⟩
  have hzip : (K.src.zip D.prv).drop s = (S.zip D.prv).drop s := by
    simp only [List.zip, List.drop_zipWith]
    rw [show K.src.drop s = S.drop s by rw [hm]; exact maskP_drop _ _ _ (by omega)]
  rw [hzip] at e
  simpa only [hml] using e

end Vt.DiffRow
