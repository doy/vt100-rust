/-
  C05 — printing on one line: the characters that are dropped, the wrap decision, and the cell writes of a character of width
  1 or 2 that fits, as the positional closed form `printedRow`.  The grid-level closed forms (every well-formed grid, the wrap,
  zero-width characters) are in C05b.  `text_control_noop`, `text_too_wide_dropped` (commit 71db06e of /repo) and `text_eq` are
  the cases of `text_eq_steps` (Lemmas/Grid), the one walk of `Grid.text`.  U+FFFD and C1 characters are reported, never drawn:
  `Vt.C18`.

  `printedCell` is the positional closed form of the cell writes of `Screen::text` (after `col_wrap`):
    * the cell at the cursor becomes the character with exactly the pen;
    * printing a wide character makes the next cell its (blank, default-attribute) second half;
    * overwriting the second half of a wide character blanks its first half (with the pen);
    * overwriting the first half of a wide character with a narrow one turns its second half into a space
      (with the pen);
    * a wide character printed over the cell before another wide character blanks that one's second half
      (with the pen) — and clears the line's wrap flag when that cell is the last column;
    * NO other cell changes.
-/
import Vt.Lemmas.TextRow
namespace Vt.C05

variable (W : Nat → Option Nat)

theorem text_control_noop (g : Grid) (a : Attrs) (c : Nat) (hw : W c = none) (hc : c < 256) :
    g.text W a c = .ok g :=
  (text_eq_steps W g a c).trans (if_pos (Or.inl ⟨hw, hc⟩))

theorem text_too_wide_dropped (g : Grid) (a : Attrs) (c w : Nat) (hw : W c = some w) (h : g.size.cols < min w 2) :
    g.text W a c = .ok g :=
  (text_eq_steps W g a c).trans (if_pos (Or.inr (by rw [hw]; exact h)))

theorem cell_set_spec (cell : Cell) (c : Nat) (a : Attrs) (hl : (Utf8.encode c).length ≤ 22) :
    cell.set W c a = .ok
      { contents := Utf8.encode c ++ cell.contents.drop (Utf8.encode c).length,
        len := (Utf8.encode c).length, wide := decide ((W c).getD 1 > 1), cont := false, attrs := a } :=
  Cell.set_eq W cell c a

/-- what `Cell::set(c, a)` stores (the bytes beyond the new character are stale) -/
def setCell (x : Cell) (c : Nat) (a : Attrs) : Cell :=
  { contents := Utf8.encode c ++ x.contents.drop (Utf8.encode c).length,
    len := (Utf8.encode c).length, wide := decide ((W c).getD 1 > 1), cont := false, attrs := a }

def contOf (x : Cell) : Cell := (x.clear Attrs.default).setWideContinuation true

def flagAt (old : List Cell) (j : Nat) (f : Cell → Bool) : Bool := (old[j]?.map f).getD false

/-- the cell at column `j` after printing `c` (wide iff `wideCh`) at column `col` with pen `a` -/
def printedCell (old : List Cell) (col : Nat) (a : Attrs) (c : Nat) (wideCh : Bool) (j : Nat) (x : Cell) : Cell :=
  if j = col then setCell W x c a
  else if j + 1 = col ∧ flagAt old col (·.cont) = true then x.clear a
  else if j = col + 1 then
    (if wideCh then contOf else id) (if flagAt old col (·.wide) = true then setCell W x 32 a else x)
  else if j = col + 2 ∧ wideCh = true ∧ flagAt old col (·.wide) = false ∧ flagAt old (col + 1) (·.wide) = true then x.clear a
  else x

def printedRow (r : Row) (col cols : Nat) (a : Attrs) (c : Nat) (wideCh : Bool) : Row :=
  { cells := r.cells.mapIdx (printedCell W r.cells col a c wideCh)
    wrapped := if wideCh = true ∧ flagAt r.cells col (·.wide) = false ∧ flagAt r.cells (col + 1) (·.wide) = true ∧
                  col + 3 = cols then false else r.wrapped }

/-- against the five writes in source order (`printCells`): cell `j` is compared by its position relative to the cursor, the
flags staying symbolic. `hprev`: at column 0 the write to `col - 1` would hit the cursor cell. -/
theorem printedRow_eq (hW32 : W 32 = some 1) (row : Row) (col cols : Nat) (a : Attrs) (c : Nat) (wideCh : Bool)
    (hprev : flagAt row.cells col (·.cont) = true → 0 < col) :
    printedRow W row col cols a c wideCh =
      ⟨printCells W row.cells col a c wideCh, printWrapped W row col cols a c wideCh⟩ := by
  obtain ⟨cs, wr⟩ := row
  simp only [printedRow, printWrapped, printCells, printNarrow_wide_next W hW32, Row.mk.injEq]
  constructor
  · refine List.ext_getElem? fun j => ?_
    unfold printNarrow
    rw [← modifyIf_true]
    simp only [List.getElem?_mapIdx, getElem?_modifyIf, Option.map_map]
    refine congrArg (fun f => Option.map f cs[j]?) (funext fun x => ?_)
    have hset : ∀ y d, setResult W y d a = setCell W y d a := fun _ _ => rfl
    change cellFlag (·.cont) cs col = true → 0 < col at hprev
    simp only [Function.comp, printedCell, flagAt, ← cellFlag.eq_1, hset, show Cell.blankCont = contOf from rfl]
    rcases (by omega : j = col ∨ j + 1 = col ∨ j = col + 1 ∨ j = col + 2 ∨
      (j ≠ col ∧ j + 1 ≠ col ∧ j ≠ col + 1 ∧ j ≠ col + 2)) with rfl | rfl | rfl | rfl | ⟨h0, h1, h2, h3⟩
    · have : ¬ (cellFlag (·.cont) cs j = true ∧ j - 1 = j) := fun h => by have := hprev h.1; omega
      simp [this]
    · simp [Nat.add_assoc]
    · cases wideCh <;> simp [Nat.add_assoc]
    · simp [Nat.add_assoc]
    · simp [h0, h1, h2, h3, Ne.symm h0, Ne.symm h2, Ne.symm h3, show ¬ col - 1 = j by omega]
  · simp only [flagAt, cellFlag, Bool.and_eq_true, Bool.not_eq_true', beq_iff_eq, and_assoc, Nat.add_assoc,
      Nat.reduceAdd]
    congr

variable {W}

/-- **the cell writes of printing, on every well-linked line**: what the cells hold plays no part -/
theorem textWideRow_links {row : Row} {col cols : Nat} (hl : Links row.cells) (hlen : row.cells.length = cols)
    (hW32 : W 32 = some 1) (a : Attrs) (c w : Nat) (hw12 : w = 1 ∨ 2 ≤ w) (hfit : col + w ≤ cols) :
    Grid.textWideRow W row col cols a c w = .ok (printedRow W row col cols a c (decide (w > 1))) := by
  rw [printedRow_eq W hW32 row col cols a c _ fun h => (hl.prev h).1]
  exact hl.textWideRow_eq W hW32 cols a c w (by omega) (fun _ => by omega)

/-- **the cell writes of printing, on every well-formed line** -/
theorem textWideRow_spec {row : Row} {col cols : Nat} (hinv : CellsInv W row.cells) (hlen : row.cells.length = cols)
    (hW32 : W 32 = some 1) (a : Attrs) (c w : Nat) (hw12 : w = 1 ∨ 2 ≤ w) (hfit : col + w ≤ cols) :
    Grid.textWideRow W row col cols a c w = .ok (printedRow W row col cols a c (decide (w > 1))) :=
  textWideRow_links hinv.links hlen hW32 a c w hw12 hfit

theorem printedRow_links {r : Row} (h : Links r.cells) (hW32 : W 32 = some 1) {col : Nat} (cols : Nat) (a : Attrs) (c : Nat)
    {wideCh : Bool} (hwide : wideCh = decide ((W c).getD 1 > 1)) (hfit : col + (if wideCh then 2 else 1) ≤ r.cells.length) :
    Links (printedRow W r col cols a c wideCh).cells := by
  rw [printedRow_eq W hW32 r col cols a c _ fun hh => (h.prev hh).1]
  exact printCells_links W a c hW32 h hwide hfit

/-- 22 = `CONTENT_BYTES` (cell.rs:4), the fixed length of a cell's byte array -/
theorem printedCell_len22 (old : List Cell) (col : Nat) (a : Attrs) (c : Nat) (wideCh : Bool) (j : Nat) (x : Cell)
    (h : x.contents.length = 22) : (printedCell W old col a c wideCh j x).contents.length = 22 := by
  have hs : ∀ d, (setCell W x d a).contents.length = 22 := fun d => by
    have := Utf8.encode_length_bounds d
    simp only [setCell, List.length_append, List.length_drop, h]; omega
  have hite : ∀ (p : Prop) [Decidable p] (u v : Cell), u.contents.length = 22 → v.contents.length = 22 →
      (if p then u else v).contents.length = 22 := by
    intro p _ u v hu hv; split <;> assumption
  have h3 : ∀ y : Cell, y.contents.length = 22 → ((if wideCh = true then contOf else id) y).contents.length = 22 := by
    intro y hy; cases wideCh <;> exact hy
  exact hite _ _ _ (hs c) (hite _ _ _ h (hite _ _ _ (h3 _ (hite _ _ _ (hs 32) h)) (hite _ _ _ h h)))

/-- the effective width `Screen::text` works with: 0, 1 or 2 -/
def effWidth (W : Nat → Option Nat) (c : Nat) : Nat := min ((W c).getD 1) 2

theorem text_eq (g : Grid) (a : Attrs) (c : Nat) (hnc : ¬ (W c = none ∧ c < 256)) (hwc : effWidth W c ≤ g.size.cols) :
    g.text W a c = g.wrapDecision (effWidth W c) >>= fun wrap => g.colWrap (effWidth W c) wrap >>= fun g1 =>
      if (effWidth W c == 0) = true then g1.textZero c else g1.textWide W a c (effWidth W c) :=
  (text_eq_steps W g a c).trans (if_neg fun h => h.elim hnc (Nat.not_lt.mpr hwc))

theorem text_of_fits (g : Grid) (a : Attrs) (c : Nat) (hnc : ¬ (W c = none ∧ c < 256))
    (hfit : g.pos.col + effWidth W c ≤ g.size.cols) :
    g.text W a c = if (effWidth W c == 0) = true then g.textZero c else g.textWide W a c (effWidth W c) := by
  have hwc : effWidth W c ≤ g.size.cols := by omega
  have hlim : ¬ g.pos.col > g.size.cols - effWidth W c := by omega
  simp only [text_eq g a c hnc hwc, Grid.wrapDecision, Grid.colWrap, subM_ok hwc, ok_bind, hlim, ↓reduceIte, pure_eq_ok]

/-- is the last column of line `r` occupied (text, or the second half of a wide character) -/
def lastOccB (r : Row) : Bool := ((r.cells[r.cells.length - 1]?).map (fun c => c.hasContents || c.cont)).getD false

theorem wrapDecision_spec {g : Grid} (hinv : GridInv W g true) (hl : g.rows.length = g.size.rows) (w : Nat)
    (hw : w ≤ g.size.cols) :
    ∃ r, g.rows[g.pos.row]? = some r ∧
      g.wrapDecision w = .ok (decide (g.pos.col + w > g.size.cols) && lastOccB r) := by
  have hrl : g.pos.row < g.rows.length := by rw [hl]; exact hinv.pos_row
  have hrow := List.getElem?_eq_getElem hrl
  generalize g.rows[g.pos.row] = r at hrow
  have hlen := (hinv.row_ok r (List.mem_of_getElem? hrow)).1
  have hcp := hinv.cols_pos
  refine ⟨r, hrow, ?_⟩
  simp only [Grid.wrapDecision, subM_ok hw, ok_bind]
  by_cases hgt : g.pos.col > g.size.cols - w
  · have hcl : g.size.cols - 1 < r.cells.length := by omega
    simp only [hgt, ↓reduceIte, subM_ok hcp, ok_bind, drawingCellM_of _ hrow (List.getElem?_eq_getElem hcl),
      List.getElem?_eq_getElem hcl, pure_eq_ok, Cell.isWideContinuation,
      Except.ok.injEq, lastOccB, hlen, Option.map_some, Option.getD_some]
    have : g.pos.col + w > g.size.cols := by omega
    simp [this]
  · have : ¬ g.pos.col + w > g.size.cols := by omega
    simp [hgt, this]

variable (W)

/-- the cell writes of a character that fits (`Grid.textWideRow` on the cursor line), lifted to the grid -/
theorem text_fits {g : Grid} (hu : g.size.cols ≤ 65535) (a : Attrs) (c w : Nat) (row row' : Row)
    (hw : effWidth W c = w) (hw1 : 1 ≤ w) (hnc : ¬ (W c = none ∧ c < 256))
    (hcol : g.pos.col + w ≤ g.size.cols) (hrow : g.rows[g.pos.row]? = some row)
    (hrw : Grid.textWideRow W row g.pos.col g.size.cols a c w = .ok row') :
    g.text W a c = .ok { g with rows := g.rows.set g.pos.row row', pos := ⟨g.pos.row, g.pos.col + w⟩ } := by
  rw [text_of_fits g a c hnc (by rw [hw]; exact hcol), hw, if_neg (by rw [beq_iff_eq]; omega)]
  simp only [Grid.textWide, Grid.modifyCurrentRow, modifyM, hrow, hrw, ok_bind, pure_eq_ok, Grid.colInc,
    satAddU16, U16_MAX]
  have hw2 : effWidth W c ≤ 2 := Nat.min_le_right _ _
  rcases (by omega : w = 1 ∨ w = 2) with rfl | rfl
  · rw [if_neg (by omega), show min (g.pos.col + 1) 65535 = g.pos.col + 1 by omega]
  · rw [if_pos (by omega)]
    simp only [show min (min (g.pos.col + 1) 65535 + 1) 65535 = g.pos.col + 2 by omega]

theorem text_narrow_fits (g : Grid) (a : Attrs) (c : Nat) (row : Row) (cell : Cell)
    (hw : (W c).getD 1 = 1) (hnc : ¬ (W c = none ∧ c < 256))
    (hcol : g.pos.col + 1 ≤ g.size.cols) (hrow : g.rows[g.pos.row]? = some row)
    (hcell : row.cells[g.pos.col]? = some cell) (hcw : cell.wide = false) (hcc : cell.cont = false) :
    ∃ cell', cell.set W c a = .ok cell' ∧
      g.text W a c = .ok { g with
        rows := g.rows.set g.pos.row { row with cells := row.cells.set g.pos.col cell' },
        pos := ⟨g.pos.row, min (g.pos.col + 1) 65535⟩ } := by
  have hw' : effWidth W c = 1 := by simp [effWidth, hw]
  refine ⟨_, Cell.set_eq W cell c a, ?_⟩
  rw [text_of_fits g a c hnc (by omega), hw']
  simp only [show (1 == 0) = false by rfl, Bool.false_eq_true, ↓reduceIte, Grid.textWide, Grid.modifyCurrentRow,
    modifyM, hrow, Grid.textWideRow, getM, hcell, ok_bind, Cell.isWideContinuation, hcc, Cell.isWide,
    hcw, Cell.set_eq, pure_eq_ok, Grid.colInc, satAddU16, U16_MAX, show ¬ (1 > 1) by omega]

end Vt.C05
