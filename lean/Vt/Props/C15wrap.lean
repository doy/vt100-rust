/-
  Vt.Props.C15wrap — C15, the `rows_diff` clause, for lines with ARBITRARY wrap flags.

  `DiffRow.row_diff_draws` says that one line of a diff, processed by a receiver whose line shows the previous line, makes it
  show the current line — when neither line (nor the receiver's) is soft-wrapped.  Here the three wrap flags are unconstrained;
  the conclusion speaks of the CELLS (`Ri.cells.map view = sr.cells.map view`) and says nothing about the receiving line's wrap
  flag: `row_diff_draws_flag` / `row_window_diff_draws_flag` (Props/DiffLine) with no claim on the flag, for element `i` of
  `rows_diff` (`C15.rows_diff_get`).
-/
import Vt.Props.DiffLine
import Vt.Props.C15diff
namespace Vt.C15wrap
open Vt Vt.Recv Vt.C19 Vt.C09 Vt.RowDraw Vt.C03 Vt.Bytes Vt.DiffRow

variable {W : Nat → Option Nat} {cb : CbPolicy}

set_option linter.unusedVariables false in -- `hcb`: of the parser invariant `hpi` only `LineWf` of line `i` is used
/-- lines whose wrap flags are equal (both may be set): `diffEnd` does nothing -/
theorem row_diff_draws_same_flag (hW : WOk W) (hcb : C13.CbInv W cb) (p0 : Parser) (hr : Ready p0)
    (hpi : C13.ParserInv W p0) (hcv : Canvas (rsOf p0.ws).g) (i : Nat) (hi : i < (rsOf p0.ws).g.size.rows) (sr pr : Row)
    (hlen : sr.cells.length = (rsOf p0.ws).g.size.cols) (hplen : pr.cells.length = (rsOf p0.ws).g.size.cols)
    (hS : SrcOk W sr.cells) (hP : SrcOk W pr.cells)
    (Ri0 : Row) (hrow : (rsOf p0.ws).g.rows[i]? = some Ri0) (hshow : Ri0.cells.map view = pr.cells.map view)
    (hpc : (rsOf p0.ws).g.pos.col ≤ (rsOf p0.ws).g.size.cols) (pw : Bool) (hfl : sr.wrapped = pr.wrapped) :
    ∃ out np na, sr.writeContentsDiff pr 0 sr.cells.length i false pw (rsOf p0.ws).g.pos (rsOf p0.ws).pen = .ok (out, np, na) ∧
      (∃ Ri, Emitted W cb p0 out (shape (rsOf p0.ws) i Ri np na) ∧ Ri.cells.map view = sr.cells.map view) ∧
      Bytes out ∧ np.col ≤ (rsOf p0.ws).g.size.cols ∧ (Attrs.wf (rsOf p0.ws).pen → Attrs.wf na) :=
  have ⟨out, np, na, e, ⟨Ri, hem, hv, _⟩, h⟩ := row_diff_draws_flag hW p0 hr hcv i hi sr pr hlen hplen hS hP Ri0 hrow hshow
    (lineWf_of_parserInv hpi hrow) hpc pw (fun h1 h2 => by rw [hfl, h2] at h1; cases h1) (Q := fun _ => True) (fun _ h => h) trivial
  ⟨out, np, na, e, ⟨Ri, hem, hv⟩, h⟩

set_option linter.unusedVariables false in -- `hcb`: of the parser invariant `hpi` only `LineWf` of line `i` is used
/-- a line that has just BECOME wrapped: its last character is re-typed, nothing is erased -/
theorem row_diff_draws_now_wrapped (hW : WOk W) (hcb : C13.CbInv W cb) (p0 : Parser) (hr : Ready p0)
    (hpi : C13.ParserInv W p0) (hcv : Canvas (rsOf p0.ws).g) (i : Nat) (hi : i < (rsOf p0.ws).g.size.rows) (sr pr : Row)
    (hlen : sr.cells.length = (rsOf p0.ws).g.size.cols) (hplen : pr.cells.length = (rsOf p0.ws).g.size.cols)
    (hS : SrcOk W sr.cells) (hP : SrcOk W pr.cells)
    (Ri0 : Row) (hrow : (rsOf p0.ws).g.rows[i]? = some Ri0) (hshow : Ri0.cells.map view = pr.cells.map view)
    (hpc : (rsOf p0.ws).g.pos.col ≤ (rsOf p0.ws).g.size.cols) (pw : Bool) (hsw : sr.wrapped = true) :
    ∃ out np na, sr.writeContentsDiff pr 0 sr.cells.length i false pw (rsOf p0.ws).g.pos (rsOf p0.ws).pen = .ok (out, np, na) ∧
      (∃ Ri, Emitted W cb p0 out (shape (rsOf p0.ws) i Ri np na) ∧ Ri.cells.map view = sr.cells.map view) ∧
      Bytes out ∧ np.col ≤ (rsOf p0.ws).g.size.cols ∧ (Attrs.wf (rsOf p0.ws).pen → Attrs.wf na) :=
  have ⟨out, np, na, e, ⟨Ri, hem, hv, _⟩, h⟩ := row_diff_draws_flag hW p0 hr hcv i hi sr pr hlen hplen hS hP Ri0 hrow hshow
    (lineWf_of_parserInv hpi hrow) hpc pw (fun h1 _ => by rw [hsw] at h1; cases h1) (Q := fun _ => True) (fun _ h => h) trivial
  ⟨out, np, na, e, ⟨Ri, hem, hv⟩, h⟩

set_option linter.unusedVariables false in -- `hcb`: of the parser invariant `hpi` only `LineWf` of line `i` is used
open Vt.GridDraw Vt.C01 Vt.C15 in
/-- **C15, `rows_diff`, one line, full width, EVERY line — soft-wrapped or not**: for two screens of the same size,
not scrolled back, the `i`-th element of `S.rows_diff(P, 0, cols)` processed by a receiver whose line `i` shows the
cells of `P`'s line `i` (cursor at `(i, 0)`, default pen — what the drawing protocol sets up; the receiving line's wrap
flag is arbitrary) makes line `i` show the cells of `S`'s line `i`, and leaves every other line, the region and the
scrollback as they were.  Nothing is claimed about the receiving line's wrap flag. -/
theorem rows_diff_line_draws_wrap (hW : WOk W) (hcb : C13.CbInv W cb) (S P : Screen) (hS : SrcScreen W S)
    (hP : SrcScreen W P) (hIS : Inv W S) (hIP : Inv W P) (hsz : S.cur.size = P.cur.size) (i : Nat)
    (hi : i < S.cur.size.rows)
    (p0 : Parser) (hr : Ready p0) (hpi : C13.ParserInv W p0) (hcv : Canvas (rsOf p0.ws).g)
    (hqsz : (rsOf p0.ws).g.size = S.cur.size) (hpos : (rsOf p0.ws).g.pos = ⟨i, 0⟩) (hpen : (rsOf p0.ws).pen = Attrs.default)
    (Ri0 : Row) (hrow : (rsOf p0.ws).g.rows[i]? = some Ri0)
    (hshow : Ri0.cells.map view = (P.cur.rows[i]'(by rw [hP.alloc, ← hsz]; exact hi)).cells.map view) :
    ∃ res bs, S.rowsDiff P 0 S.cur.size.cols = .ok res ∧ res[i]? = some bs ∧
      ∃ Ri np na, Emitted W cb p0 bs (shape (rsOf p0.ws) i Ri np na) ∧
        Ri.cells.map view = (S.cur.rows[i]'(by rw [hS.alloc]; exact hi)).cells.map view := by
  have hiS : i < S.cur.rows.length := by rw [hS.alloc]; exact hi
  have hiP : i < P.cur.rows.length := by rw [hP.alloc, ← hsz]; exact hi
  obtain ⟨res, bs, np, na, eres, hget, ebs⟩ := rows_diff_get hS hP hIS hIP hsz i hi 0 S.cur.size.cols
  have hwS := hS.rows.width _ (List.getElem_mem hiS)
  have hwP := hP.rows.width _ (List.getElem_mem hiP)
  have hrd := row_diff_draws_flag (cb := cb) hW p0 hr hcv i (by rw [hqsz]; exact hi) S.cur.rows[i] P.cur.rows[i]
    (by rw [hqsz]; exact hwS) (by rw [hqsz, hsz]; exact hwP) (hS.rows.ok _ (List.getElem_mem hiS))
    (hP.rows.ok _ (List.getElem_mem hiP)) Ri0 hrow hshow (lineWf_of_parserInv hpi hrow) (by rw [hpos]; exact Nat.zero_le _) false
    (fun _ hw => hP.rows.wrapOcc _ (List.getElem_mem hiP) hw) (Q := fun _ => True) (fun _ h => h) trivial
  rw [hpos, hpen, hwS] at hrd
  obtain ⟨out, np', na', e', ⟨Ri, hem, hv, _⟩, _, _, _⟩ := hrd
  cases ebs.symm.trans e'
  exact ⟨res, bs, eres, hget, Ri, np, na, hem, hv⟩

set_option linter.unusedVariables false in -- `hcb`: of the parser invariant `hpi` only `LineWf` of line `i` is used
open Vt.GridDraw Vt.C01 Vt.C15 in
/-- **C15, `rows_diff(prev, start, width)`, one line, EVERY line — soft-wrapped or not**: for two screens of the same
size, not scrolled back, and a window `[start, start + width)` whose left edge splits a wide character of neither
screen's line `i` and whose right edge does not split one of `S`'s line `i`: the `i`-th element of
`S.rows_diff(P, start, width)` processed by a receiver whose line `i` shows the cells of `P`'s line `i` (cursor at
`(i, start)`, default pen — what the drawing protocol sets up) makes the cells of line `i` INSIDE THE WINDOW those of
`S`'s line `i`, leaves the cells left of the window, every other line, the region and the scrollback as they were. -/
theorem rows_diff_window_line_draws_wrap (hW : WOk W) (hcb : C13.CbInv W cb) (S P : Screen) (hS : SrcScreen W S)
    (hP : SrcScreen W P) (hIS : Inv W S) (hIP : Inv W P) (hsz : S.cur.size = P.cur.size) (i : Nat)
    (hi : i < S.cur.size.rows) (start width : Nat) (hwd : 0 < width) (hfit : start + width ≤ S.cur.size.cols)
    (hL : start = 0 ∨ ∀ c, (S.cur.rows[i]'(by rw [hS.alloc]; exact hi)).cells[start]? = some c → c.cont = false)
    (hLp : start = 0 ∨ ∀ c, (P.cur.rows[i]'(by rw [hP.alloc, ← hsz]; exact hi)).cells[start]? = some c → c.cont = false)
    (hR : start + width = S.cur.size.cols ∨
      ∀ c, (S.cur.rows[i]'(by rw [hS.alloc]; exact hi)).cells[start + width]? = some c → c.cont = false)
    (p0 : Parser) (hr : Ready p0) (hpi : C13.ParserInv W p0) (hcv : Canvas (rsOf p0.ws).g)
    (hqsz : (rsOf p0.ws).g.size = S.cur.size) (hpos : (rsOf p0.ws).g.pos = ⟨i, start⟩)
    (hpen : (rsOf p0.ws).pen = Attrs.default)
    (Ri0 : Row) (hrow : (rsOf p0.ws).g.rows[i]? = some Ri0)
    (hshow : Ri0.cells.map view = (P.cur.rows[i]'(by rw [hP.alloc, ← hsz]; exact hi)).cells.map view) :
    ∃ res bs, S.rowsDiff P start width = .ok res ∧ res[i]? = some bs ∧
      ∃ Ri np na, Emitted W cb p0 bs (shape (rsOf p0.ws) i Ri np na) ∧
        (∀ k, start ≤ k → k < start + width →
          (Ri.cells[k]?).map view = ((S.cur.rows[i]'(by rw [hS.alloc]; exact hi)).cells[k]?).map view) ∧
        (∀ k, k < start →
          (Ri.cells[k]?).map view = ((P.cur.rows[i]'(by rw [hP.alloc, ← hsz]; exact hi)).cells[k]?).map view) ∧
        Ri.cells.length = S.cur.size.cols := by
  have hiS : i < S.cur.rows.length := by rw [hS.alloc]; exact hi
  have hiP : i < P.cur.rows.length := by rw [hP.alloc, ← hsz]; exact hi
  obtain ⟨res, bs, np, na, eres, hget, ebs⟩ := rows_diff_get hS hP hIS hIP hsz i hi start width
  have hwS := hS.rows.width _ (List.getElem_mem hiS)
  have hwP := hP.rows.width _ (List.getElem_mem hiP)
  have hrd := row_window_diff_draws_flag (cb := cb) hW p0 hr hcv i (by rw [hqsz]; exact hi) S.cur.rows[i]
    P.cur.rows[i] (by rw [hqsz]; exact hwS) (by rw [hqsz, hsz]; exact hwP) (hS.rows.ok _ (List.getElem_mem hiS))
    (hP.rows.ok _ (List.getElem_mem hiP)) start width hwd (by rw [hwS]; exact hfit) hL hLp (by rw [hwS]; exact hR)
    Ri0 hrow hshow (lineWf_of_parserInv hpi hrow) (by rw [hpos, hqsz]; show start ≤ S.cur.size.cols; omega) false
    (fun _ hw => hP.rows.wrapOcc _ (List.getElem_mem hiP) hw) (Q := fun _ => True) (fun _ h => h) trivial
  rw [hpos, hpen] at hrd
  obtain ⟨out, np', na', e', ⟨Ri, hem, h1, h2, _, _, h3, _⟩, _, _, _⟩ := hrd
  cases ebs.symm.trans e'
  exact ⟨res, bs, eres, hget, Ri, np, na, hem, h1, h2, h3.trans hwS⟩


/-- `P` = "abcdef" on a 3 x 5 screen (line 0 soft-wrapped); `S` = `P`, then the last cell of line 0 erased with a red
background (line 0 no longer wrapped, its last cell a red blank: the `ESC[X` branch of `diffEnd` with a non-default
pen), then "ghijkl" typed from line 1 (line 1 becomes wrapped: the re-typing branch).  Both satisfy the Boolean
invariants from which `SrcScreen` and `Inv` follow (`C01.srcScreen_of_inv`); and — as the theorem says — a receiver that
shows `P`, put at `(i, 0)` with the default pen and fed element `i` of `S.rows_diff(P, 0, 5)`, shows the cells of `S`'s
line `i`, for `i = 0, 1`.  Kernel-evaluated; a test. -/
theorem rows_diff_line_draws_wrap_nonvacuous :
    isOkTrue (do
      let p ← C02.run 3 5 0 [[97, 98, 99, 100, 101, 102]]
      let s ← C02.run 3 5 0 [[97, 98, 99, 100, 101, 102], [0x1b, 0x5b, 0x31, 0x3b, 0x35, 0x48, 0x1b, 0x5b, 0x34, 0x31, 0x6d,
        0x1b, 0x5b, 0x58, 0x1b, 0x5b, 0x6d, 0x1b, 0x5b, 0x32, 0x3b, 0x31, 0x48, 103, 104, 105, 106, 107, 108]]
      let d ← s.screen.rowsDiff p.screen 0 5
      let r0 ← p.process W0 cbNone ([0x1b, 0x5b, 0x6d, 0x1b, 0x5b, 0x31, 0x3b, 0x31, 0x48] ++ d.getD 0 [])
      let r1 ← p.process W0 cbNone ([0x1b, 0x5b, 0x6d, 0x1b, 0x5b, 0x32, 0x3b, 0x31, 0x48] ++ d.getD 1 [])
      let cells (q : Screen) (i : Nat) := (q.cur.rows.getD i (Row.new 0)).cells.map view
      let wr (q : Screen) (i : Nat) := (q.cur.rows.getD i (Row.new 0)).wrapped
      pure (emitInvB W0 p.screen && emitInvB W0 s.screen && p.screen.cur.scrollbackOffset == 0 &&
            s.screen.cur.scrollbackOffset == 0 && s.screen.cur.size == p.screen.cur.size &&
            wr p.screen 0 && !wr s.screen 0 && !wr p.screen 1 && wr s.screen 1 &&
            decide (cells r0.screen 0 = cells s.screen 0) && decide (cells r1.screen 1 = cells s.screen 1) &&
            decide (cells r0.screen 0 ≠ cells p.screen 0))) = true := by
  decide +kernel

/-- the window `[1, 4)` of the same `P` against `S` = `P` with `X` typed at column 1 of line 0 and the last cell of
line 0 erased on red (line 0 no longer wrapped).  The receiver's window shows `S`, the column left of it `P`; the last
column — right of the window, where `diffEnd` wrote `ESC[X` with the pen `X` was typed with — shows NEITHER line
(which is why the window theorems claim nothing there).  Kernel-evaluated; a test. -/
theorem rows_diff_window_line_draws_wrap_nonvacuous :
    isOkTrue (do
      let p ← C02.run 3 5 0 [[97, 98, 99, 100, 101, 102]]
      let s ← C02.run 3 5 0 [[97, 98, 99, 100, 101, 102], [0x1b, 0x5b, 0x31, 0x3b, 0x32, 0x48, 88,
        0x1b, 0x5b, 0x31, 0x3b, 0x35, 0x48, 0x1b, 0x5b, 0x34, 0x31, 0x6d, 0x1b, 0x5b, 0x58]]
      let d ← s.screen.rowsDiff p.screen 1 3
      let r0 ← p.process W0 cbNone ([0x1b, 0x5b, 0x6d, 0x1b, 0x5b, 0x31, 0x3b, 0x32, 0x48] ++ d.getD 0 [])
      let cells (q : Screen) (i : Nat) := (q.cur.rows.getD i (Row.new 0)).cells.map view
      let wr (q : Screen) (i : Nat) := (q.cur.rows.getD i (Row.new 0)).wrapped
      pure (emitInvB W0 p.screen && emitInvB W0 s.screen && s.screen.cur.size == p.screen.cur.size &&
            wr p.screen 0 && !wr s.screen 0 &&
            decide (((cells r0.screen 0).drop 1).take 3 = ((cells s.screen 0).drop 1).take 3) &&
            decide ((cells r0.screen 0).take 1 = (cells p.screen 0).take 1) &&
            decide (((cells s.screen 0).drop 1).take 3 ≠ ((cells p.screen 0).drop 1).take 3) &&
            decide ((cells r0.screen 0)[4]? ≠ (cells s.screen 0)[4]?) &&
            decide ((cells r0.screen 0)[4]? ≠ (cells p.screen 0)[4]?))) = true := by
  decide +kernel

end Vt.C15wrap

