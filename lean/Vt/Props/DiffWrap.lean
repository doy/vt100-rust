/-
  Vt.Props.DiffWrap — C02 (screen diffs): the loop of `Grid::write_contents_diff` over the lines and the theorem for a
  pair of screens, CHANGED soft-wrapped lines included.

  DiffIrrel, DiffPend and DiffWrap1 … DiffWrap3 prove one line of `Row::write_contents_diff` on the receiver for EVERY
  combination of the four wrap flags involved (the line above wrapped in S / in P, the line itself wrapped in P / in S) and the
  positions of the emitter's cursor that `WrapsBy` allows (in the loop: all that occur), under two decidable side conditions
  on the pair of lines:

    `noF8b`  — asked only when the line is wrapped in both P and S: if P holds a wide character in column `cols-2`, S
               holds text there (excludes the two F8b patterns, in which the receiver's wrap flag is cleared and
               nothing repairs it);
    `NoPad`  — asked only when the line above is wrapped in both P and S: the first changed cell of the line, if it is
               not in column 0, holds text (excludes the F8a pattern, in which an erase run that starts after
               unchanged cells is flushed with space padding over them).

  Here: the loop over the lines, `diff_rows_loop_w`; one step is `diff_line` of DiffWrap3.  It keeps `RowsInvW` — lines `< i` show S, lines `≥ i` show P; the wrap flag of line `i-1` is still OWED when
  that line has just become wrapped: the receiver records it when the first character of line `i` is typed at the
  pending-wrap position (which of `WrapsBy`'s reasons applies is read off the invariant) — and `AllWf`: every line of the
  receiver is `LineWf`, all the loop asks of the receiver beyond `Ready`; `diff_line` hands it back for the line written
  (`LineDoneWf`).
  `state_diff_reproduces` is `state_diff_of_rows` of C02b with this loop for the lines, on ANY receiver that reproduces
  `P` (which gives `AllWf`) and under any callback policy; `state_diff_wrapped` adds the parser invariant on both sides,
  for the statements that chain on it: `chain_wrapped`, `diff_chain_after_redraw_wrapped`.
  Their hypothesis `LinesOkP`: every line satisfies `LineOkAt` = `noF8b`, and `NoPad` where the emitter's cursor
  (`loopPositions`, computed by the model's own loop) is parked in the pending-wrap column of the line above; the
  position-free `LineOkW` on every line implies it (`linesOkP_of_W`).  `DiffGrid2` (every line plain or frozen) and
  `DiffGrid` (no wrapped line) are the special cases in which the side conditions hold for trivial reasons.

  The two side conditions are sufficient, not necessary: a wrap flag cleared by an F8b pattern can be set again by a
  later autowrap (such pairs reproduce although they violate `noF8b`).  Screens must not be scrolled back (F9 / F12
  live there).

  Names: a `W` / `_w` marks the version with changed soft-wrapped lines beside DiffGrid2's `LineOk`, `Link`, `Links` (plain or
  frozen lines) and DiffGrid's `diff_rows_loop`; `At` = the F8a condition asked at one given cursor position, `P` = at the
  positions the loop takes (`loopPositions`); `B` = the Boolean mirror, sound by `…_of_B`.  Namespace `Vt.C02`, as in DiffIrrel,
  DiffPend and DiffWrap1 … DiffWrap3.
-/
import Vt.Props.DiffWrap3
import Vt.Props.C02b
import Vt.Props.InvAll
namespace Vt.C02
open Vt Vt.Recv Vt.C19 Vt.C09 Vt.RowDraw Vt.GridDraw Vt.Tok Vt.C03 Vt.C01 Vt.Bytes Vt.DiffRow Vt.C15wrap

variable {W : Nat → Option Nat} {cb : CbPolicy}

/-- the wrap flag of the line above line `i` (`false` for the first line): what the loop passes as `wrapping` -/
def wrapAbove (rows : List Row) (i : Nat) : Bool :=
  if i = 0 then false else ((rows[i - 1]?).map (·.wrapped)).getD false

theorem wrapAbove_succ (rows : List Row) (i : Nat) (hi : i < rows.length) : wrapAbove rows (i + 1) = rows[i].wrapped := by
  simp [wrapAbove, List.getElem?_eq_getElem hi]

theorem wrapAbove_pos (rows : List Row) (i : Nat) (h : wrapAbove rows i = true) :
    ∃ (_ : 0 < i) (hi : i - 1 < rows.length), rows[i - 1].wrapped = true := by
  unfold wrapAbove at h
  by_cases h0 : i = 0
  · simp [h0] at h
  · rw [if_neg h0] at h
    cases hr : rows[i - 1]? with
    | none => rw [hr] at h; simp at h
    | some r =>
      have hl := getElem?_lt hr
      rw [List.getElem?_eq_getElem hl] at h
      exact ⟨by omega, hl, by simpa using h⟩

theorem wrapAbove_eq (rows : List Row) (i : Nat) (h0 : 0 < i) (hi : i - 1 < rows.length) :
    wrapAbove rows i = rows[i - 1].wrapped := by
  unfold wrapAbove
  rw [if_neg (by omega), List.getElem?_eq_getElem hi]; rfl

/-- **line `i` of the pair is one the theorem handles**: no F8b pattern if the line is wrapped in both screens, no
F8a pattern if the line above is wrapped in both screens.  Nothing is asked of any other line. -/
def LineOkW (srows prows : List Row) (i : Nat) : Prop :=
  ∀ r p, srows[i]? = some r → prows[i]? = some p →
    (r.wrapped = true → p.wrapped = true → noF8b r.cells p.cells = true) ∧
    (wrapAbove srows i = true → wrapAbove prows i = true → NoPad r.cells p.cells)

/-- `LineOkW` with the F8a condition asked only where it matters: when the emitter's cursor `pp` at the start of the
line is parked in the pending-wrap column of the line above -/
def LineOkAt (srows prows : List Row) (cols i : Nat) (pp : Pos) : Prop :=
  ∀ r p, srows[i]? = some r → prows[i]? = some p →
    (r.wrapped = true → p.wrapped = true → noF8b r.cells p.cells = true) ∧
    (wrapAbove srows i = true → wrapAbove prows i = true → pp = ⟨i - 1, cols⟩ → NoPad r.cells p.cells)

theorem lineOkAt_of_W {srows prows : List Row} {i : Nat} (h : LineOkW srows prows i) (cols : Nat) (pp : Pos) :
    LineOkAt srows prows cols i pp := fun r p hr hp => ⟨(h r p hr hp).1, fun h1 h2 _ => (h r p hr hp).2 h1 h2⟩

/-- the emitter's cursor at the start of each line of the loop of `Grid::write_contents_diff` (as far as the loop
runs) -/
def loopPositions (cols : Nat) : List (Row × Row) → Nat → Bool → Bool → Pos → Attrs → List Pos
  | [], _, _, _, _, _ => []
  | (r, pr) :: rs, i, wrapping, prevWrapping, pp, pa =>
    pp :: (match r.writeContentsDiff pr 0 cols i wrapping prevWrapping pp pa with
      | .ok (_, np, na) => loopPositions cols rs (i + 1) r.wrapped pr.wrapped np na
      | .error _ => [])

/-- **every line of the pair of screens is one the theorem handles**: `LineOkAt` with the emitter's actual cursor -/
def LinesOkP (S P : Screen) : Prop :=
  ∀ k pos, (loopPositions S.cur.size.cols (S.cur.rows.zip P.cur.rows) 0 false false P.cur.pos P.attrs)[k]? = some pos →
    LineOkAt S.cur.rows P.cur.rows S.cur.size.cols k pos

theorem linesOkP_of_W {S P : Screen} (h : ∀ i, i < S.cur.rows.length → LineOkW S.cur.rows P.cur.rows i) : LinesOkP S P := by
  intro k pos _
  by_cases hk : k < S.cur.rows.length
  · exact lineOkAt_of_W (h k hk) _ _
  · intro r p hr _
    rw [List.getElem?_eq_none (by omega)] at hr
    exact absurd hr (by simp)

/-- the receiver between the lines of a diff: lines `< i` show the current screen, lines `≥ i` the previous one, wrap
flags included — except that the flag of line `i - 1`, when that line has just become wrapped, is still off: then the
cursor is in its pending-wrap column (`owe`) -/
structure RowsInvW (srows prows : List Row) (cols i : Nat) (pp : Pos) (R : RS) : Prop where
  canvas : Canvas R.g
  hcols : R.g.size.cols = cols
  nrows : R.g.size.rows = srows.length
  plen : prows.length = srows.length
  pos : R.g.pos = pp
  row : ∀ k (hk : k < srows.length), ∃ Rk, R.g.rows[k]? = some Rk ∧
    (k < i → Rk.cells.map view = srows[k].cells.map view ∧
      Rk.wrapped = (if k + 1 = i then (prows[k]'(by rw [plen]; exact hk)).wrapped && srows[k].wrapped else srows[k].wrapped)) ∧
    (i ≤ k → Rk.cells.map view = (prows[k]'(by rw [plen]; exact hk)).cells.map view ∧
      Rk.wrapped = (prows[k]'(by rw [plen]; exact hk)).wrapped)
  owe : ∀ (h0 : 0 < i) (hi : i ≤ srows.length), (srows[i - 1]'(by omega)).wrapped = true →
    (prows[i - 1]'(by rw [plen]; omega)).wrapped = false → pp = ⟨i - 1, cols⟩

/-- when the line above is wrapped in S it is flagged by the time line `i` has been written: the base state is `wrapBase` -/
theorem rowsInvW_next {srows prows : List Row} {cols i : Nat} {pp : Pos} {R : RS}
    (hinv : RowsInvW srows prows cols i pp R) (hi : i < srows.length) (hwd : srows[i].cells.length = cols)
    {Rp : Row} (hab : wrapAbove srows i = true → R.g.rows[i - 1]? = some Rp)
    {Ri : Row} {np : Pos} {na : Attrs} (hv : Ri.cells.map view = srows[i].cells.map view)
    (hw : Ri.wrapped = ((prows[i]'(by rw [hinv.plen]; exact hi)).wrapped && srows[i].wrapped))
    (hnp : srows[i].wrapped = true → (prows[i]'(by rw [hinv.plen]; exact hi)).wrapped = false → np = ⟨i, cols⟩) :
    RowsInvW srows prows cols (i + 1) np (shape (if wrapAbove srows i = true then wrapBase R i Rp else R) i Ri np na) := by
  have hRil : Ri.cells.length = R.g.size.cols := by
    have := congrArg List.length hv
    simp only [List.length_map] at this
    rw [this, hwd, hinv.hcols]
  -- the receiver before line `i` is written: as it was, but for the flag of the line above
  obtain ⟨B, hB, hBcv, hBsz, hBrow⟩ : ∃ B, B = (if wrapAbove srows i = true then wrapBase R i Rp else R) ∧ Canvas B.g ∧
      B.g.size = R.g.size ∧ ∀ k Rk, R.g.rows[k]? = some Rk → ∃ Rk', B.g.rows[k]? = some Rk' ∧ Rk'.cells = Rk.cells ∧
        Rk'.wrapped = (Rk.wrapped || (wrapAbove srows i && decide (k + 1 = i))) := by
    refine ⟨_, rfl, ?_⟩
    cases hwa : wrapAbove srows i with
    | false => exact ⟨hinv.canvas, rfl, fun k Rk h => ⟨Rk, h, rfl, by simp⟩⟩
    | true =>
      obtain ⟨h0, _, _⟩ := wrapAbove_pos srows i hwa
      refine ⟨wrapBase_canvas hinv.canvas i (hab hwa), rfl, fun k Rk h => ?_⟩
      simp only [↓reduceIte, wrapBase, Bool.true_and]
      by_cases hk : k + 1 = i
      · obtain rfl : k = i - 1 := by omega
        rw [hab hwa] at h
        cases h
        exact ⟨_, List.getElem?_set_self (getElem?_lt (hab hwa)), rfl, by simp [Row.wrap, hk]⟩
      · exact ⟨Rk, by rw [List.getElem?_set_ne (by omega)]; exact h, rfl, by simp [hk]⟩
  rw [← hB]
  have hil : i < B.g.rows.length := by rw [hBcv.alloc, hBsz, hinv.nrows]; exact hi
  refine ⟨shape_canvas hBcv (hBsz ▸ hRil) np na, (congrArg Size.cols hBsz).trans hinv.hcols,
    (congrArg Size.rows hBsz).trans hinv.nrows, hinv.plen, rfl, fun k hk => ?_, fun _ _ hs hp => ?_⟩
  · by_cases hki : k = i
    · subst hki
      refine ⟨Ri, ?_, fun _ => ⟨hv, by rw [if_pos rfl]; exact hw⟩, fun h => by omega⟩
      rw [shape_rows_get]; simp [hil]
    · obtain ⟨Rk, hRk, hlo, hhi⟩ := hinv.row k hk
      obtain ⟨Rk', hRk', hc, hwr⟩ := hBrow k Rk hRk
      refine ⟨Rk', by rw [shape_rows_get, if_neg (fun h => hki h.1)]; exact hRk', fun h => ?_, fun h => ?_⟩
      · obtain ⟨h1, h2⟩ := hlo (by omega)
        rw [if_neg (show ¬ k + 1 = i + 1 by omega), hc, hwr, h2]
        refine ⟨h1, ?_⟩
        by_cases hk1 : k + 1 = i
        · -- the line above: its flag is no longer owed
          subst hk1
          rw [if_pos rfl, wrapAbove_succ srows k hk]
          cases srows[k].wrapped <;> simp
        · simp [hk1]
      · obtain ⟨h1, h2⟩ := hhi (by omega)
        rw [hc, hwr, h2]
        exact ⟨h1, by simp [show k + 1 ≠ i by omega]⟩
  · simp only [Nat.add_sub_cancel] at hs hp
    exact hnp hs hp

/-- every line of the receiver is well formed: what the line theorems ask of the receiving line, and what the cursor
fix-up and the next diff ask of the lines already written -/
def AllWf (R : RS) : Prop := ∀ (k : Nat) Rk, R.g.rows[k]? = some Rk → LineWf Rk

theorem AllWf.next {i : Nat} {R : RS} (h : AllWf R) {c : Prop} [Decidable c] {Rp Ri : Row} {np : Pos} {na : Attrs}
    (hp : c → R.g.rows[i - 1]? = some Rp) (hi : LineWf Ri) :
    AllWf (shape (if c then wrapBase R i Rp else R) i Ri np na) := by
  have key : ∀ B : RS, AllWf B → AllWf (shape B i Ri np na) := fun B hB k Rk hRk => by
    rw [shape_rows_get] at hRk
    split at hRk
    · cases hRk; exact hi
    · exact hB k Rk hRk
  by_cases hc : c
  · rw [if_pos hc]
    refine key _ fun k Rk hRk => ?_
    simp only [wrapBase, List.getElem?_set] at hRk
    split at hRk
    · split at hRk
      · cases hRk; exact ⟨(h _ Rp (hp hc)).links, (h _ Rp (hp hc)).len22⟩
      · cases hRk
    · exact h k Rk hRk
  · rw [if_neg hc]; exact key _ h

/-- one line of the loop: `diff_line`, with the reason of `WrapsBy` read off `RowsInvW` — the line above shows P's flag when it is
wrapped in P too, else its flag is owed and the cursor is parked (`owe`) -/
theorem diff_rows_step_w (hW : WOk W) (p0 : Parser) (h0 : Ready p0)
    {srows prows : List Row} {cols : Nat} (hS : SrcRows W cols srows) (hP : SrcRows W cols prows)
    {i : Nat} (hi : i < srows.length) {pp : Pos} (hok : LineOkAt srows prows cols i pp) {R : RS} {out : List Nat}
    (hinv : RowsInvW srows prows cols i pp R) (hem : Emitted W cb p0 out R) (hwf : AllWf R) (hpp : pp.col ≤ cols) :
    ∃ bs np na R', srows[i].writeContentsDiff (prows[i]'(by rw [hinv.plen]; exact hi)) 0 cols i (wrapAbove srows i)
        (wrapAbove prows i) pp R.pen = .ok (bs, np, na) ∧
      Emitted W cb p0 (out ++ bs) R' ∧ R'.pen = na ∧ RowsInvW srows prows cols (i + 1) np R' ∧ AllWf R' ∧
      np.col ≤ cols ∧ R'.g.scrollbackOffset = R.g.scrollbackOffset ∧ (Attrs.wf R.pen → Attrs.wf na) := by
  -- the receiver is `rsOf p1.ws`, the parser after the bytes so far: the line theorems are stated on that
  obtain ⟨p1, e1, w1, r1⟩ := hem
  obtain rfl : rsOf p1.ws = R := by rw [w1, rsOf_withRS]
  obtain rfl := hinv.hcols
  obtain rfl := hinv.pos
  have hip : i < prows.length := by rw [hinv.plen]; exact hi
  have hmem : srows[i] ∈ srows := List.getElem_mem hi
  have hmemp : prows[i] ∈ prows := List.getElem_mem hip
  have hwd := hS.width _ hmem
  obtain ⟨Ri0, hRi0, _, hshow⟩ := hinv.row i hi
  obtain ⟨hnofb, hnopad⟩ := hok srows[i] prows[i] (List.getElem?_eq_getElem hi) (List.getElem?_eq_getElem hip)
  obtain ⟨Rp, hab⟩ : ∃ Rp, wrapAbove srows i = true → 1 ≤ i ∧ (rsOf p1.ws).g.rows[i - 1]? = some Rp ∧
      (∃ last, Rp.cells[(rsOf p1.ws).g.size.cols - 1]? = some last ∧ (last.hasContents || last.cont) = true) ∧
      WrapsBy (rsOf p1.ws).g.size.cols i srows[i].cells prows[i].cells (rsOf p1.ws).g.pos (wrapAbove prows i) Rp := by
    by_cases hwa : wrapAbove srows i = true
    · obtain ⟨hi0, hi1l, hsw⟩ := wrapAbove_pos srows i hwa
      obtain ⟨Rp, hRp, hRplo, _⟩ := hinv.row (i - 1) hi1l
      obtain ⟨hRpv, hRpw⟩ := hRplo (by omega)
      have hpa := wrapAbove_eq prows i hi0 (by rw [hinv.plen]; exact hi1l)
      rw [if_pos (Nat.sub_add_cancel hi0), hsw, Bool.and_true, ← hpa] at hRpw
      obtain ⟨last, hlast, hoccR⟩ := lastOcc_of_views hRpv (hS.wrapOcc _ (List.getElem_mem hi1l) hsw)
      rw [hS.width _ (List.getElem_mem hi1l)] at hlast
      refine ⟨Rp, fun _ => ⟨hi0, hRp, ⟨last, hlast, hoccR⟩, ?_⟩⟩
      -- wrapped in P too: the line above shows P's flag.  Else its flag is owed: the cursor is in its pending-wrap column
      cases hpw : wrapAbove prows i with
      | true => exact Or.inl ⟨rfl, hRpw.trans hpw, fun h _ => hnopad hwa hpw h⟩
      | false =>
        have howe := hinv.owe hi0 (Nat.le_of_lt hi) hsw (hpa ▸ hpw)
        by_cases hc : FirstChanged srows[i].cells prows[i].cells
        · exact Or.inr (Or.inl ⟨⟨_, howe, Or.inl rfl⟩, hc⟩)
        · exact Or.inr (Or.inr ⟨rfl, howe, hc⟩)
    · exact ⟨Ri0, fun h => absurd h hwa⟩
  obtain ⟨⟨bs, np, na⟩, eres, ⟨Ri, hemr, hv, hw, hlwf⟩, _, hnp, hpwf, hown⟩ := diff_line (cb := cb) hW p1 r1
    hinv.canvas i (by rw [hinv.nrows]; exact hi) srows[i] prows[i] hwd
    (hP.width _ hmemp) (hS.ok _ hmem) (hP.ok _ hmemp) Ri0 hRi0 (hshow (Nat.le_refl _)).1 (hwf i Ri0 hRi0)
    (hshow (Nat.le_refl _)).2 hpp
    (hS.wrapOcc _ hmem) (hP.wrapOcc _ hmemp) hnofb (wrapAbove srows i) (wrapAbove prows i) Rp hab
  rw [hwd] at eres
  refine ⟨bs, np, na, _, eres, emitted_comp h0 e1 w1 r1 hemr, rfl, rowsInvW_next hinv hi hwd (fun h => (hab h).2.1) hv hw hown,
    hwf.next (fun h => (hab h).2.1) hlwf, hnp, ?_, fun h => hpwf ?_⟩
  · show (if _ then _ else _ : RS).g.scrollbackOffset = _
    split <;> rfl
  · show Attrs.wf (if _ then _ else _ : RS).pen
    split <;> exact h

/-- **the loop of `Grid::write_contents_diff` from line `i` on**: `RowsInvW` and `AllWf` go from `i` to the last line.  The last
hypothesis asks `LineOkAt` of line `i + k` at the `k`-th position `loopPositions` computes from here: its head is this line's
cursor `pp`, and since it recurses on the result of this line's `writeContentsDiff` (`ewc`), its tail is the next call's list. -/
theorem diff_rows_loop_w (hW : WOk W) (p0 : Parser) (h0 : Ready p0)
    {srows prows : List Row} {cols : Nat} (hS : SrcRows W cols srows) (hP : SrcRows W cols prows)
    (hpl : prows.length = srows.length) :
    ∀ (rs : List (Row × Row)) (i : Nat) (pp : Pos) (out : List Nat) (R : RS),
    (srows.zip prows).drop i = rs → i ≤ srows.length →
    RowsInvW srows prows cols i pp R → Emitted W cb p0 out R → AllWf R → pp.col ≤ cols →
    (∀ k pos, (loopPositions cols rs i (wrapAbove srows i) (wrapAbove prows i) pp R.pen)[k]? = some pos →
      LineOkAt srows prows cols (i + k) pos) →
    ∃ out' pp' pa' R', Grid.diffRowsLoop cols rs i (wrapAbove srows i) (wrapAbove prows i) pp R.pen out = .ok (out', pp', pa') ∧
      Emitted W cb p0 out' R' ∧ R'.pen = pa' ∧ RowsInvW srows prows cols srows.length pp' R' ∧ AllWf R' ∧
      pp'.col ≤ cols ∧ R'.g.scrollbackOffset = R.g.scrollbackOffset ∧ (Attrs.wf R.pen → Attrs.wf pa')
  | [], i, pp, out, R, hrs, hil, hinv, hem, hb, hpp, _ => by
    obtain rfl := zip_drop_nil hpl hil hrs
    exact ⟨out, pp, R.pen, R, rfl, hem, rfl, hinv, hb, hpp, rfl, id⟩
  | (r, pr) :: rest, i, pp, out, R, hrs, hil, hinv, hem, hb, hpp, hokp => by
    obtain ⟨hi, rfl, rfl, hrest⟩ := zip_drop_cons hpl hrs
    have hip : i < prows.length := by rw [hpl]; exact hi
    obtain ⟨bs, np, na, R1, ewc, hem1, hpen1, hinv1, hb1, hnp1, hoff1, hwf1⟩ :=
      diff_rows_step_w hW p0 h0 hS hP hi (hokp 0 pp (by rw [loopPositions, List.getElem?_cons_zero])) hinv hem hb hpp
    have hnext : Grid.diffRowsLoop cols ((srows[i], prows[i]'hip) :: rest) i (wrapAbove srows i) (wrapAbove prows i) pp R.pen out =
        Grid.diffRowsLoop cols rest (i + 1) (wrapAbove srows (i + 1)) (wrapAbove prows (i + 1)) np R1.pen (out ++ bs) := by
      rw [Grid.diffRowsLoop, ewc, ok_bind, hpen1, wrapAbove_succ srows i hi, wrapAbove_succ prows i hip]
    obtain ⟨out', pp', pa', R', e', hem', hpen', hinv', hb', hpp', hoff', hwf'⟩ :=
      diff_rows_loop_w hW p0 h0 hS hP hpl rest (i + 1) np (out ++ bs) R1 hrest hi hinv1 hem1 hb1 hnp1
        (fun k pos hk => by
          rw [show i + 1 + k = i + (k + 1) by omega]
          refine hokp (k + 1) pos ?_
          rw [loopPositions, List.getElem?_cons_succ, ewc, ← wrapAbove_succ srows i hi,
            ← wrapAbove_succ prows i hip, ← hpen1]
          exact hk)
    exact ⟨out', pp', pa', R', hnext.trans e', hem', hpen', hinv', hb', hpp', hoff'.trans hoff1,
      fun h => hwf' (hpen1 ▸ hwf1 h)⟩

/-- **C02 on any receiver that reproduces `P`**, under any callback policy: `P` and `S` satisfy the invariants
(`SrcScreen`: every reachable screen that is not scrolled back), have the same size, and every line of the pair
satisfies `LineOkAt` at the emitter's cursor (`LinesOkP`).  Fed the bytes of `S.state_diff(P)`, the receiver reproduces
`S` and reports no event.  Nothing else is asked of the receiver: its lines are well formed because they show the lines
of `P` with full-size buffers (`Reproduces`), and every line the diff writes is again (`LineDoneWf`) -/
theorem state_diff_reproduces (hW : WOk W) {q : Parser} (P S : Screen) (hq : Reproduces q P)
    (hsz : S.cur.size = P.cur.size) (hS : SrcScreen W S) (hP : SrcScreen W P) (hok : LinesOkP S P) :
    ∃ bytes q', S.stateDiff P = .ok bytes ∧ q.process W cb bytes = .ok q' ∧ Reproduces q' S ∧
      q'.ws.events = q.ws.events := by
  have hpl : P.cur.rows.length = S.cur.rows.length := by rw [hP.alloc, hS.alloc, hsz]
  refine state_diff_of_rows (cb := cb) hW P S hq hS.off hP.off hS fun q1 e1 r1 hrs1 => ?_
  have hd := hq.drawn
  have hpen1 : (rsOf q1.ws).pen = P.attrs := by rw [hrs1]; exact hq.pen
  have hw0s : wrapAbove S.cur.rows 0 = false := rfl
  have hw0p : wrapAbove P.cur.rows 0 = false := rfl
  have hinvW : RowsInvW S.cur.rows P.cur.rows S.cur.size.cols 0 P.cur.pos (rsOf q1.ws) := by
    rw [hrs1]
    refine ⟨hd.canvas, by rw [hd.hcols, hsz], by rw [hd.nrows, hpl], hpl, hd.pos, ?_, fun h => absurd h (Nat.lt_irrefl 0)⟩
    intro k hk
    have hkp : k < P.cur.rows.length := by rw [hpl]; exact hk
    obtain ⟨Rk, hRk, hdone, _⟩ := hd.row k hkp
    obtain ⟨d1, _, d3⟩ := hdone hkp
    refine ⟨Rk, hRk, fun h => absurd h (Nat.not_lt_zero _), fun _ => ⟨d1, ?_⟩⟩
    rw [d3, if_neg (by simp)]
  have hwf1 : AllWf (rsOf q1.ws) := fun k Rk hRk => lineWf_of_drawn hd hP.rows.ok (hrs1 ▸ hRk)
  obtain ⟨out, np, na, R', eloop, hem', hpen', hinv', hwf', hnp, hoff', hwfna⟩ :=
    diff_rows_loop_w hW q1 r1 hS.rows (hsz ▸ hP.rows) hpl (S.cur.rows.zip P.cur.rows) 0 P.cur.pos []
      (rsOf q1.ws) rfl (Nat.zero_le _) hinvW (emitted_nil W cb q1 r1) hwf1
      (by rw [hsz]; exact hP.cur_col)
      (fun k pos hk => by
        rw [Nat.zero_add]
        rw [hw0s, hw0p, hpen1] at hk
        exact hok k pos hk)
  rw [hpen1, hw0s, hw0p] at eloop
  rw [hpen1] at hwfna
  refine ⟨out, np, na, R', eloop, hem', hpen', hwfna hP.pen_wf, ?_, hnp, hoff'⟩
  -- at the end of the loop no flag is owed: the last line of a screen is not wrapped
  refine ⟨hinv'.canvas, hinv'.hcols, hinv'.nrows, hinv'.pos, ?_, fun h => by simp at h⟩
  intro k hk
  obtain ⟨Rk, hRk, hlo, _⟩ := hinv'.row k hk
  obtain ⟨hv, hw⟩ := hlo hk
  refine ⟨Rk, hRk, fun _ => ⟨hv, (hwf' k Rk hRk).len22, ?_⟩, fun h => by omega⟩
  have hgoal : (if k + 1 = S.cur.rows.length ∧ false = true then false else S.cur.rows[k].wrapped) =
      S.cur.rows[k].wrapped := by simp
  rw [hgoal, hw]
  by_cases hk1 : k + 1 = S.cur.rows.length
  · rw [if_pos hk1]
    have hlastu : S.cur.rows[k].wrapped = false := by
      apply hS.rows.lastUnwrapped
      rw [List.getLast?_eq_getElem?, ← hk1]
      simp [List.getElem?_eq_getElem hk]
    rw [hlastu]; simp
  · rw [if_neg hk1]

/-- **C02 with changed soft-wrapped lines**, in the form that chains on the parser invariant: `state_diff_reproduces` for a
receiver that satisfies it; the bytes of a diff keep it (`parserInv_of_emitted`) -/
theorem state_diff_wrapped (hW : WOk W) (hcb : C13.CbInv W cb) {q : Parser} (P S : Screen) (hq : Reproduces q P)
    (hqi : C13.ParserInv W q) (hsz : S.cur.size = P.cur.size) (hS : SrcScreen W S) (hP : SrcScreen W P)
    (hok : LinesOkP S P) :
    ∃ bytes q', S.stateDiff P = .ok bytes ∧ q.process W cb bytes = .ok q' ∧ Reproduces q' S ∧ C13.ParserInv W q' ∧
      q'.ws.events = q.ws.events := by
  obtain ⟨bytes, q', ebytes, eproc, hrep, hev⟩ := state_diff_reproduces (cb := cb) hW P S hq hsz hS hP hok
  exact ⟨bytes, q', ebytes, eproc, hrep, parserInv_of_emitted hW.space hcb hqi (stateDiff_bytes' S P ebytes) eproc, hev⟩

theorem reproduces_of_redraw_inv (hW : WOk W) (hcb : C13.CbInv W cb) (P : Screen) (hinv : emitInvB W P = true)
    (hoff : P.cur.scrollbackOffset = 0) (sb : Nat) :
    ∃ q bytes q', Parser.new P.cur.size.rows P.cur.size.cols sb = .ok q ∧ P.stateFormatted = .ok bytes ∧
      q.process W cb bytes = .ok q' ∧ Reproduces q' P ∧ C13.ParserInv W q' ∧ q'.ws.events = [] := by
  obtain ⟨q, b1, q1, enew, eb1, ep1, hrep, hev⟩ := fresh_redraw (cb := cb) hW P hinv hoff sb
  obtain ⟨hcg, _⟩ := (screenInv_of_emitInvB hinv).cur
  obtain ⟨q0, e0, i0⟩ := C13.new_parserInv (W := W) P.cur.size.rows P.cur.size.cols sb hcg.rows_pos hcg.cols_pos
    hcg.rows_u16 hcg.cols_u16
  cases enew.symm.trans e0
  exact ⟨q, b1, q1, enew, eb1, ep1, hrep, parserInv_of_emitted hW.space hcb i0 (stateFormatted_bytes' P eb1) ep1, hev⟩

def feedDiffs (W : Nat → Option Nat) (cb : CbPolicy) : Parser → Screen → List Screen → M Parser
  | q, _, [] => pure q
  | q, prev, S :: rest => do
    let bytes ← S.stateDiff prev
    let q' ← q.process W cb bytes
    feedDiffs W cb q' S rest

/-- one link of a chain: what `state_diff_reproduces` asks of a pair of screens, each part decidable (`linkWB`) -/
structure LinkW (W : Nat → Option Nat) (P S : Screen) : Prop where
  invP : emitInvB W P = true
  invS : emitInvB W S = true
  offP : P.cur.scrollbackOffset = 0
  offS : S.cur.scrollbackOffset = 0
  size : S.cur.size = P.cur.size
  lines : LinesOkP S P

/-- `LinkW` between consecutive screens of `P :: Ss` (nothing to do with `Vt.Links`, the pairing of wide cells) -/
def LinksW (W : Nat → Option Nat) : Screen → List Screen → Prop
  | _, [] => True
  | P, S :: rest => LinkW W P S ∧ LinksW W S rest

/-- **C02 along chains, changed soft-wrapped lines included** -/
theorem chain_wrapped (hW : WOk W) (hcb : C13.CbInv W cb) :
    ∀ (Ss : List Screen) (q : Parser) (P : Screen), Reproduces q P → C13.ParserInv W q → LinksW W P Ss →
      ∃ q', feedDiffs W cb q P Ss = .ok q' ∧ Reproduces q' ((P :: Ss).getLast (by simp)) ∧ C13.ParserInv W q' ∧
        q'.ws.events = q.ws.events
  | [], q, P, hq, hqi, _ => ⟨q, rfl, by simpa using hq, hqi, rfl⟩
  | S :: rest, q, P, hq, hqi, hl => by
    obtain ⟨hPS, hrest⟩ := hl
    obtain ⟨bytes, q1, eb, ep, hrep, hinv1, hev⟩ := state_diff_wrapped (cb := cb) hW hcb P S hq hqi hPS.size
      (srcScreen_of_inv hPS.invS hPS.offS) (srcScreen_of_inv hPS.invP hPS.offP) hPS.lines
    obtain ⟨q', e', hrep', hinv', hev'⟩ := chain_wrapped hW hcb rest q1 S hrep hinv1 hrest
    refine ⟨q', ?_, ?_, hinv', hev'.trans hev⟩
    · simp only [feedDiffs, eb, ok_bind, ep]
      exact e'
    · rw [List.getLast_cons (by simp)]
      exact hrep'

/- The Boolean mirrors.  The driver (Main.lean) evaluates the position-free `linesOkWB`; `linkWB`, with the positional
`linesOkPB`, is what the non-vacuity theorems below evaluate. -/

def lineOkWB (srows prows : List Row) (i : Nat) : Bool :=
  match srows[i]?, prows[i]? with
  | some r, some p =>
    (!(r.wrapped && p.wrapped) || noF8b r.cells p.cells) &&
      (!(wrapAbove srows i && wrapAbove prows i) || decide (NoPad r.cells p.cells))
  | _, _ => true

theorem lineOkW_of_B {srows prows : List Row} {i : Nat} (h : lineOkWB srows prows i = true) : LineOkW srows prows i := by
  intro r p hr hp
  unfold lineOkWB at h
  rw [hr, hp] at h
  simp only [Bool.and_eq_true, Bool.or_eq_true, Bool.not_eq_true', Bool.and_eq_false_imp, decide_eq_true_eq] at h
  refine ⟨fun h1 h2 => ?_, fun h1 h2 => ?_⟩
  · rcases h.1 with h' | h'
    · rw [h' h1] at h2; exact absurd h2 (by simp)
    · exact h'
  · rcases h.2 with h' | h'
    · rw [h' h1] at h2; exact absurd h2 (by simp)
    · exact h'

def lineOkAtB (srows prows : List Row) (cols i : Nat) (pp : Pos) : Bool :=
  match srows[i]?, prows[i]? with
  | some r, some p =>
    (!(r.wrapped && p.wrapped) || noF8b r.cells p.cells) &&
      (!(wrapAbove srows i && wrapAbove prows i && decide (pp = ⟨i - 1, cols⟩)) || decide (NoPad r.cells p.cells))
  | _, _ => true

theorem lineOkAt_of_B {srows prows : List Row} {cols i : Nat} {pp : Pos} (h : lineOkAtB srows prows cols i pp = true) :
    LineOkAt srows prows cols i pp := by
  intro r p hr hp
  unfold lineOkAtB at h
  rw [hr, hp] at h
  simp only [Bool.and_eq_true, Bool.or_eq_true, Bool.not_eq_true', Bool.and_eq_false_imp, decide_eq_true_eq,
    decide_eq_false_iff_not] at h
  refine ⟨fun h1 h2 => ?_, fun h1 h2 h3 => ?_⟩
  · rcases h.1 with h' | h'
    · rw [h' h1] at h2; exact absurd h2 (by simp)
    · exact h'
  · rcases h.2 with h' | h'
    · exact absurd h3 (h' ⟨h1, h2⟩)
    · exact h'

def linesOkPB (S P : Screen) : Bool :=
  let L := loopPositions S.cur.size.cols (S.cur.rows.zip P.cur.rows) 0 false false P.cur.pos P.attrs
  (List.range L.length).all (fun k =>
    match L[k]? with
    | some pos => lineOkAtB S.cur.rows P.cur.rows S.cur.size.cols k pos
    | none => true)

theorem linesOkP_of_B {S P : Screen} (h : linesOkPB S P = true) : LinesOkP S P := by
  intro k pos hk
  unfold linesOkPB at h
  simp only [List.all_eq_true, List.mem_range] at h
  have := h k (getElem?_lt hk)
  rw [hk] at this
  exact lineOkAt_of_B this

def linesOkWB (S P : Screen) : Bool := (List.range S.cur.rows.length).all (lineOkWB S.cur.rows P.cur.rows)

theorem linesOkW_of_B {S P : Screen} (h : linesOkWB S P = true) : ∀ i, i < S.cur.rows.length → LineOkW S.cur.rows P.cur.rows i := by
  intro i hi
  unfold linesOkWB at h
  rw [List.all_eq_true] at h
  exact lineOkW_of_B (h i (List.mem_range.mpr hi))

/-- **C02, as the property states it, with changed soft-wrapped lines**: a new parser fed `S0.state_formatted()` and
then the diffs of any chain of snapshots whose links satisfy `LinkW` ends in the observable state of the last one, and
reports no event -/
theorem diff_chain_after_redraw_wrapped (hW : WOk W) (hcb : C13.CbInv W cb) (S0 : Screen) (Ss : List Screen)
    (h0 : emitInvB W S0 = true) (hoff0 : S0.cur.scrollbackOffset = 0) (hl : LinksW W S0 Ss)
    (hlast : emitInvB W ((S0 :: Ss).getLast (by simp)) = true ∧ ((S0 :: Ss).getLast (by simp)).cur.scrollbackOffset = 0)
    (sb : Nat) :
    ∃ q b0 q0 qn, Parser.new S0.cur.size.rows S0.cur.size.cols sb = .ok q ∧ S0.stateFormatted = .ok b0 ∧
      q.process W cb b0 = .ok q0 ∧ feedDiffs W cb q0 S0 Ss = .ok qn ∧
      obs qn.screen = obs ((S0 :: Ss).getLast (by simp)) ∧ qn.ws.events = [] := by
  obtain ⟨q, b0, q0, enew, eb0, ep0, hrep0, hinv0, hev0⟩ := reproduces_of_redraw_inv (cb := cb) hW hcb S0 h0 hoff0 sb
  obtain ⟨qn, en, hrepn, _, hevn⟩ := chain_wrapped (cb := cb) hW hcb Ss q0 S0 hrep0 hinv0 hl
  have hSl := srcScreen_of_inv hlast.1 hlast.2
  refine ⟨q, b0, q0, qn, enew, eb0, ep0, en, shows_obs (shows_of_reproduces hrepn hSl.alloc) hrepn.modes hlast.2, ?_⟩
  rw [hevn, hev0]

def linkWB (P S : Screen) : Bool :=
  emitInvB W0 P && emitInvB W0 S && P.cur.scrollbackOffset == 0 && S.cur.scrollbackOffset == 0 &&
    S.cur.size == P.cur.size && linesOkPB S P

theorem linkW_of_B {P S : Screen} (h : linkWB P S = true) : LinkW W0 P S := by
  simp only [linkWB, Bool.and_eq_true, beq_iff_eq] at h
  obtain ⟨⟨⟨⟨⟨h1, h2⟩, h3⟩, h4⟩, h5⟩, h6⟩ := h
  exact ⟨h1, h2, h3, h4, h5, linesOkP_of_B h6⟩

def changedWrappedLine (P S : Screen) (i : Nat) : Bool :=
  match S.cur.rows[i]?, P.cur.rows[i]? with
  | some r, some p => (r.wrapped || p.wrapped || wrapAbove S.cur.rows i) && (r.cells.map view != p.cells.map view)
  | _, _ => false

/-- non-vacuity 1 — a paragraph grows: P = "abcdefgh" on 3x6 (line 0 wrapped), S = P then "ijklmnop" (lines 0 and 1
wrapped, line 1 has JUST become wrapped: its flag is owed, `diffStart` does not fire since line 2's first cell is
changed; lines 1 and 2 are changed and follow a wrapped line) -/
theorem linkW_nonvacuous_grow :
    isOkTrue (do
      let p ← C02.run 3 6 0 [[97, 98, 99, 100, 101, 102, 103, 104]]
      let s ← p.process W0 cbNone [105, 106, 107, 108, 109, 110, 111, 112]
      pure (linkWB p.screen s.screen && changedWrappedLine p.screen s.screen 1 && changedWrappedLine p.screen s.screen 2 &&
        ((s.screen.cur.rows[1]?).map (·.wrapped)).getD false && !((p.screen.cur.rows[1]?).map (·.wrapped)).getD false)) = true := by
  decide +kernel

/-- non-vacuity 2 — editing inside a wrapped paragraph: both screens show a paragraph wrapped over lines 0-1-2 of a
3x5 screen; S has a character of line 0 replaced, a wide character typed on line 1 (both lines wrapped in P and S, both
changed), and line 2 rewritten from its second column with a blank erased at its end -/
theorem linkW_nonvacuous_edit :
    isOkTrue (do
      let p ← C02.run 3 5 0 [[97, 98, 99, 100, 101, 102, 103, 104, 105, 106, 107, 108, 109]]
      let s ← p.process W0 cbNone [0x1b, 0x5b, 0x31, 0x3b, 0x32, 0x48, 120, 0x1b, 0x5b, 0x32, 0x3b, 0x32, 0x48, 0xe4, 0xb8, 0x80,
        0x1b, 0x5b, 0x33, 0x3b, 0x32, 0x48, 121, 0x1b, 0x5b, 0x58]
      pure (linkWB p.screen s.screen && changedWrappedLine p.screen s.screen 0 && changedWrappedLine p.screen s.screen 1 &&
        changedWrappedLine p.screen s.screen 2 &&
        ((s.screen.cur.rows[0]?).map (·.wrapped)).getD false && ((p.screen.cur.rows[0]?).map (·.wrapped)).getD false &&
        ((s.screen.cur.rows[1]?).map (·.wrapped)).getD false && ((p.screen.cur.rows[1]?).map (·.wrapped)).getD false)) = true := by
  decide +kernel

/-- non-vacuity 3 — a wrapped line becomes unwrapped (EL in the middle of line 0 of a wrapped paragraph), and a line
that was not wrapped becomes wrapped by typing over its end -/
theorem linkW_nonvacuous_flags :
    isOkTrue (do
      let p ← C02.run 4 4 0 [[97, 98, 99, 100, 101, 102, 13, 10, 103, 104]]
      let s ← p.process W0 cbNone [105, 106, 107, 0x1b, 0x5b, 0x31, 0x3b, 0x33, 0x48, 0x1b, 0x5b, 0x4b]
      pure (linkWB p.screen s.screen && changedWrappedLine p.screen s.screen 0 &&
        ((p.screen.cur.rows[0]?).map (·.wrapped)).getD false && !((s.screen.cur.rows[0]?).map (·.wrapped)).getD false &&
        !((p.screen.cur.rows[2]?).map (·.wrapped)).getD false && ((s.screen.cur.rows[2]?).map (·.wrapped)).getD false)) = true := by
  decide +kernel

/-- non-vacuity 4 — where `LinesOkP` is weaker than `LineOkW` on every line: "abcdefgh" wraps on a 3x4 screen; S has
the third cell of line 1 erased (the first changed cell of a line that follows a line wrapped in both screens is a blank
in column 2: `NoPad` fails, `linesOkWB` is false) — but the emitter's cursor is not parked at the end of line 0 (nothing
was written for line 0, the cursor is where P's cursor was), so no padding is emitted and `LinesOkP` holds -/
theorem linkW_nonvacuous_positional :
    isOkTrue (do
      let p ← C02.run 3 4 0 [[97, 98, 99, 100, 101, 102, 103, 104]]
      let s ← p.process W0 cbNone [0x1b, 0x5b, 0x32, 0x3b, 0x33, 0x48, 0x1b, 0x5b, 0x58]
      pure (linkWB p.screen s.screen && !linesOkWB s.screen p.screen && changedWrappedLine p.screen s.screen 1)) = true := by
  decide +kernel

/-- the F8a witness pair (2x2, "jwme" then "m") does NOT satisfy the side conditions: line 1 follows a line wrapped in
both screens and its first changed cell is a blank in column 1 (`NoPad` fails) -/
theorem F8a_excluded :
    isOkTrue (do
      let p ← C02.run 2 2 0 [[106, 119, 109, 101]]
      let s ← p.process W0 cbNone [109]
      pure (!linesOkPB s.screen p.screen && !linesOkWB s.screen p.screen && !lineOkWB s.screen.cur.rows p.screen.cur.rows 1 &&
        lineOkWB s.screen.cur.rows p.screen.cur.rows 0)) = true := by
  decide +kernel

/-- the F8b witness pair (3x4, P = "ab一c", S = "ab" CUF "x" "c") does NOT satisfy the side conditions: line 0 is wrapped
in both screens, P has a wide character in column 2 = cols-2 and S a blank there (`noF8b` fails) -/
theorem F8b_excluded :
    isOkTrue (do
      let p ← C02.run 3 4 0 [[97, 98, 0xE4, 0xB8, 0x80, 99]]
      let s ← C02.run 3 4 0 [[97, 98, 0x1b, 0x5b, 0x43, 120, 99]]
      pure (!linesOkPB s.screen p.screen && !linesOkWB s.screen p.screen && !lineOkWB s.screen.cur.rows p.screen.cur.rows 0)) = true := by
  decide +kernel

/-- the other F8b pattern (3x5, P = "abc一d", S = "ab一zd": a wide character typed at cols-3 over a wide character at
cols-2) is excluded too -/
theorem F8b2_excluded :
    isOkTrue (do
      let p ← C02.run 3 5 0 [[97, 98, 99, 0xE4, 0xB8, 0x80, 100]]
      let s ← C02.run 3 5 0 [[97, 98, 0xE4, 0xB8, 0x80, 122, 100]]
      pure (!linesOkPB s.screen p.screen && !linesOkWB s.screen p.screen && !lineOkWB s.screen.cur.rows p.screen.cur.rows 0 &&
        isOkFalse (diffReproduces p.screen s.screen))) = true := by
  decide +kernel

/-- the theorem APPLIED to the pair of `linkW_nonvacuous_grow` (a wrapped paragraph that grows by two lines; callbacks
`cbNone`, width function `W0`): a new parser fed `P.state_formatted()` and then `S.state_diff(P)` ends in the observable
state of `S` — by `diff_chain_after_redraw_wrapped`, not by evaluation -/
theorem diff_grow_instance (p s : Parser) (e1 : C02.run 3 6 0 [[97, 98, 99, 100, 101, 102, 103, 104]] = .ok p)
    (e2 : p.process W0 cbNone [105, 106, 107, 108, 109, 110, 111, 112] = .ok s) (sb : Nat) :
    ∃ q b0 q0 qn, Parser.new p.screen.cur.size.rows p.screen.cur.size.cols sb = .ok q ∧ p.screen.stateFormatted = .ok b0 ∧
      q.process W0 cbNone b0 = .ok q0 ∧ feedDiffs W0 cbNone q0 p.screen [s.screen] = .ok qn ∧
      obs qn.screen = obs s.screen ∧ qn.ws.events = [] := by
  have h := linkW_nonvacuous_grow
  simp only [e1, e2, ok_bind, pure_eq_ok, isOkTrue, Bool.and_eq_true] at h
  have hl := linkW_of_B h.1.1.1.1
  exact diff_chain_after_redraw_wrapped (cb := cbNone) C01.wOk_W0 InvAll.cbNone_all.1 p.screen [s.screen] hl.invP hl.offP
    ⟨hl, trivial⟩ ⟨hl.invS, hl.offS⟩ sb

end Vt.C02
