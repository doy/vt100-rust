/-
  C02 along a history: the snapshots are the screens a parser passes through (after each segment of
  `process` / `set_size` / `set_scrollback` calls, starting from `Parser::new`); every such screen satisfies the
  invariants (`reachable_emitInv`), so `diff_chain_after_redraw` applies with no hypothesis on the screens other
  than the three the theorem is about: not scrolled back, one size, no soft-wrapped line.
-/
import Vt.Props.DiffGrid
import Vt.Props.InvAll
namespace Vt.C02
open Vt Vt.C13 Vt.C19 Vt.InvX Vt.InvF Vt.InvAll Vt.Recv Vt.C01

variable {W : Nat → Option Nat}

def snapshots (W : Nat → Option Nat) (cb : CbPolicy) : Parser → List (List Op) → M (List Screen)
  | _, [] => pure []
  | p, seg :: rest => do
    let p' ← seg.foldlM (applyOp W cb) p
    let tl ← snapshots W cb p' rest
    pure (p'.ws.screen :: tl)

/-- some history of valid calls leads from `Parser::new rows cols sb` to `p`: what the induction over the segments
of `snapshots` carries (`reached_seg`) -/
def Reached (W : Nat → Option Nat) (cb : CbPolicy) (rows cols sb : Nat) (p : Parser) : Prop :=
  ∃ ops : List Op, (∀ op ∈ ops, op.Valid) ∧
    (Parser.new rows cols sb >>= fun p0 => ops.foldlM (applyOp W cb) p0) = .ok p

/-- a further segment runs, and where it leads is reached by the lengthened history: totality and the invariants at every
snapshot both come from `reachable_emitInv` -/
theorem reached_seg (hW32 : W 32 = some 1) {cb : CbPolicy} (hcb : CbInv W cb) (hcx : CbX W cb) (hcf : CbF W cb)
    {rows cols sb : Nat} (hr : 1 ≤ rows) (hc : 1 ≤ cols) (hr' : rows ≤ 65535) (hc' : cols ≤ 65535) {p : Parser}
    (h : Reached W cb rows cols sb p) {seg : List Op} (hv : ∀ op ∈ seg, op.Valid) :
    ∃ p', seg.foldlM (applyOp W cb) p = .ok p' ∧ Reached W cb rows cols sb p' ∧ emitInvB W p'.ws.screen = true := by
  obtain ⟨ops, hvo, eo⟩ := h
  have hva : ∀ op ∈ ops ++ seg, op.Valid := fun op ho => (List.mem_append.mp ho).elim (hvo op) (hv op)
  obtain ⟨p', e', _, he⟩ := reachable_emitInv hW32 hcb hcx hcf rows cols sb hr hc hr' hc' (ops ++ seg) hva
  refine ⟨p', ?_, ⟨ops ++ seg, hva, e'⟩, he⟩
  obtain ⟨q0, en, ef⟩ := bind_eq_ok.mp eo
  rw [en] at e'
  simpa only [ok_bind, List.foldlM_append, ef] using e'

theorem snapshots_inv (hW32 : W 32 = some 1) {cb : CbPolicy} (hcb : CbInv W cb) (hcx : CbX W cb) (hcf : CbF W cb)
    {rows cols sb : Nat} (hr : 1 ≤ rows) (hc : 1 ≤ cols) (hr' : rows ≤ 65535) (hc' : cols ≤ 65535) :
    ∀ (segs : List (List Op)) (p : Parser), Reached W cb rows cols sb p → (∀ seg ∈ segs, ∀ op ∈ seg, op.Valid) →
      ∃ Ss, snapshots W cb p segs = .ok Ss ∧ ∀ S ∈ Ss, emitInvB W S = true
  | [], p, _, _ => ⟨[], rfl, fun S hS => absurd hS (by simp)⟩
  | seg :: rest, p, hp, hv => by
    obtain ⟨p1, e1, hp1, he1⟩ := reached_seg hW32 hcb hcx hcf hr hc hr' hc' hp (hv seg (List.mem_cons_self ..))
    obtain ⟨tl, e2, h2⟩ := snapshots_inv hW32 hcb hcx hcf hr hc hr' hc' rest p1 hp1
      (fun s hs => hv s (List.mem_cons_of_mem _ hs))
    refine ⟨p1.ws.screen :: tl, by simp only [snapshots, e1, ok_bind, e2, pure_eq_ok], fun S hS => ?_⟩
    rcases List.mem_cons.mp hS with h | h
    · rw [h]; exact he1
    · exact h2 S h

/-- **C02 for snapshot chains along a history**: from `Parser::new`, any valid operations `seg0` lead to the first
snapshot `S0`, further segments `segs` to the snapshots `Ss`.  If none of these screens is scrolled back, all have
the size of `S0`, and none has a soft-wrapped line, then a new parser fed `S0.state_formatted()` and then
`diff(S1,S0)`, `diff(S2,S1)`, … ends in the observable state of the last snapshot and reports no event.
(`cbS` is the sender's callback policy, `cbR` the receiver's.) -/
theorem diff_chain_along_history (hW : WOk W) {cbS cbR : CbPolicy} (hcb : CbInv W cbS) (hcx : CbX W cbS) (hcf : CbF W cbS)
    (hcbR : CbInv W cbR) (rows cols sb : Nat) (hr : 1 ≤ rows) (hc : 1 ≤ cols) (hr' : rows ≤ 65535) (hc' : cols ≤ 65535)
    (seg0 : List Op) (segs : List (List Op)) (hv0 : ∀ op ∈ seg0, op.Valid) (hv : ∀ seg ∈ segs, ∀ op ∈ seg, op.Valid) :
    ∃ p0 Ss, (Parser.new rows cols sb >>= fun p => seg0.foldlM (applyOp W cbS) p) = .ok p0 ∧
      snapshots W cbS p0 segs = .ok Ss ∧
      ((∀ S ∈ p0.ws.screen :: Ss, S.cur.scrollbackOffset = 0 ∧ S.cur.size = p0.ws.screen.cur.size ∧
          ∀ r ∈ S.cur.rows, r.wrapped = false) →
        ∀ sbR, ∃ q b0 q0 qn, Parser.new p0.ws.screen.cur.size.rows p0.ws.screen.cur.size.cols sbR = .ok q ∧
          p0.ws.screen.stateFormatted = .ok b0 ∧ q.process W cbR b0 = .ok q0 ∧
          feedDiffs W cbR q0 p0.ws.screen Ss = .ok qn ∧
          obs qn.screen = obs ((p0.ws.screen :: Ss).getLast (by simp)) ∧ qn.ws.events = []) := by
  obtain ⟨p0, e0, _, he0⟩ := reachable_emitInv hW.space hcb hcx hcf rows cols sb hr hc hr' hc' seg0 hv0
  have hp0 : Reached W cbS rows cols sb p0 := ⟨seg0, hv0, e0⟩
  obtain ⟨Ss, es, hall⟩ := snapshots_inv hW.space hcb hcx hcf hr hc hr' hc' segs p0 hp0 hv
  refine ⟨p0, Ss, e0, es, fun hcond sbR => ?_⟩
  have h0 := hcond p0.ws.screen (List.mem_cons_self ..)
  exact diff_chain_after_redraw (cb := cbR) hW hcbR p0.ws.screen Ss ⟨he0, h0.1, rfl, h0.2.2⟩
    (fun S hS => by
      have := hcond S (List.mem_cons_of_mem _ hS)
      exact ⟨hall S hS, this.1, this.2.1, this.2.2⟩) sbR

/-- non-vacuity: the model's callback policies satisfy the hypotheses on both sides -/
example : (CbInv W0 cbNone ∧ CbX W0 cbNone ∧ CbF W0 cbNone) ∧ (CbInv W0 cbResize ∧ CbX W0 cbResize ∧ CbF W0 cbResize) ∧
    WOk W0 := ⟨cbNone_all, cbResize_all, C01.wOk_W0⟩

end Vt.C02
