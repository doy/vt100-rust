import Vt.Props.C10b
import Vt.Props.InvPerform
import Vt.Lemmas.Modes
import Vt.Lemmas.WPred
import Vt.Lemmas.PerformCases
/-
  C10 (frame) — the six terminal modes under ARBITRARY input.

  `Modes`, `modesOf`, `setEff`, `rstEff` are defined in Lemmas/Modes.lean; `modesOf s` is what `Screen::application_keypad()`,
  `application_cursor()`, `hide_cursor()`, `bracketed_paste()`, `mouse_protocol_mode()`, `mouse_protocol_encoding()` return.
  `modeEffect a` is the effect of one vte action on them, a pure function `Modes → Modes` that looks at nothing else of the
  screen; after any actions / any byte chunk the modes are the fold of `modeEffect` (`perform_modes`, `actions_modes`,
  `process_modes`), so each component is what the LAST action that assigns it made it (`last_wins`).  In a DECSET / DECRST
  list every parameter other than 1, 9, 25, 1000, 1002, 1003, 1005, 1006, 2004 — unknown numbers, multi-value parameters
  (`1:2`), and also 6, 47, 1049 — is the identity.
-/
namespace Vt.C10
open Vt Vt.C12

/-- the modes of a new `Parser` and after RIS -/
def Modes.initial : Modes := ⟨false, false, false, false, .none, .default⟩

def modeEffect (a : Action) (m : Modes) : Modes :=
  match a with
  | .escDispatch ints _ b =>
    if ints = [] then
      if b = 61 then { m with appKeypad := true }
      else if b = 62 then { m with appKeypad := false }
      else if b = 99 then Modes.initial
      else m
    else m
  | .csiDispatch params ints _ c =>
    if ints.head? = some 63 then
      if c = 104 then params.foldl (fun m p => setEff p m) m
      else if c = 108 then params.foldl (fun m p => rstEff p m) m
      else m
    else m
  | _ => m

/-- the actions that can change a mode: `ESC =`, `ESC >`, `ESC c`, `CSI ? … h`, `CSI ? … l` -/
def touches : Action → Bool
  | .escDispatch ints _ b => ints == [] && (b == 61 || b == 62 || b == 99)
  | .csiDispatch _ ints _ c => ints.head? == some 63 && (c == 104 || c == 108)
  | _ => false

theorem modeEffect_deckpam (ig : Bool) (m : Modes) :
    modeEffect (.escDispatch [] ig 61) m = { m with appKeypad := true } := rfl
theorem modeEffect_deckpnm (ig : Bool) (m : Modes) :
    modeEffect (.escDispatch [] ig 62) m = { m with appKeypad := false } := rfl
theorem modeEffect_ris (ig : Bool) (m : Modes) :
    modeEffect (.escDispatch [] ig 99) m = Modes.initial := rfl
theorem modeEffect_decset (params : List (List Nat)) (rest : List Nat) (ig : Bool) (m : Modes) :
    modeEffect (.csiDispatch params (63 :: rest) ig 104) m = params.foldl (fun m p => setEff p m) m := rfl
theorem modeEffect_decrst (params : List (List Nat)) (rest : List Nat) (ig : Bool) (m : Modes) :
    modeEffect (.csiDispatch params (63 :: rest) ig 108) m = params.foldl (fun m p => rstEff p m) m := rfl

theorem modeEffect_frame (a : Action) (h : touches a = false) (m : Modes) : modeEffect a m = m := by
  cases a with
  | escDispatch ints ig b =>
    simp only [touches, Bool.and_eq_false_iff, Bool.or_eq_false_iff, beq_eq_false_iff_ne, ne_eq] at h
    simp only [modeEffect]
    by_cases hi : ints = []
    · rcases h with h | ⟨⟨h1, h2⟩, h3⟩
      · exact absurd hi h
      · simp only [hi, ↓reduceIte, h1, h2, h3]
    · simp only [hi, ↓reduceIte]
  | csiDispatch params ints ig c =>
    simp only [touches, Bool.and_eq_false_iff, Bool.or_eq_false_iff, beq_eq_false_iff_ne, ne_eq] at h
    simp only [modeEffect]
    by_cases hi : ints.head? = some 63
    · rcases h with h | ⟨h1, h2⟩
      · exact absurd hi h
      · simp only [hi, ↓reduceIte, h1, h2]
    · simp only [hi, ↓reduceIte]
  | _ => rfl

/-- `?47` and `?1049` (set or reset) touch none of the six modes: they only switch the
alternate-screen flag (and, for 1049, save / restore the cursor: C11) -/
theorem alt_flag_only (m : Modes) :
    setEff [47] m = m ∧ setEff [1049] m = m ∧ rstEff [47] m = m ∧ rstEff [1049] m = m ∧
    setEff [6] m = m ∧ rstEff [6] m = m :=
  ⟨rfl, rfl, rfl, rfl, rfl, rfl⟩

def mouseOfParam (p : List Nat) : Option MouseMode :=
  match p with
  | [9] => some .press
  | [1000] => some .pressRelease
  | [1002] => some .buttonMotion
  | [1003] => some .anyMotion
  | _ => none

def encOfParam (p : List Nat) : Option MouseEnc :=
  match p with
  | [1005] => some .utf8
  | [1006] => some .sgr
  | _ => none

theorem mouseOfParam_other {p : List Nat} (h : modeParam p = false) : mouseOfParam p = none := by
  unfold mouseOfParam
  split <;> first | cases h | rfl

theorem encOfParam_other {p : List Nat} (h : modeParam p = false) : encOfParam p = none := by
  unfold encOfParam
  split <;> first | cases h | rfl

theorem clrMode_eq (m : Modes) (x : MouseMode) :
    clrMode m x = { m with mouseMode := if some m.mouseMode = some x then .none else m.mouseMode } := by
  unfold clrMode
  by_cases h : m.mouseMode = x <;> simp [h]

theorem clrEnc_eq (m : Modes) (x : MouseEnc) :
    clrEnc m x = { m with mouseEnc := if some m.mouseEnc = some x then .default else m.mouseEnc } := by
  unfold clrEnc
  by_cases h : m.mouseEnc = x <;> simp [h]

/-- DECSET: a mode flag is switched by its own number only; a mouse mode / encoding parameter selects
that mode / encoding, whatever was selected before -/
theorem setEff_eq (p : List Nat) (m : Modes) :
    setEff p m =
      { appKeypad := m.appKeypad
        appCursor := if p = [1] then true else m.appCursor
        hideCursor := if p = [25] then false else m.hideCursor
        bracketedPaste := if p = [2004] then true else m.bracketedPaste
        mouseMode := (mouseOfParam p).getD m.mouseMode
        mouseEnc := (encOfParam p).getD m.mouseEnc } := by
  induction p using modeParam_cases with
  | other p h =>
    rw [setEff_other p h, mouseOfParam_other h, encOfParam_other h, if_neg (modeParam_ne h [1] rfl),
      if_neg (modeParam_ne h [25] rfl), if_neg (modeParam_ne h [2004] rfl)]
    rfl
  | _ => rfl

/-- DECRST: a mouse mode / encoding parameter turns reporting off / back to the default encoding if
that mode / encoding is the selected one, and does nothing otherwise -/
theorem rstEff_eq (p : List Nat) (m : Modes) :
    rstEff p m =
      { appKeypad := m.appKeypad
        appCursor := if p = [1] then false else m.appCursor
        hideCursor := if p = [25] then true else m.hideCursor
        bracketedPaste := if p = [2004] then false else m.bracketedPaste
        mouseMode := if some m.mouseMode = mouseOfParam p then .none else m.mouseMode
        mouseEnc := if some m.mouseEnc = encOfParam p then .default else m.mouseEnc } := by
  induction p using modeParam_cases with
  | other p h =>
    rw [rstEff_other p h, mouseOfParam_other h, encOfParam_other h, if_neg (modeParam_ne h [1] rfl),
      if_neg (modeParam_ne h [25] rfl), if_neg (modeParam_ne h [2004] rfl), if_neg nofun, if_neg nofun]
  | h9 | h1000 | h1002 | h1003 => exact clrMode_eq m _
  | h1005 | h1006 => exact clrEnc_eq m _
  | _ => rfl

theorem setEff_appKeypad (p : List Nat) (m : Modes) : (setEff p m).appKeypad = m.appKeypad := by
  rw [setEff_eq]
theorem rstEff_appKeypad (p : List Nat) (m : Modes) : (rstEff p m).appKeypad = m.appKeypad := by
  rw [rstEff_eq]
theorem setEff_appCursor (p : List Nat) (m : Modes) :
    (setEff p m).appCursor = if p = [1] then true else m.appCursor :=
  congrArg Modes.appCursor (setEff_eq p m)
theorem rstEff_appCursor (p : List Nat) (m : Modes) :
    (rstEff p m).appCursor = if p = [1] then false else m.appCursor :=
  congrArg Modes.appCursor (rstEff_eq p m)
theorem setEff_hideCursor (p : List Nat) (m : Modes) :
    (setEff p m).hideCursor = if p = [25] then false else m.hideCursor :=
  congrArg Modes.hideCursor (setEff_eq p m)
theorem rstEff_hideCursor (p : List Nat) (m : Modes) :
    (rstEff p m).hideCursor = if p = [25] then true else m.hideCursor :=
  congrArg Modes.hideCursor (rstEff_eq p m)
theorem setEff_bracketedPaste (p : List Nat) (m : Modes) :
    (setEff p m).bracketedPaste = if p = [2004] then true else m.bracketedPaste :=
  congrArg Modes.bracketedPaste (setEff_eq p m)
theorem rstEff_bracketedPaste (p : List Nat) (m : Modes) :
    (rstEff p m).bracketedPaste = if p = [2004] then false else m.bracketedPaste :=
  congrArg Modes.bracketedPaste (rstEff_eq p m)
theorem setEff_mouseMode (p : List Nat) (m : Modes) :
    (setEff p m).mouseMode = (mouseOfParam p).getD m.mouseMode :=
  congrArg Modes.mouseMode (setEff_eq p m)
theorem rstEff_mouseMode (p : List Nat) (m : Modes) :
    (rstEff p m).mouseMode =
      if some m.mouseMode = mouseOfParam p then .none else m.mouseMode :=
  congrArg Modes.mouseMode (rstEff_eq p m)
theorem setEff_mouseEnc (p : List Nat) (m : Modes) :
    (setEff p m).mouseEnc = (encOfParam p).getD m.mouseEnc :=
  congrArg Modes.mouseEnc (setEff_eq p m)
theorem rstEff_mouseEnc (p : List Nat) (m : Modes) :
    (rstEff p m).mouseEnc =
      if some m.mouseEnc = encOfParam p then .default else m.mouseEnc :=
  congrArg Modes.mouseEnc (rstEff_eq p m)

abbrev SM (m : Modes) (s : Screen) : Prop := modesOf s = m

section sm
variable {m : Modes} {s : Screen}

theorem modifyGrid_sm {f : Grid → M Grid} (hs : SM m s) : MPred (SM m) (s.modifyGrid f) :=
  MPred.ite (fun _ => MPred.bind_any _ fun _ => MPred.pure hs) (fun _ => MPred.bind_any _ fun _ => MPred.pure hs)

theorem setSize_sm (hs : SM m s) (r c : Nat) : MPred (SM m) (s.setSize r c) :=
  MPred.bind_any _ fun _ => MPred.bind_any _ fun _ => MPred.pure hs

theorem enterAlternateGrid_sm (hs : SM m s) : MPred (SM m) s.enterAlternateGrid :=
  MPred.bind (modifyGrid_sm hs) fun _ ha => MPred.pure ha

theorem saveCursor_sm (hs : SM m s) : MPred (SM m) s.saveCursor :=
  MPred.bind (modifyGrid_sm hs) fun _ ha => MPred.pure ha

theorem restoreCursor_sm (hs : SM m s) : MPred (SM m) s.restoreCursor :=
  MPred.bind (modifyGrid_sm hs) fun _ ha => MPred.pure ha

end sm

/-- a callback policy that leaves the six modes alone (the public `Screen` API offers a
`Callbacks` object nothing that changes them: `set_size` and `set_scrollback` qualify) -/
def CbModes (cb : CbPolicy) : Prop := ∀ e s m, SM m s → MPred (SM m) (cb e s)

theorem cbSizes_modes {cb : CbPolicy} (h : CbSizes cb) : CbModes cb := fun e s _ hs =>
  h.elim e s (MPred.pure hs) fun r c => setSize_sm hs r c

theorem cbNone_modes : CbModes cbNone := cbSizes_modes cbNone_sizes

theorem cbResize_modes : CbModes cbResize := cbSizes_modes cbResize_sizes

def WM (F : Modes → Modes) (f : WS → M WS) : Prop :=
  ∀ m ws, SM m ws.screen → MPred (fun ws' => SM (F m) ws'.screen) (f ws)

section wm
variable {cb : CbPolicy}

theorem emit_sm (hcb : CbModes cb) (e : Event) : WM id (emit cb e) :=
  fun m => WPred.emit (fun e s h => hcb e s m h) e

theorem onGrid_sm {f : Screen → Grid → M Grid} :
    WM id (fun ws => ws.onScreen (fun s => s.modifyGrid (f s))) :=
  fun _ => WPred.onScreen fun _ h => modifyGrid_sm h

def stepEff : ParamStep → Modes → Modes
  | .op (.mode E) => E
  | _ => id

theorem op_sm {m : Modes} {s : Screen} (hs : SM m s) : ∀ o : ParamOp, MPred (SM (stepEff (.op o) m)) (o.run s)
  | .pen _ | .exit => MPred.pure hs
  | .mode _ => MPred.pure (hs ▸ rfl)
  | .origin b => modifyGrid_sm (f := fun g => g.setOriginMode b) hs
  | .save => saveCursor_sm hs
  | .restore => restoreCursor_sm hs
  | .enter => enterAlternateGrid_sm hs
  | .clearAlt => MPred.bind_any _ fun _ => MPred.pure hs

theorem step_sm {unh : WS → M WS} (hunh : WM id unh) : ∀ st : ParamStep, WM (stepEff st) fun ws => st.run unh ws
  | .unhandled => hunh
  | .op o => fun _ _ hs => MPred.bind (op_sm hs o) fun _ h => MPred.pure h

theorem steps_sm {unh : WS → M WS} (hunh : WM id unh) :
    ∀ p : List ParamStep, WM (fun m => p.foldl (fun m st => stepEff st m) m) (runSteps unh p)
  | [] => fun _ _ hs => MPred.pure hs
  | st :: p => fun m ws hs => by
    rw [runSteps_cons]
    exact MPred.bind (step_sm hunh st m ws hs) fun w h => steps_sm hunh p _ w h

theorem armProg_eff (p : List Nat) (m : Modes) :
    (armProg setOps p).foldl (fun m st => stepEff st m) m = setEff p m ∧
    (armProg rstOps p).foldl (fun m st => stepEff st m) m = rstEff p m := by
  induction p using paramKind_cases with
  | flag p hf => simp only [armProg, setOps, rstOps, hf, ↓reduceIte]; exact ⟨rfl, rfl⟩
  | h6 | h47 | h1049 => exact ⟨rfl, rfl⟩
  | other p hp =>
    rw [armProg, armProg, setOps_none hp, rstOps_none hp, setEff_other p (handled_of_modeParam p hp),
      rstEff_other p (handled_of_modeParam p hp)]
    exact ⟨rfl, rfl⟩

theorem modeProg_eff {ops : List Nat → Option (List ParamOp)} {E : List Nat → Modes → Modes}
    (h : ∀ p m, (armProg ops p).foldl (fun m st => stepEff st m) m = E p m) :
    ∀ (ps : List (List Nat)) (m : Modes),
      (modeProg ops ps).foldl (fun m st => stepEff st m) m = ps.foldl (fun m p => E p m) m
  | [], _ => rfl
  | p :: ps, m => by
    rw [modeProg, List.flatMap_cons, List.foldl_append, h, List.foldl_cons]
    exact modeProg_eff h ps _

theorem ris_sm (s : Screen) : MPred (SM Modes.initial) s.ris :=
  MPred.iff.mpr fun _ h => (C13.new_of_ok h).2 ▸ rfl

/-- callbacks, pen changes and operations on the active grid, DECSC / DECRC included, leave the six modes alone -/
theorem perform_modes_keep (W : Nat → Option Nat) (hcb : CbModes cb) (m : Modes) (a : Action)
    (ht : touches a = false) : WPred (SM m) (fun ws => perform W cb ws a) :=
  have hemit (e : Event) : WPred (SM m) (emit cb e) := emit_sm hcb e m
  have hgrid {f : Screen → M Screen} (hf : ∀ s, ∃ g, f s = s.modifyGrid g) :
      WPred (SM m) (fun ws => ws.onScreen f) :=
    .onScreen fun s h => by obtain ⟨g, e⟩ := hf s; rw [e]; exact modifyGrid_sm h
  perform_cases W (C := fun a F => touches a = false → WPred (SM m) (F cb))
    (nop := fun _ _ => .pure)
    (emit := fun _ e _ _ => hemit e)
    (emit2 := fun _ e1 e2 _ _ _ => .bind (hemit e1) (hemit e2))
    (draw := fun _ _ _ _ => hgrid fun _ => ⟨_, rfl⟩)
    (deckpam := fun _ ht => nomatch ht)
    (deckpnm := fun _ ht => nomatch ht)
    (lf := fun _ _ _ => hgrid fun _ => ⟨_, rfl⟩)
    (text := fun _ _ _ _ => hgrid fun _ => ⟨_, rfl⟩)
    (su := fun _ _ _ => hgrid fun _ => ⟨_, rfl⟩)
    (decsc := fun _ _ => .onScreen fun _ h => saveCursor_sm h)
    (decrc := fun _ _ => .onScreen fun _ h => restoreCursor_sm h)
    (ris := fun _ ht => nomatch ht)
    (decstbm := fun _ _ _ => .onScreen fun _ h => MPred.bind_any _ fun _ => MPred.bind_any _ fun _ => modifyGrid_sm h)
    (resize := fun _ _ _ ws h => hemit _ ws h)
    (seq := fun _ _ _ _ h ht => .steps fun st hst => h st hst ht)
    (pen := fun _ _ _ _ _ _ h => MPred.pure h)
    (mode := fun _ _ _ _ _ hc ht => by rcases hc with rfl | rfl <;> exact nomatch ht)
    (origin := fun _ _ _ _ _ hc ht => by rcases hc with rfl | rfl <;> exact nomatch ht)
    (enter := fun _ _ _ ht => nomatch ht)
    (save1049 := fun _ _ _ _ ht => nomatch ht)
    (clear1049 := fun _ _ _ _ ht => nomatch ht)
    (exit := fun _ _ _ _ ht => nomatch ht)
    (restore1049 := fun _ _ _ _ ht => nomatch ht)
    a ht

/-- **C10, one action**: whatever the action, the six modes after `perform` are `modeEffect a` of
the six modes before — they depend on nothing else, and nothing else changes them -/
theorem perform_modes_pred (W : Nat → Option Nat) (hcb : CbModes cb) (a : Action) :
    WM (modeEffect a) (fun ws => perform W cb ws a) := by
  by_cases ht : touches a = false
  · intro m ws hs
    rw [modeEffect_frame a ht]
    exact perform_modes_keep W hcb m a ht ws hs
  -- the five that assign a mode
  cases a with
  | escDispatch ints ig b =>
    simp only [touches, Bool.not_eq_false, Bool.and_eq_true, Bool.or_eq_true, beq_iff_eq] at ht
    obtain ⟨rfl, (rfl | rfl) | rfl⟩ := ht
    · exact fun m ws hs => MPred.pure (congrArg (fun m => { m with appKeypad := true }) hs)
    · exact fun m ws hs => MPred.pure (congrArg (fun m => { m with appKeypad := false }) hs)
    · exact fun m ws hs => MPred.bind (ris_sm ws.screen) fun _ h' => MPred.pure h'
  | csiDispatch ps ints ig c =>
    simp only [touches, Bool.not_eq_false, Bool.and_eq_true, Bool.or_eq_true, beq_iff_eq] at ht
    obtain ⟨hi, hc⟩ := ht
    obtain ⟨rest, rfl⟩ : ∃ rest, ints = 63 :: rest := by
      cases ints with
      | nil => cases hi
      | cons i rest => cases hi; exact ⟨rest, rfl⟩
    intro m ws hs
    rcases hc with rfl | rfl
    · show MPred _ (decset _ ps ws)
      rw [modeEffect_decset, ← modeProg_eff (fun p m => (armProg_eff p m).1), decset_eq_run]
      exact steps_sm (emit_sm hcb _) _ m ws hs
    · show MPred _ (decrst _ ps ws)
      rw [modeEffect_decrst, ← modeProg_eff (fun p m => (armProg_eff p m).2), decrst_eq_run]
      exact steps_sm (emit_sm hcb _) _ m ws hs
  | _ => exact absurd rfl ht

end wm

/-- **C10, one action** (unfolded) -/
theorem perform_modes (W : Nat → Option Nat) {cb : CbPolicy} (hcb : CbModes cb) (a : Action)
    (ws ws' : WS) (h : perform W cb ws a = .ok ws') :
    modesOf ws'.screen = modeEffect a (modesOf ws.screen) :=
  MPred.iff.mp (perform_modes_pred W hcb a _ ws rfl) ws' h

/-- **C10, frame**: an action that is not `ESC =`, `ESC >`, `ESC c` (RIS), `CSI ? … h` or `CSI ? … l` leaves the six
modes unchanged -/
theorem perform_modes_frame (W : Nat → Option Nat) {cb : CbPolicy} (hcb : CbModes cb) (a : Action)
    (ht : touches a = false) (ws ws' : WS) (h : perform W cb ws a = .ok ws') :
    modesOf ws'.screen = modesOf ws.screen := by
  rw [perform_modes W hcb a ws ws' h, modeEffect_frame a ht]

/-- **C10, any list of actions**: the modes are the fold of the per-action mode effects -/
theorem actions_modes (W : Nat → Option Nat) {cb : CbPolicy} (hcb : CbModes cb) :
    ∀ (acts : List Action) (ws ws' : WS), acts.foldlM (perform W cb) ws = .ok ws' →
      modesOf ws'.screen = acts.foldl (fun m a => modeEffect a m) (modesOf ws.screen) :=
  fun acts ws ws' h => MPred.iff.mp (foldlM_sim (R := fun m ws => modesOf ws.screen = m) (ok := fun _ => True)
    (fun a _ ws _ hm => hm ▸ MPred.iff.mpr (perform_modes W hcb a ws)) acts (fun _ _ => trivial) _ ws rfl) ws' h

/-- **C10, any byte chunk fed to `Parser::process`**, from any parser state (also in the middle of
an escape sequence): the modes afterwards are the fold of the mode effects of the actions the
chunk parses to -/
theorem process_modes (W : Nat → Option Nat) {cb : CbPolicy} (hcb : CbModes cb) (p p' : Parser)
    (bytes : List Nat) (h : p.process W cb bytes = .ok p') :
    modesOf p'.screen =
      (p.vte.advance bytes).2.foldl (fun m a => modeEffect a m) (modesOf p.screen) :=
  let ⟨_, h1, e⟩ := C18.process_eq_ok.mp h
  e ▸ actions_modes W hcb _ _ _ h1

/-- used with the actions of a list (`E = modeEffect`) and with the parameters of one DECSET / DECRST list
(`E = setEff`, `rstEff`) -/
theorem none_touches {α ι} (π : Modes → α) (E : ι → Modes → Modes) :
    ∀ (l : List ι) (m : Modes), (∀ b ∈ l, ∀ m, π (E b m) = π m) → π (l.foldl (fun m b => E b m) m) = π m := by
  intro l
  induction l with
  | nil => intro m _; rfl
  | cons a l ih =>
    intro m h
    simp only [List.foldl]
    rw [ih _ (fun b hb => h b (List.mem_cons_of_mem _ hb)), h a List.mem_cons_self]

/-- **last one wins**: if `a` assigns `v` to the component `π` and no later action changes `π`,
then `π` is `v` at the end — whatever came before `a` and whatever else the later actions do -/
theorem last_wins {α} (π : Modes → α) (v : α) (pre post : List Action) (a : Action) (m : Modes)
    (hfix : ∀ m, π (modeEffect a m) = v)
    (hkeep : ∀ b ∈ post, ∀ m, π (modeEffect b m) = π m) :
    π ((pre ++ a :: post).foldl (fun m a => modeEffect a m) m) = v := by
  rw [List.foldl_append, List.foldl_cons, none_touches π modeEffect post _ hkeep, hfix]

/-- Instance: application cursor.  After `… CSI ? 1 h …`, if nothing after it is RIS or a
DECSET / DECRST sequence, application-cursor mode is on — and with `perform_modes` this is
`Screen::application_cursor()` of the model after ANY such input. -/
theorem appCursor_last_set (pre post : List Action) (ig : Bool) (m : Modes)
    (hpost : ∀ b ∈ post, touches b = false) :
    ((pre ++ Action.csiDispatch [[1]] [63] ig 104 :: post).foldl (fun m a => modeEffect a m) m).appCursor
      = true :=
  last_wins (·.appCursor) true pre post _ m (fun _ => rfl)
    (fun b hb m => congrArg _ (modeEffect_frame b (hpost b hb) m))

/-- Instance with a finer "relevant": DECSET / DECRST lists that do not mention parameter 1, and
`ESC =` / `ESC >`, are allowed after the set. -/
theorem appCursor_keeps_decset (params : List (List Nat)) (rest : List Nat) (ig : Bool)
    (h : ∀ p ∈ params, p ≠ [1]) (m : Modes) :
    (modeEffect (.csiDispatch params (63 :: rest) ig 104) m).appCursor = m.appCursor ∧
    (modeEffect (.csiDispatch params (63 :: rest) ig 108) m).appCursor = m.appCursor := by
  constructor
  · rw [modeEffect_decset]
    exact none_touches (·.appCursor) setEff params m
      (fun p hp m => by rw [setEff_appCursor, if_neg (h p hp)])
  · rw [modeEffect_decrst]
    exact none_touches (·.appCursor) rstEff params m
      (fun p hp m => by rw [rstEff_appCursor, if_neg (h p hp)])

/-! ### DECSET / DECRST lists with unhandled heads (complements `decset_cons` / `decrst_cons`) -/

/-- an unhandled head: the `unhandled` callback runs (with the whole parameter list in the event),
then the rest of the list applies -/
theorem decset_cons_unhandled (unh : WS → M WS) (p : List Nat) (ps : List (List Nat)) (ws : WS)
    (h : handledParam p = false) :
    decset unh (p :: ps) ws = (unh ws >>= fun ws' => decset unh ps ws') := by
  simp [decset, List.foldlM, Screen.decsetOne_unhandled _ p h]

theorem decrst_cons_unhandled (unh : WS → M WS) (p : List Nat) (ps : List (List Nat)) (ws : WS)
    (h : handledParam p = false) :
    decrst unh (p :: ps) ws = (unh ws >>= fun ws' => decrst unh ps ws') := by
  simp [decrst, List.foldlM, Screen.decrstOne_unhandled _ p h]

/-- TEST: a 2x4 parser fed `ESC =`, `x`, `CSI ? 1 ; 77 ; 1000 h`, LF, `CSI ? 9 l` (a no-op:
the active mouse mode is 1000), `CSI ? 47 h`, `ESC 7`, `CSI 2 J`: the run succeeds and the modes
are as the fold says (keypad on, app cursor on, mouse = press-release) -/
theorem modes_nonvacuous :
    isOkTrue (do
      let p ← Parser.new 2 4 3
      let p ← p.process (fun _ => some 1) cbNone
        [0x1B, 61, 120, 0x1B, 0x5B, 0x3F, 49, 0x3B, 55, 55, 0x3B, 49, 48, 48, 48, 104, 10,
         0x1B, 0x5B, 0x3F, 57, 108, 0x1B, 0x5B, 0x3F, 52, 55, 104, 0x1B, 55, 0x1B, 0x5B, 50, 74]
      pure (decide (modesOf p.screen = ⟨true, true, false, false, .pressRelease, .default⟩))) = true := by
  decide +kernel

end Vt.C10
