/-
  C08 (continued) — IL, DL, SU, SD for every count: the exact rows.

  Write the rows as `A ++ R ++ C` with `R` the lines the operation addresses (cursor line, resp. top
  margin, down to the bottom margin), `A` the lines above and `C` the lines below the bottom margin.
    * `deleteLines_eq`, `scrollUp_rows` : `R` becomes `shiftUp R k blank` = `R` with its first `k` lines
      dropped and `k` blank lines appended (`k` capped by the loop bound; more than `|R|` leaves `R` blank);
    * `insertLines_eq`, `scrollDown_eq` : `R` becomes `shiftDown R k blank` = `k` blank lines followed by
      the first `|R| - k` lines of `R`, the new last line of the region losing its wrap flag;
    * `A` and `C` — every line outside the addressed range — are literally untouched, and (IL, DL, SD)
      so is the rest of the grid record: cursor, region, size, scrollback.
  The operations are iterates of `downStep` / `upStep` (Lemmas/Lines: `insertLines_iff`, …); here one such step is
  followed on the split rows (`down_step`, `up_step`), then the iterate (`iter_downF`, `iter_upF`, `iter_suF`).
-/
import Vt.Lemmas.Lines
namespace Vt.C08
open Vt

def shiftUp (R : List Row) (k : Nat) (x : Row) : List Row := (R ++ List.replicate k x).drop k

def unwrapLast (L : List Row) : List Row :=
  match L.getLast? with
  | some l => L.dropLast ++ [l.wrap false]
  | none => []

def shiftDown (R : List Row) (k : Nat) (x : Row) : List Row :=
  if k = 0 then R else unwrapLast ((List.replicate k x ++ R).take R.length)

theorem shiftUp_zero (R : List Row) (x : Row) : shiftUp R 0 x = R := by simp [shiftUp]

theorem shiftUp_length (R : List Row) (k : Nat) (x : Row) : (shiftUp R k x).length = R.length := by
  simp [shiftUp]

theorem shiftUp_succ (R : List Row) (k : Nat) (x : Row) (hR : 1 ≤ R.length) :
    (shiftUp R k x).tail ++ [x] = shiftUp R (k + 1) x := by
  unfold shiftUp
  rw [List.tail_drop, List.replicate_succ', ← List.append_assoc]
  rw [List.drop_append_of_le_length (l₂ := [x]) (by simp only [List.length_append, List.length_replicate]; omega)]

theorem unwrapLast_snoc (L : List Row) (l : Row) : unwrapLast (L ++ [l]) = L ++ [l.wrap false] := by
  simp [unwrapLast]

theorem unwrapLast_length (L : List Row) : (unwrapLast L).length = L.length := by
  unfold unwrapLast
  cases h : L.getLast? with
  | none => simp at h; simp [h]
  | some l =>
    simp only [List.length_append, List.length_dropLast, List.length_singleton]
    have : L ≠ [] := by intro hn; simp [hn] at h
    have := List.length_pos_iff.mpr this
    omega

theorem snoc_of_ne_nil (L : List Row) (h : 1 ≤ L.length) : ∃ init l, L = init ++ [l] := by
  have hne : L ≠ [] := by intro hn; simp [hn] at h
  exact ⟨L.dropLast, L.getLast hne, (List.dropLast_concat_getLast hne).symm⟩

theorem shiftDown_succ (R : List Row) (k : Nat) (x : Row) (hR : 1 ≤ R.length) :
    unwrapLast (x :: (shiftDown R k x).dropLast) = shiftDown R (k + 1) x := by
  have key : ∀ L : List Row, R.length ≤ L.length → x :: (L.take R.length).dropLast = (x :: L).take R.length := by
    intro L hL
    rw [List.dropLast_eq_take, List.length_take, List.take_take, Nat.min_eq_left hL,
      Nat.min_eq_left (Nat.sub_le _ _)]
    cases hm : R.length with
    | zero => omega
    | succ m => simp
  unfold shiftDown
  by_cases hk : k = 0
  · subst hk
    simp only [↓reduceIte, Nat.zero_add, Nat.add_one_ne_zero, List.replicate_one, List.singleton_append]
    have := key R (Nat.le_refl _)
    rw [List.take_length] at this
    rw [this]
  · simp only [hk, ↓reduceIte, Nat.add_one_ne_zero]
    have hT : 1 ≤ ((List.replicate k x ++ R).take R.length).length := by simp; omega
    obtain ⟨init, l, hinit⟩ := snoc_of_ne_nil _ hT
    rw [hinit, unwrapLast_snoc, List.dropLast_concat]
    have : init = ((List.replicate k x ++ R).take R.length).dropLast := by rw [hinit, List.dropLast_concat]
    rw [this, key _ (by simp), List.replicate_succ]
    simp

theorem shiftDown_zero (R : List Row) (x : Row) : shiftDown R 0 x = R := by simp [shiftDown]

theorem shiftDown_length (R : List Row) (k : Nat) (x : Row) : (shiftDown R k x).length = R.length := by
  unfold shiftDown
  split
  · rfl
  · rw [unwrapLast_length]; simp

structure Split (g : Grid) (p : Nat) (A R C : List Row) : Prop where
  rows : g.rows = A ++ R ++ C
  above : A.length = p
  range : A.length + R.length = g.scrollBottom + 1
  nonempty : 1 ≤ R.length

theorem split_at (g : Grid) (p : Nat) (hp : p ≤ g.scrollBottom) (hb : g.scrollBottom < g.rows.length) :
    Split g p (g.rows.take p) ((g.rows.drop p).take (g.scrollBottom + 1 - p)) (g.rows.drop (g.scrollBottom + 1)) := by
  have hA : (g.rows.take p).length = p := List.length_take_of_le (by omega)
  have hR : ((g.rows.drop p).take (g.scrollBottom + 1 - p)).length = g.scrollBottom + 1 - p :=
    List.length_take_of_le (by rw [List.length_drop]; omega)
  refine ⟨?_, hA, by rw [hA, hR]; omega, by rw [hR]; omega⟩
  rw [show g.scrollBottom + 1 = p + (g.scrollBottom + 1 - p) by omega, ← List.drop_drop, Nat.add_sub_cancel_left,
    List.append_assoc, List.take_append_drop, List.take_append_drop]

def withRows (g : Grid) (rows : List Row) : Grid := { g with rows := rows }

def SameFrame (g s : Grid) : Prop :=
  s.size = g.size ∧ s.pos = g.pos ∧ s.scrollTop = g.scrollTop ∧ s.scrollBottom = g.scrollBottom

theorem upStep_cut (A S C : List Row) (r0 x : Row) :
    upStep (A.length + S.length) A.length x (A ++ (r0 :: S) ++ C) = A ++ (S ++ [x]) ++ C := by
  have ht : (A ++ (r0 :: S) ++ C).take (A.length + S.length + 1) = A ++ r0 :: S := List.take_left' (by simp; omega)
  have hd : (A ++ (r0 :: S) ++ C).drop (A.length + S.length + 1) = C := List.drop_left' (by simp; omega)
  rw [upStep, ht, hd]
  simp [List.eraseIdx_append_of_length_le]

theorem modify_cut {α} (A : List α) (x : α) (Y : List α) (f : α → α) :
    (A ++ x :: Y).modify A.length f = A ++ f x :: Y := by
  rw [List.modify_eq_take_cons_drop (by simp), List.take_left' rfl]
  simp

theorem downStep_cut (A S C : List Row) (last x : Row) :
    downStep (A.length + S.length) A.length x (A ++ (S ++ [last]) ++ C) = A ++ unwrapLast (x :: S) ++ C := by
  have he : (A ++ (S ++ [last]) ++ C).eraseIdx (A.length + S.length) = A ++ (S ++ C) := by
    rw [List.append_assoc, List.eraseIdx_append_of_length_le (Nat.le_add_right ..), Nat.add_sub_cancel_left,
      List.append_assoc, List.eraseIdx_append_of_length_le (Nat.le_refl _), Nat.sub_self]
    rfl
  obtain ⟨init, l, hinit⟩ := snoc_of_ne_nil (x :: S) (by simp)
  have hl : A.length + S.length = (A ++ init).length := by
    have := congrArg List.length hinit; simp at this; simp; omega
  have e : A ++ x :: (S ++ C) = (A ++ init) ++ l :: C := by rw [← List.cons_append, hinit]; simp
  rw [downStep, he, List.take_left' rfl, List.drop_left' rfl, e, hl, modify_cut, hinit, unwrapLast_snoc]
  simp

theorem up_step (g : Grid) (p : Nat) (A R C : List Row) (h : Split g p A R C) (k : Nat) :
    upStep g.scrollBottom p g.newRow (A ++ shiftUp R k g.newRow ++ C) = A ++ shiftUp R (k + 1) g.newRow ++ C := by
  have hlen := shiftUp_length R k g.newRow
  cases hS : shiftUp R k g.newRow with
  | nil => rw [hS] at hlen; exact absurd hlen.symm (Nat.ne_of_gt h.nonempty)
  | cons r0 S =>
    rw [hS, List.length_cons] at hlen
    rw [← shiftUp_succ R k _ h.nonempty, hS, List.tail_cons, ← upStep_cut, h.above]
    congr 1
    have := h.range; have := h.above; omega

theorem down_step (g : Grid) (p : Nat) (A R C : List Row) (h : Split g p A R C) (k : Nat) :
    downStep g.scrollBottom p g.newRow (A ++ shiftDown R k g.newRow ++ C) = A ++ shiftDown R (k + 1) g.newRow ++ C := by
  have hlen := shiftDown_length R k g.newRow
  obtain ⟨S, last, hS⟩ := snoc_of_ne_nil (shiftDown R k g.newRow) (by rw [hlen]; exact h.nonempty)
  have hS0 : S = (shiftDown R k g.newRow).dropLast := by rw [hS, List.dropLast_concat]
  rw [hS, List.length_append, List.length_singleton] at hlen
  rw [← shiftDown_succ R k _ h.nonempty, ← hS0, hS, ← downStep_cut, h.above]
  congr 1
  have := h.range; have := h.above; omega

theorem Split.pre {g : Grid} {p : Nat} {A R C : List Row} (h : Split g p A R C) :
    g.scrollBottom < g.rows.length ∧ p < g.rows.length := by
  have hl : g.rows.length = A.length + R.length + C.length := by rw [h.rows]; simp [Nat.add_assoc]
  have := h.range; have := h.above; have := h.nonempty
  omega

/-- the loop of IL (`t` = cursor line) and SD (`t` = top margin) on the closed form; `ht`: `t` does not read the lines -/
theorem iter_downF (g : Grid) {t : Grid → Nat} (ht : ∀ (g : Grid) rows, t { g with rows := rows } = t g) (A R C : List Row)
    (h : Split g (t g) A R C) : ∀ k j, iter (downF t) k (withRows g (A ++ shiftDown R j g.newRow ++ C)) =
      withRows g (A ++ shiftDown R (j + k) g.newRow ++ C) :=
  iter_chain (f := fun j => withRows g (A ++ shiftDown R j g.newRow ++ C)) fun j => by
    show withRows g (downStep g.scrollBottom (t (withRows g _)) g.newRow _) = _
    rw [show t (withRows g _) = t g from ht g _]
    exact congrArg (withRows g) (down_step g (t g) A R C h j)

/-- the loop of DL (`t` = cursor line), and of SU (`t` = top margin) when nothing is recorded, on the closed form -/
theorem iter_upF (g : Grid) {t : Grid → Nat} (ht : ∀ (g : Grid) rows, t { g with rows := rows } = t g) (A R C : List Row)
    (h : Split g (t g) A R C) : ∀ k j, iter (upF t) k (withRows g (A ++ shiftUp R j g.newRow ++ C)) =
      withRows g (A ++ shiftUp R (j + k) g.newRow ++ C) :=
  iter_chain (f := fun j => withRows g (A ++ shiftUp R j g.newRow ++ C)) fun j => by
    show withRows g (upStep g.scrollBottom (t (withRows g _)) g.newRow _) = _
    rw [show t (withRows g _) = t g from ht g _]
    exact congrArg (withRows g) (up_step g (t g) A R C h j)

/-- **C08** DL n (cursor line `p` inside the region): lines `p ..= bottom` shift up by
`min n (rows - p)`, blank lines come in at the bottom margin; everything else is untouched -/
theorem deleteLines_eq (g : Grid) (A R C : List Row) (h : Split g g.pos.row A R C) (hp : g.pos.row ≤ g.size.rows)
    (n : Nat) :
    g.deleteLines n = .ok (withRows g (A ++ shiftUp R (min n (g.size.rows - g.pos.row)) g.newRow ++ C)) := by
  refine (deleteLines_iff g _ n).mpr ⟨hp, Or.inr ⟨h.pre.1, Nat.le_of_lt h.pre.2⟩, ?_⟩
  have := iter_upF g (t := (·.pos.row)) (fun _ _ => rfl) A R C h (min n (g.size.rows - g.pos.row)) 0
  rw [shiftUp_zero, ← h.rows, Nat.zero_add] at this
  exact this.symm

/-- one scroll step, read off a run that succeeded: a blank line is inserted below the bottom margin, then the top
line of the region is removed; size, cursor and margins stay (the history side is C12's) -/
theorem scrollUpStep_rows {g g' : Grid} (e : C12.scrollUpStep g = .ok g') :
    g'.rows = (g.rows.take (g.scrollBottom + 1) ++ g.newRow :: g.rows.drop (g.scrollBottom + 1)).eraseIdx g.scrollTop ∧
      SameFrame g g' := by
  obtain ⟨-, rfl⟩ := (scrollUpStep_iff g g').mp e
  exact ⟨suF_rows g, by rw [suF_same]; exact ⟨rfl, rfl, rfl, rfl⟩⟩

theorem scrollUp_one (g : Grid) (ht : g.scrollTop < g.size.rows) : g.scrollUp 1 = C12.scrollUpStep g >>= pure := by
  rw [C12.scrollUp_eq_iterate, subM_ok (Nat.le_of_lt ht), ok_bind, Nat.min_eq_left (by omega)]
  rfl

/-- the rows and the frame after `k` scroll steps from a grid `s` that is `g` with `j` of them done -/
theorem iter_suF (g : Grid) (A R C : List Row) (h : Split g g.scrollTop A R C) : ∀ k j (s : Grid),
    s.rows = A ++ shiftUp R j g.newRow ++ C → SameFrame g s →
      (iter suF k s).rows = A ++ shiftUp R (j + k) g.newRow ++ C ∧ SameFrame g (iter suF k s)
  | 0, _, _, hr, hf => ⟨hr, hf⟩
  | k + 1, j, s, hr, hf => by
    obtain ⟨hsz, hpos, htop, hbot⟩ := hf
    have hn : s.newRow = g.newRow := by rw [Grid.newRow, hsz]; rfl
    rw [iter, Nat.add_comm k 1, ← Nat.add_assoc]
    refine iter_suF g A R C h k (j + 1) (suF s) ?_ (by rw [suF_same]; exact ⟨hsz, hpos, htop, hbot⟩)
    rw [suF_rows, hr, hbot, htop, hn, up_step g g.scrollTop A R C h j]

theorem iter_suF_plain : ∀ (k : Nat) {s : Grid},
    (s.scrollbackLen = 0 ∨ s.scrollTop ≠ 0 ∨ s.scrollBottom ≠ s.size.rows - 1) → iter suF k s = iter (upF (·.scrollTop)) k s
  | 0, _, _ => rfl
  | k + 1, s, hno => by rw [iter, iter, suF_plain hno]; exact iter_suF_plain k hno

/-- **C08** SU n: lines `top ..= bottom` shift up by `min n (rows - top)`; the rows outside the region,
the cursor, the size and the margins are untouched (the scrollback side is C12's `scrollUp_one_records`) -/
theorem scrollUp_rows (g : Grid) (A R C : List Row) (h : Split g g.scrollTop A R C) (ht : g.scrollTop ≤ g.size.rows)
    (hrows : 1 ≤ g.size.rows) (n : Nat) :
    ∃ g', g.scrollUp n = .ok g' ∧
      g'.rows = A ++ shiftUp R (min n (g.size.rows - g.scrollTop)) g.newRow ++ C ∧ SameFrame g g' := by
  refine ⟨_, (scrollUp_iff g _ n).mpr ⟨ht, Or.inr ⟨⟨h.pre.1, Nat.le_of_lt h.pre.2⟩, fun _ => hrows⟩, rfl⟩, ?_⟩
  have := iter_suF g A R C h (min n (g.size.rows - g.scrollTop)) 0 g (by rw [shiftUp_zero, ← h.rows]) ⟨rfl, rfl, rfl, rfl⟩
  rwa [Nat.zero_add] at this

/-- SU n when nothing is recorded, as a whole-record equality -/
theorem scrollUp_plain (g : Grid) (A R C : List Row) (h : Split g g.scrollTop A R C) (ht : g.scrollTop ≤ g.size.rows)
    (hrows : 1 ≤ g.size.rows) (hno : g.scrollbackLen = 0 ∨ g.scrollTop ≠ 0 ∨ g.scrollBottom ≠ g.size.rows - 1) (n : Nat) :
    g.scrollUp n = .ok (withRows g (A ++ shiftUp R (min n (g.size.rows - g.scrollTop)) g.newRow ++ C)) := by
  refine (scrollUp_iff g _ n).mpr ⟨ht, Or.inr ⟨⟨h.pre.1, Nat.le_of_lt h.pre.2⟩, fun _ => hrows⟩, ?_⟩
  have := iter_upF g (t := (·.scrollTop)) (fun _ _ => rfl) A R C h (min n (g.size.rows - g.scrollTop)) 0
  rw [shiftUp_zero, ← h.rows, Nat.zero_add] at this
  rw [iter_suF_plain _ hno]
  exact this.symm

/-- **C08** IL n (cursor line `p` inside the region): `min n rows` blank lines are inserted at `p`, the
lines `p ..= bottom` move down, what is pushed past the bottom margin is dropped, and the new last
line of the region loses its wrap flag; everything else is untouched -/
theorem insertLines_eq (g : Grid) (A R C : List Row) (h : Split g g.pos.row A R C) (n : Nat) :
    g.insertLines n = .ok (withRows g (A ++ shiftDown R (min n g.size.rows) g.newRow ++ C)) := by
  refine (insertLines_iff g _ n).mpr ⟨Or.inr h.pre, ?_⟩
  have := iter_downF g (t := (·.pos.row)) (fun _ _ => rfl) A R C h (min n g.size.rows) 0
  rw [shiftDown_zero, ← h.rows, Nat.zero_add] at this
  exact this.symm

/-- **C08** SD n: `min n rows` blank lines come in at the top margin, lines `top ..= bottom` move down;
everything else is untouched -/
theorem scrollDown_eq (g : Grid) (A R C : List Row) (h : Split g g.scrollTop A R C) (n : Nat) :
    g.scrollDown n = .ok (withRows g (A ++ shiftDown R (min n g.size.rows) g.newRow ++ C)) := by
  refine (scrollDown_iff g _ n).mpr ⟨Or.inr h.pre, ?_⟩
  have := iter_downF g (t := (·.scrollTop)) (fun _ _ => rfl) A R C h (min n g.size.rows) 0
  rw [shiftDown_zero, ← h.rows, Nat.zero_add] at this
  exact this.symm

theorem shiftUp_eq (R : List Row) (k : Nat) (x : Row) (hk : k ≤ R.length) :
    shiftUp R k x = R.drop k ++ List.replicate k x := by
  unfold shiftUp; rw [List.drop_append_of_le_length hk]

theorem shiftUp_all (R : List Row) (k : Nat) (x : Row) (hk : R.length ≤ k) :
    shiftUp R k x = List.replicate R.length x := by
  unfold shiftUp
  rw [List.drop_append, List.drop_of_length_le hk, List.nil_append, List.drop_replicate]
  congr 1; omega

end Vt.C08
