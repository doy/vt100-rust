import Vt.Props.C12
/-
  C12 (continued) — recording.  On a grid that records (full-screen region, capacity > 0) the pure step `suF` of
  Lemmas/Lines is `recordN _ 1` (`suF_records`), and `n` of them are `recordN _ n` (`recordN_succ`, `iter_suF_records`):
  `scrollUp_one_records` for the step, `scrollUp_records` for `scroll_up(n)`.  Then the loop bound of `scroll_up`
  (`MiscC12.scrollUp_min`, `scrollUp_min_full`: declared here in namespace `Vt.MiscC12`, before Props/MiscC12, which
  uses them).  The whole-record closed forms of C08grid rest on this file.
-/
namespace Vt.C12
open Vt

theorem lastN_length {α} (n : Nat) (l : List α) : (lastN n l).length = min n l.length := by
  simp only [lastN, List.length_drop]; omega

theorem lastN_of_le {α} (n : Nat) (l : List α) (h : l.length ≤ n) : lastN n l = l := by
  have : l.length - n = 0 := by omega
  simp [lastN, this]

theorem lastN_lastN {α} {a b : Nat} (l : List α) (h : a ≤ b) : lastN a (lastN b l) = lastN a l := by
  unfold lastN
  rw [List.drop_drop, List.length_drop]
  congr 1
  omega

theorem lastN_add_append {α} (j : Nat) (a b : List α) : lastN (j + b.length) (a ++ b) = lastN j a ++ b := by
  unfold lastN
  rw [List.length_append, Nat.add_sub_add_right, List.drop_append_of_le_length (Nat.sub_le _ _)]

theorem lastN_lastN_append {α} (n : Nat) (a b : List α) :
    lastN n (lastN n a ++ b) = lastN n (a ++ b) := by
  rw [← lastN_add_append, lastN_lastN _ (Nat.le_add_right _ _)]

/-- the grid after `n` recorded lines: `n` rounds of the loop of `Grid::scroll_up` (grid.rs:558-574) when the scroll
region is the whole screen and the capacity is not 0 -/
def recordN (g : Grid) (n : Nat) : Grid :=
  { g with rows := g.rows.drop n ++ List.replicate n g.newRow,
           scrollback := lastN g.scrollbackLen (g.scrollback ++ g.rows.take n),
           scrollbackOffset :=
             if g.scrollbackOffset > 0 then
               min (min g.scrollbackLen (g.scrollback.length + n)) (g.scrollbackOffset + n)
             else 0 }

theorem min_min_add {N L o k : Nat} (h : o ≤ L) : min (min N (L + k)) (o + k) = min N (o + k) := by omega

/-- the offset after one recorded line and then `n` more is the offset after `n + 1` (capacity `N`, history
length `L`, offset `o`); by `min_min_add` both sides are `min N (o + n + 1)` -/
theorem offset_records (N L o n : Nat) (hN : 0 < N) (ho : o ≤ L) :
    (if (if o > 0 then min (min N (L + 1)) (o + 1) else 0) > 0 then
        min (min N (min N (L + 1) + n)) ((if o > 0 then min (min N (L + 1)) (o + 1) else 0) + n)
      else 0) = if o > 0 then min (min N (L + (n + 1))) (o + (n + 1)) else 0 := by
  by_cases h : o > 0
  · have e := min_min_add (N := N) (k := n) (show min N (o + 1) ≤ min N (L + 1) by omega)
    simp only [h, ↓reduceIte, min_min_add ho, e]
    rw [if_pos (by omega)]
    omega
  · simp only [h, ↓reduceIte, Nat.lt_irrefl]

theorem recordN_rows_length (g : Grid) {n : Nat} (hn : n ≤ g.rows.length) : (recordN g n).rows.length = g.rows.length := by
  show (g.rows.drop n ++ List.replicate n g.newRow).length = _
  rw [List.length_append, List.length_drop, List.length_replicate, Nat.sub_add_cancel hn]

theorem recordN_scrollback_length (g : Grid) {n : Nat} (hn : n ≤ g.rows.length) :
    (recordN g n).scrollback.length = min g.scrollbackLen (g.scrollback.length + n) := by
  show (lastN g.scrollbackLen (g.scrollback ++ g.rows.take n)).length = _
  rw [lastN_length, List.length_append, List.length_take_of_le hn]

theorem recordN_offset (g : Grid) (n : Nat) (hk : 0 < g.scrollbackOffset) (hoff : g.scrollbackOffset ≤ g.scrollback.length) :
    (recordN g n).scrollbackOffset = min g.scrollbackLen (g.scrollbackOffset + n) :=
  (if_pos hk).trans (min_min_add hoff)

theorem suF_records {g : Grid} (hN : 0 < g.scrollbackLen) (ht : g.scrollTop = 0)
    (hb : g.scrollBottom = g.size.rows - 1) (hlen : g.rows.length = g.size.rows) (hr : 1 ≤ g.size.rows) :
    suF g = recordN g 1 := by
  cases hrows : g.rows with
  | nil => rw [hrows] at hlen; exact absurd hlen.symm (Nat.ne_of_gt hr)
  | cons top rest =>
    have hb2 : g.scrollBottom = rest.length := by rw [hb, ← hlen, hrows]; rfl
    have hrec : (upF (·.scrollTop) g).scrollbackLen > 0 ∧
        ((upF (·.scrollTop) g).scrollTop != 0 ||
          (upF (·.scrollTop) g).scrollBottom != (upF (·.scrollTop) g).size.rows - 1) = false := by
      refine ⟨hN, ?_⟩
      show (g.scrollTop != 0 || g.scrollBottom != g.size.rows - 1) = false
      rw [ht, ← hb]; simp only [bne_self_eq_false, Bool.or_self]
    have h1 : topLine g = top := by rw [topLine, hrows, ht]; rfl
    have h2 : upStep g.scrollBottom g.scrollTop g.newRow g.rows = rest ++ [g.newRow] := by
      rw [upStep, hrows, ht, hb2,
        show (top :: rest).take (rest.length + 1) = top :: rest from List.take_of_length_le (Nat.le_refl _),
        show (top :: rest).drop (rest.length + 1) = [] from List.drop_of_length_le (Nat.le_refl _)]
      rfl
    have h3 : (lastN g.scrollbackLen (g.scrollback ++ [top])).length = min g.scrollbackLen (g.scrollback.length + 1) := by
      rw [lastN_length, List.length_append]; rfl
    -- `recordN` writes the offset that stays as `0`: it is only kept when it is not positive
    have h4 : (if g.scrollbackOffset > 0 then min (min g.scrollbackLen (g.scrollback.length + 1)) (g.scrollbackOffset + 1)
        else g.scrollbackOffset) = if g.scrollbackOffset > 0 then
          min (min g.scrollbackLen (g.scrollback.length + 1)) (g.scrollbackOffset + 1) else 0 :=
      ite_congr rfl (fun _ => rfl) (fun h => Nat.eq_zero_of_not_pos h)
    rw [suF, recordF, if_pos hrec, h1]
    show ({ g with rows := upStep g.scrollBottom g.scrollTop g.newRow g.rows
                   scrollback := lastN g.scrollbackLen (g.scrollback ++ [top])
                   scrollbackOffset := if g.scrollbackOffset > 0 then
                     min (lastN g.scrollbackLen (g.scrollback ++ [top])).length (g.scrollbackOffset + 1)
                     else g.scrollbackOffset } : Grid) = _
    rw [h2, h3, h4, recordN, hrows]
    rfl

theorem scrollUpStep_eq_recordN (g : Grid) (hN : 0 < g.scrollbackLen) (ht : g.scrollTop = 0)
    (hb : g.scrollBottom = g.size.rows - 1) (hlen : g.rows.length = g.size.rows) (hr : 1 ≤ g.size.rows) :
    scrollUpStep g = .ok (recordN g 1) :=
  suF_records hN ht hb hlen hr ▸ scrollUpStep_ret ⟨⟨by omega, by omega⟩, fun _ => hr⟩

/-- full-screen region, capacity `N > 0`: the top line is appended, unmodified, and the history
keeps the last `N` lines; the offset, if non-zero, follows -/
theorem scrollUp_one_records (g g' : Grid) (hN : 0 < g.scrollbackLen)
    (hreg : g.scrollTop = 0 ∧ g.scrollBottom = g.size.rows - 1) (hr : 1 ≤ g.size.rows)
    (hlen : g.rows.length = g.size.rows) (h : scrollUpStep g = .ok g') :
    ∃ top, g.rows[0]? = some top ∧
      g'.scrollback = (g.scrollback ++ [top]).drop ((g.scrollback ++ [top]).length - g.scrollbackLen) ∧
      g'.scrollbackOffset =
        (if g.scrollbackOffset > 0 then min g'.scrollback.length (g.scrollbackOffset + 1) else 0) ∧
      g'.rows = g.rows.tail ++ [g.newRow] := by
  cases (scrollUpStep_eq_recordN g hN hreg.1 hreg.2 hlen hr).symm.trans h
  have hs := recordN_scrollback_length g (show 1 ≤ g.rows.length by omega)
  cases hrows : g.rows with
  | nil => rw [hrows] at hlen; exact absurd hlen.symm (Nat.ne_of_gt hr)
  | cons top rest =>
    refine ⟨top, rfl, ?_, by rw [hs]; rfl, ?_⟩ <;> (rw [recordN, hrows]; rfl)

theorem recordN_succ (g : Grid) (n : Nat) (hN : 0 < g.scrollbackLen) (hn : n + 1 ≤ g.rows.length)
    (hoff : g.scrollbackOffset ≤ g.scrollback.length) : recordN (recordN g 1) n = recordN g (n + 1) := by
  have hl1 : (lastN g.scrollbackLen (g.scrollback ++ g.rows.take 1)).length =
      min g.scrollbackLen (g.scrollback.length + 1) := recordN_scrollback_length g (by omega)
  have hd : n ≤ (g.rows.drop 1).length := by rw [List.length_drop]; omega
  simp only [recordN, Grid.newRow, hl1]
  congr 1
  · rw [List.drop_append_of_le_length hd, List.drop_drop, List.append_assoc, List.replicate_append_replicate,
      Nat.add_comm 1 n]
  · rw [lastN_lastN_append, List.take_append_of_le_length hd, List.append_assoc, ← List.take_add, Nat.add_comm 1 n]
  · exact offset_records _ _ _ n hN hoff

theorem iter_suF_records (n : Nat) : ∀ g : Grid, 0 < g.scrollbackLen → g.scrollTop = 0 →
    g.scrollBottom = g.size.rows - 1 → g.rows.length = g.size.rows → n ≤ g.size.rows →
    g.scrollback.length ≤ g.scrollbackLen → g.scrollbackOffset ≤ g.scrollback.length → iter suF n g = recordN g n := by
  induction n with
  | zero =>
    intro g _ _ _ _ _ hsb hoff
    have : (if g.scrollbackOffset > 0 then min (min g.scrollbackLen g.scrollback.length) g.scrollbackOffset
        else 0) = g.scrollbackOffset := by split <;> omega
    simp only [iter, recordN, List.drop_zero, List.replicate_zero, List.append_nil, List.take_zero, Nat.add_zero,
      lastN_of_le _ _ hsb, this]
  | succ n ih =>
    intro g hN ht hb hlen hn hsb hoff
    have h1 : 1 ≤ g.rows.length := by omega
    have hs := recordN_scrollback_length g h1
    rw [iter, suF_records hN ht hb hlen (by omega),
      ih (recordN g 1) hN ht hb ((recordN_rows_length g h1).trans hlen) (Nat.le_of_succ_le hn)
        (hs ▸ Nat.min_le_left _ _) (by rw [hs]; show (if _ then _ else _) ≤ _; split; exact Nat.min_le_left _ _; exact Nat.zero_le _),
      recordN_succ g n hN (by omega) hoff]

/-- **C12, n-step closed form of recording**: on a grid with a full-screen region and capacity
`N > 0`, `scroll_up(n)` for `n ≤ rows` cannot fail, appends the top `n` live lines, unmodified and
in order, to the history, which keeps the `N` most recent lines; the live rows move up by `n`
with `n` blank lines at the bottom; a non-zero offset follows (`+ n`, capped by the history
length); nothing else changes -/
theorem scrollUp_records (g : Grid) (n : Nat) (hN : 0 < g.scrollbackLen) (ht : g.scrollTop = 0)
    (hb : g.scrollBottom = g.size.rows - 1) (hlen : g.rows.length = g.size.rows)
    (hn : n ≤ g.size.rows) (hsb : g.scrollback.length ≤ g.scrollbackLen)
    (hoff : g.scrollbackOffset ≤ g.scrollback.length) :
    g.scrollUp n = .ok (recordN g n) := by
  refine (scrollUp_iff g _ n).mpr ⟨by omega, ?_, ?_⟩
  · rcases Nat.eq_zero_or_pos n with rfl | h
    · exact .inl (Nat.zero_min _)
    · exact .inr ⟨⟨by omega, by omega⟩, fun _ => by omega⟩
  · rw [ht, Nat.sub_zero, Nat.min_eq_left hn, iter_suF_records n g hN ht hb hlen hn hsb hoff]

end Vt.C12

namespace Vt.MiscC12
open Vt Vt.C12

/-- **`scroll_up(n)` only looks at `min n (rows - scroll_top)`** (the loop bound
`count.min(self.size.rows - self.scroll_top)` of grid.rs).  In particular for a full-screen region
`scroll_up n = scroll_up (min n rows)`, so the hypothesis `n ≤ rows` of `C12.scrollUp_records` is no restriction. -/
theorem scrollUp_min (g : Grid) (n : Nat) :
    g.scrollUp n = g.scrollUp (min n (g.size.rows - g.scrollTop)) := by
  rw [scrollUp_eq_iterate, scrollUp_eq_iterate]
  by_cases h : g.scrollTop ≤ g.size.rows
  · simp only [subM, h, ↓reduceIte, pure_bind']
    rw [Nat.min_assoc, Nat.min_self]
  · simp only [subM, h, ↓reduceIte]
    rfl

theorem scrollUp_min_full (g : Grid) (n : Nat) (ht : g.scrollTop = 0) :
    g.scrollUp n = g.scrollUp (min n g.size.rows) := by
  have := scrollUp_min g n
  rwa [ht, Nat.sub_zero] at this

end Vt.MiscC12
