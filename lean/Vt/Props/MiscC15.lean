/-
  Vt.Props.MiscC15 — C15: element `k` of `rows_formatted(start, width)` IS the row call
  `rs[k].writeContentsFormatted start width k wrapping none none`, where `wrapping` (`wrapAt`) is `false` for every row
  of a proper sub-window and the wrap flag of the previous visible row for a full-width window; and the API-level
  corollary of `C15win.row_window_draws`.
-/
import Vt.Props.C15win
import Vt.Props.C01full
import Vt.Props.C15
import Vt.Props.C02
namespace Vt.MiscC15
open Vt Vt.Recv Vt.C19 Vt.C09 Vt.RowDraw Vt.GridDraw Vt.C03 Vt.C01 Vt.Bytes Vt.DiffRow

variable {W : Nat → Option Nat} {cb : CbPolicy}

/-- the `wrapping` argument `rows_formatted`'s loop passes to row `k` (loop started with `w`) -/
def wrapAt (fw : Bool) (rs : List Row) (w : Bool) (k : Nat) : Bool :=
  if fw = true ∧ 0 < k then ((rs[k - 1]?).map (·.wrapped)).getD false else w

theorem wrapAt_zero (fw : Bool) (rs : List Row) (w : Bool) : wrapAt fw rs w 0 = w := by
  simp [wrapAt]

theorem wrapAt_sub (rs : List Row) (w : Bool) (k : Nat) : wrapAt false rs w k = w := by
  simp [wrapAt]

theorem wrapAt_full_succ (rs : List Row) (w : Bool) (k : Nat) (hk : k < rs.length) :
    wrapAt true rs w (k + 1) = rs[k].wrapped := by
  simp [wrapAt, List.getElem?_eq_getElem hk]

theorem wrapAt_cons_succ (fw : Bool) (r : Row) (rs : List Row) (w : Bool) (k : Nat) :
    wrapAt fw (r :: rs) w (k + 1) = wrapAt fw rs (if fw then r.wrapped else w) k := by
  unfold wrapAt
  cases fw
  · simp
  · cases k with
    | zero => simp
    | succ k => simp

/-- **element `k` of the loop's result is the `k`-th row call** (with exactly the arguments the loop
passes) -/
theorem rowsFormattedLoop_get (fw : Bool) (start width : Nat) :
    ∀ (rs : List Row) (i : Nat) (w : Bool) (res : List (List Nat)),
    Screen.rowsFormattedLoop fw start width rs i w = .ok res →
    ∀ k (hk : k < rs.length), ∃ bs np na,
      rs[k].writeContentsFormatted start width (i + k) (wrapAt fw rs w k) none none = .ok (bs, np, na) ∧
      res[k]? = some bs
  | [], _, _, _, _, k, hk => absurd hk (Nat.not_lt_zero _)
  | r :: rest, i, w, res, e, k, hk => by
    rw [Screen.rowsFormattedLoop] at e
    obtain ⟨⟨bs, np, na⟩, e1, e⟩ := bind_eq_ok.mp e
    obtain ⟨tl, e2, e⟩ := bind_eq_ok.mp e
    simp only [pure_eq_ok, Except.ok.injEq] at e
    subst e
    cases k with
    | zero => exact ⟨bs, np, na, by simpa [wrapAt_zero] using e1, rfl⟩
    | succ k =>
      obtain ⟨bs', np', na', e', hr⟩ :=
        rowsFormattedLoop_get fw start width rest (i + 1) _ tl e2 k (by simpa using hk)
      refine ⟨bs', np', na', ?_, by simpa using hr⟩
      have : i + (k + 1) = i + 1 + k := by omega
      rw [this, wrapAt_cons_succ]
      simpa using e'

/-- **`rows_formatted(start, width)`, proper sub-window**: element `k` is row `k` of the view emitted by
`write_contents_formatted(start, width, k, wrapping = false, None, None)` -/
theorem rows_formatted_get_sub (s : Screen) (start width : Nat)
    (hsub : (start == 0 && width == s.grid.size.cols) = false)
    (vis : List Row) (hv : s.cur.visibleRows = .ok vis) (res : List (List Nat))
    (e : s.rowsFormatted start width = .ok res) (k : Nat) (hk : k < vis.length) :
    ∃ bs np na, vis[k].writeContentsFormatted start width k false none none = .ok (bs, np, na) ∧
      res[k]? = some bs := by
  simp only [Screen.rowsFormatted, hv, ok_bind, hsub] at e
  obtain ⟨bs, np, na, h1, h2⟩ := rowsFormattedLoop_get false start width vis 0 false res e k hk
  rw [wrapAt_sub, Nat.zero_add] at h1
  exact ⟨bs, np, na, h1, h2⟩

/-- **`rows_formatted(0, cols)`, the full-width window**: element `0` is emitted with
`wrapping = false`, element `k + 1` with `wrapping =` the wrap flag of visible row `k` -/
theorem rows_formatted_get_full (s : Screen)
    (vis : List Row) (hv : s.cur.visibleRows = .ok vis) (res : List (List Nat))
    (e : s.rowsFormatted 0 s.grid.size.cols = .ok res) (k : Nat) (hk : k < vis.length) :
    ∃ bs np na,
      vis[k].writeContentsFormatted 0 s.grid.size.cols k
        (match k with | 0 => false | j + 1 => ((vis[j]?).map (·.wrapped)).getD false) none none
        = .ok (bs, np, na) ∧
      res[k]? = some bs := by
  simp only [Screen.rowsFormatted, hv, ok_bind, beq_self_eq_true, Bool.and_self] at e
  obtain ⟨bs, np, na, h1, h2⟩ := rowsFormattedLoop_get true 0 s.grid.size.cols vis 0 false res e k hk
  rw [Nat.zero_add] at h1
  refine ⟨bs, np, na, ?_, h2⟩
  cases k with
  | zero => exact h1
  | succ j => exact h1

/-- **C15, `rows_formatted(start, width)`, one line of a proper sub-window, API level.**
`S` a source screen (`SrcScreen`: not scrolled back, rows well formed; `Inv`), `[start, start + width)` a
non-empty window inside the screen that is NOT the full width, whose edges do not split a wide character
of line `i`.  Then `S.rows_formatted(start, width)` returns, its element `i` exists, and processing it on
a receiver of the same size whose line `i` is blank, with the cursor at `(i, start)` and the default pen:
  * the window of line `i` shows `S`'s line `i` cell for cell;
  * the columns left of the window stay blank; the columns right of it are blank cells all with the same
    attributes `a`;
  * the line is not wrapped; every other line, the modes, etc. are as before (`shape`). -/
theorem rows_formatted_window_draws (hW : WOk W) (S : Screen) (hS : SrcScreen W S) (hIS : Inv W S)
    (start width : Nat) (hwd : 0 < width) (hfit : start + width ≤ S.cur.size.cols)
    (hsub : 0 < start ∨ start + width < S.cur.size.cols)
    (i : Nat) (hi : i < S.cur.size.rows)
    (hL : start = 0 ∨ ∀ c, (S.cur.rows[i]'(by rw [hS.alloc]; exact hi)).cells[start]? = some c → c.cont = false)
    (hR : start + width = S.cur.size.cols ∨
      ∀ c, (S.cur.rows[i]'(by rw [hS.alloc]; exact hi)).cells[start + width]? = some c → c.cont = false)
    (p0 : Parser) (hr : Ready p0) (hcv : Canvas (rsOf p0.ws).g)
    (hqsz : (rsOf p0.ws).g.size = S.cur.size)
    (Ri0 : Row) (hrow : (rsOf p0.ws).g.rows[i]? = some Ri0)
    (hblank : Line (S.cur.rows[i]'(by rw [hS.alloc]; exact hi)).cells 0 Ri0)
    (hpos : (rsOf p0.ws).g.pos = ⟨i, start⟩) (hpen : (rsOf p0.ws).pen = Attrs.default) :
    ∃ res bs, S.rowsFormatted start width = .ok res ∧ res.length = S.cur.size.rows ∧ res[i]? = some bs ∧
      ∃ Ri np na, Emitted W cb p0 bs (shape (rsOf p0.ws) i Ri np na) ∧
        (∀ k, start ≤ k → k < start + width →
          (Ri.cells[k]?).map view = ((S.cur.rows[i]'(by rw [hS.alloc]; exact hi)).cells[k]?).map view) ∧
        (∀ k, k < start → (Ri.cells[k]?).map view = some blankV) ∧
        (∃ a, ∀ k, start + width ≤ k → k < S.cur.size.cols → (Ri.cells[k]?).map view = some (blankA a)) ∧
        Ri.wrapped = false ∧ Ri.cells.length = S.cur.size.cols := by
  have hiS : i < S.cur.rows.length := by rw [hS.alloc]; exact hi
  have hwS := hS.rows.width _ (List.getElem_mem hiS)
  obtain ⟨res, eres⟩ := C03.rows_formatted_total hIS start width
  have hvS := C19.visibleRows_offset0 S.cur hS.off
  have hsame : S.grid.size.cols = S.cur.size.cols := congrArg Size.cols (grid_size_cur ((inv_iff W S).mp hIS))
  have hsub' : (start == 0 && width == S.grid.size.cols) = false := by
    rw [hsame]
    rcases hsub with h | h
    · have : (start == 0) = false := by rw [beq_eq_false_iff_ne]; omega
      rw [this]; rfl
    · have : (width == S.cur.size.cols) = false := by rw [beq_eq_false_iff_ne]; omega
      rw [this, Bool.and_false]
  obtain ⟨bs, np, na, ebs, hget⟩ := rows_formatted_get_sub S start width hsub' S.cur.rows hvS res eres i hiS
  have hlen : res.length = S.cur.size.rows := by
    have e := eres
    simp only [Screen.rowsFormatted, hvS, ok_bind] at e
    rw [C15.rowsFormattedLoop_length _ _ _ _ _ _ _ e, hS.alloc]
  have hrd := C15win.row_window_draws (cb := cb) hW p0 hr hcv i (by rw [hqsz]; exact hi) S.cur.rows[i]
    (by rw [hqsz]; exact hwS) (hS.rows.ok _ (List.getElem_mem hiS)) start width hwd (by rw [hwS]; exact hfit)
    hL (by rw [hwS]; exact hR) Ri0 hrow hblank hpos hpen
  obtain ⟨out, np', na', e', Ri, hem, h1, h2, h3, h4, h5, _, _⟩ := hrd
  cases ebs.symm.trans e'
  refine ⟨res, bs, eres, hlen, hget, Ri, np, na, hem, h1, h2, ?_, h4, h5.trans hwS⟩
  obtain ⟨a, ha⟩ := h3
  exact ⟨a, fun k hk1 hk2 => ha k hk1 (by rw [hwS]; exact hk2)⟩

/-- `S` = a 3 x 5 screen with "a", a wide CJK character, "b" in red on line 1; the window `[1, 4)` of line 1 has the
wide character entirely inside.  `S` satisfies `emitInvB`, from which `SrcScreen` and `Inv` follow; the receiver is a
new parser moved to `(1, 1)` with `ESC[2;2H`: ready, blank line 1, default pen.  And — as the theorem says — fed
element 1 of `S.rows_formatted(1, 3)` its window `[1, 4)` of line 1 shows `S`'s cells, column 0 stays blank.
Kernel-evaluated; a test. -/
theorem rows_formatted_window_draws_nonvacuous :
    isOkTrue (do
      let s ← C02.run 3 5 0 [[0x1b, 0x5b, 0x32, 0x3b, 0x31, 0x48, 0x1b, 0x5b, 0x33, 0x31, 0x6d, 97, 0xE4, 0xB8, 0x80, 98]]
      let q ← C02.run 3 5 0 [[0x1b, 0x5b, 0x32, 0x3b, 0x32, 0x48]]
      let d ← s.screen.rowsFormatted 1 3
      let r ← q.process W0 cbNone (d.getD 1 [])
      let cells (x : Screen) (i : Nat) := (x.cur.rows.getD i (Row.new 0)).cells.map view
      let srow := s.screen.cur.rows.getD 1 (Row.new 0)
      pure (emitInvB W0 s.screen && s.screen.cur.scrollbackOffset == 0 &&
            decide (q.vte.state = .ground) && decide (q.vte.carry = []) &&
            q.screen.cur.pos == ⟨1, 1⟩ && q.screen.attrs == Attrs.default &&
            q.screen.cur.rows.getD 1 (Row.new 0) == Row.new 5 && q.screen.cur.size == s.screen.cur.size &&
            (srow.cells.getD 1 Cell.new).wide && !(srow.cells.getD 1 Cell.new).cont &&
            !(srow.cells.getD 4 Cell.new).cont &&
            d.length == 3 &&
            decide (((cells r.screen 1).drop 1).take 3 = ((cells s.screen 1).drop 1).take 3) &&
            decide ((cells r.screen 1).take 1 = [blankV]) &&
            decide ((cells s.screen 1).take 1 ≠ [blankV]))) = true := by
  decide +kernel

end Vt.MiscC15
