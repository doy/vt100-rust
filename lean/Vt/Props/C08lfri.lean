import Vt.Props.C08grid
import Vt.Spec.Obs
/-
  C08: LF / VT / FF and RI as actions.  `perform_lf` / `perform_ri` put the whole-record closed forms of C08grid
  (`lfGrid`, `riClosed`) on the active grid; IND (ESC D), NEL (ESC E) and the C1 forms are NOT implemented by the
  crate (`perform_*_unhandled`).  The last section runs the model on a 5×3 screen with the region = lines 1..3 to show
  that the case lemmas of C08grid are not vacuous.
-/
namespace Vt.C08lfri
open Vt Vt.C08 Vt.C12

variable {W : Nat → Option Nat} {cb : CbPolicy}

theorem screen_lf {s : Screen} (h : ScreenInv W s) : s.lf = .ok (s.setCur (lfGrid s.cur)) := by
  unfold Screen.lf
  refine modifyGrid_ok_of ?_
  rw [lf_spec h.cur.1 h.cur.2 1]
  rfl

theorem screen_ri {s : Screen} (h : ScreenInv W s) : s.ri = .ok (s.setCur (riClosed s.cur 1)) := by
  unfold Screen.ri
  exact modifyGrid_ok_of (ri_spec h.cur.1 h.cur.2 1)

/-- **LF, VT, FF** (`execute 10 / 11 / 12`) on a screen satisfying the invariant: the active grid becomes `lfGrid`
(`lf1_down` / `lf1_scroll` / `lf1_last` read it), the pen, the modes and the other grid are untouched, no
callback runs, for every callback policy -/
theorem perform_lf {ws : WS} (h : ScreenInv W ws.screen) (b : Nat) (hb : b = 10 ∨ b = 11 ∨ b = 12) :
    perform W cb ws (.execute b) = .ok { ws with screen := ws.screen.setCur (lfGrid ws.screen.cur) } := by
  rcases hb with rfl | rfl | rfl <;>
    simp only [perform, performExecute, WS.onScreen, screen_lf h, ok_bind, pure_eq_ok]

/-- **RI** (`ESC M`): the active grid becomes `riClosed _ 1` (`ri1_up` / `ri1_scroll` / `ri1_line0_above` read
it), nothing else changes, no callback runs -/
theorem perform_ri {ws : WS} (h : ScreenInv W ws.screen) (ig : Bool) :
    perform W cb ws (.escDispatch [] ig 77) = .ok { ws with screen := ws.screen.setCur (riClosed ws.screen.cur 1) } := by
  simp only [perform, performEsc, WS.onScreen, screen_ri h, ok_bind, pure_eq_ok]

/-- **IND** (`ESC D`) and **NEL** (`ESC E`) are NOT implemented by the crate: they reach the `unhandled_escape`
callback and do nothing to the screen themselves -/
theorem perform_ind_unhandled (ws : WS) (ig : Bool) :
    perform W cb ws (.escDispatch [] ig 68) = emit cb (.unhandledEscape none none 68) ws := rfl
theorem perform_nel_unhandled (ws : WS) (ig : Bool) :
    perform W cb ws (.escDispatch [] ig 69) = emit cb (.unhandledEscape none none 69) ws := rfl

/-- with callbacks that leave the screen alone (`impl Callbacks for ()`): the screen is unchanged -/
theorem perform_ind_cbNone (ws : WS) (ig : Bool) :
    perform W cbNone ws (.escDispatch [] ig 68)
      = .ok { screen := ws.screen, events := ws.events ++ [.unhandledEscape none none 68] } := rfl
theorem perform_nel_cbNone (ws : WS) (ig : Bool) :
    perform W cbNone ws (.escDispatch [] ig 69)
      = .ok { screen := ws.screen, events := ws.events ++ [.unhandledEscape none none 69] } := rfl

/-- the 8-bit C1 forms U+0084 (IND), U+0085 (NEL), U+008D (RI) are not implemented either: `unhandled_control` -/
theorem perform_c1_unhandled (ws : WS) (c : Nat) (hc : c = 0x84 ∨ c = 0x85 ∨ c = 0x8D) :
    perform W cb ws (.print c) = emit cb (.unhandledControl c) ws := by
  rcases hc with rfl | rfl | rfl <;> rfl

def demoRun (rows cols sb : Nat) (bytes : List Nat) : Grid :=
  match (Parser.new rows cols sb >>= fun p => p.process W0 cbNone bytes) with
  | .ok p => p.ws.screen.cur
  | .error _ => default

/-- `a⏎b⏎c⏎d⏎e` on the five lines -/
def fiveLines : List Nat := [97, 13, 10, 98, 13, 10, 99, 13, 10, 100, 13, 10, 101]

/-- 5×3, lines `a b c d e`, region = lines 1..3 (`ESC[2;4r`), cursor on the bottom margin (`ESC[4;1H`) -/
def demoBottom : Grid := demoRun 5 3 7 (fiveLines ++ [27, 91, 50, 59, 52, 114] ++ [27, 91, 52, 59, 49, 72])
/-- the same, cursor on the top margin (`ESC[2;1H`) -/
def demoTop : Grid := demoRun 5 3 7 (fiveLines ++ [27, 91, 50, 59, 52, 114] ++ [27, 91, 50, 59, 49, 72])
/-- the same, cursor on line 0, above the region (`ESC[1;1H`) -/
def demoAbove : Grid := demoRun 5 3 7 (fiveLines ++ [27, 91, 50, 59, 52, 114] ++ [27, 91, 49, 59, 49, 72])
/-- 5×3, capacity 7, no region set (the margins are the whole screen, so `inScrollRegion` holds), cursor on the last line -/
def demoFull : Grid := demoRun 5 3 7 fiveLines

theorem demoBottom_live : Live demoBottom :=
  live_of_inv ((gridOk_iff W0 _ true).mp (by decide +kernel)) (by decide +kernel)
theorem demoFull_live : Live demoFull :=
  live_of_inv ((gridOk_iff W0 _ true).mp (by decide +kernel)) (by decide +kernel)

/-- the demo grids satisfy the full invariant, their five lines are pairwise different, the cursors are where the
comments say -/
theorem demo_ok :
    (gridOk W0 demoBottom true && gridOk W0 demoTop true && gridOk W0 demoAbove true && gridOk W0 demoFull true &&
     demoBottom.rows.length == 5 && demoBottom.rows.eraseDups.length == 5 &&
     demoBottom.scrollTop == 1 && demoBottom.scrollBottom == 3 &&
     demoBottom.pos.row == 3 && demoTop.pos.row == 1 && demoAbove.pos.row == 0 && demoFull.pos.row == 4 &&
     demoTop.rows == demoBottom.rows && demoAbove.rows == demoBottom.rows && demoFull.rows == demoBottom.rows &&
     demoBottom.inScrollRegion && demoTop.inScrollRegion && !demoAbove.inScrollRegion && demoFull.inScrollRegion &&
     decide (NoRecord demoBottom) && !decide (NoRecord demoFull)) = true := by
  decide +kernel

/-- `lf_scroll` / `lf_scroll_plain` are not vacuous: LF ×2 on the bottom margin of the region `b c d` scrolls it by 2:
`a d _ _ e`, cursor still on the bottom margin, 2 lines reported, nothing recorded -/
theorem lf_scroll_nonvacuous :
    demoBottom.inScrollRegion = true ∧ demoBottom.scrollBottom < demoBottom.pos.row + 2 ∧ NoRecord demoBottom ∧
    lfClosed demoBottom 2 = ({ demoBottom with rows :=
        [demoBottom.rows[0]!, demoBottom.rows[3]!, Row.new 3, Row.new 3, demoBottom.rows[4]!] }, 2) ∧
    demoBottom.rowIncScroll 2 = .ok (lfClosed demoBottom 2) := by
  rw [← and_assoc, ← and_assoc, ← and_assoc]
  exact ⟨by decide +kernel, rowIncScroll_spec demoBottom_live 2⟩

/-- `lf_scroll_record` is not vacuous: LF ×2 on the last line of a full-screen region with capacity 7 records the
lines `a`, `b` in that order; rows `c d e _ _` -/
theorem lf_record_nonvacuous :
    demoFull.inScrollRegion = true ∧ demoFull.scrollBottom < demoFull.pos.row + 2 ∧ ¬ NoRecord demoFull ∧
    lfClosed demoFull 2 = ({ demoFull with
        rows := [demoFull.rows[2]!, demoFull.rows[3]!, demoFull.rows[4]!, Row.new 3, Row.new 3],
        scrollback := [demoFull.rows[0]!, demoFull.rows[1]!] }, 2) ∧
    demoFull.rowIncScroll 2 = .ok (lfClosed demoFull 2) := by
  rw [← and_assoc, ← and_assoc, ← and_assoc]
  exact ⟨by decide +kernel, rowIncScroll_spec demoFull_live 2⟩

/-- `ri_scroll` is not vacuous: RI ×2 on the top margin of the region `b c d`: `a _ _ b e`, cursor still on the
top margin -/
theorem ri_scroll_nonvacuous :
    demoTop.inScrollRegion = true ∧ demoTop.pos.row < 2 + demoTop.scrollTop ∧
    riClosed demoTop 2 = { demoTop with rows :=
        [demoTop.rows[0]!, Row.new 3, Row.new 3, demoTop.rows[1]!, demoTop.rows[4]!] } ∧
    demoTop.rowDecScroll 2 = .ok (riClosed demoTop 2) := by
  have hreg : demoTop.scrollTop ≤ demoTop.scrollBottom ∧ demoTop.scrollBottom < demoTop.rows.length := by decide +kernel
  rw [← and_assoc, ← and_assoc]
  exact ⟨by decide +kernel, rowDecScroll_spec demoTop hreg.1 hreg.2 2⟩

/-- `ri1_line0_above` is not vacuous — the §5.3 behaviour on a concrete screen: RI on line 0, above the region
`b c d`, leaves the cursor on line 0 and scrolls the region: `a _ b c e` -/
theorem ri_line0_above_witness :
    demoAbove.inScrollRegion = false ∧ demoAbove.pos.row = 0 ∧
    riClosed demoAbove 1 = { demoAbove with rows :=
        [demoAbove.rows[0]!, Row.new 3, demoAbove.rows[1]!, demoAbove.rows[2]!, demoAbove.rows[4]!] } ∧
    demoAbove.rowDecScroll 1 = .ok (riClosed demoAbove 1) := by
  have hreg : demoAbove.scrollTop ≤ demoAbove.scrollBottom ∧ demoAbove.scrollBottom < demoAbove.rows.length := by
    decide +kernel
  rw [← and_assoc, ← and_assoc]
  exact ⟨by decide +kernel, rowDecScroll_spec demoAbove hreg.1 hreg.2 1⟩

/-- the parser state behind `demoBottom` -/
def demoWS : WS :=
  match (Parser.new 5 3 7 >>= fun p =>
      p.process W0 cbNone (fiveLines ++ [27, 91, 50, 59, 52, 114] ++ [27, 91, 52, 59, 49, 72])) with
  | .ok p => p.ws
  | .error _ => default

theorem demoWS_inv : ScreenInv W0 demoWS.screen := (inv_iff W0 _).mp (by decide +kernel)

/-- `perform_lf` at work on a screen meeting its hypothesis, in the scrolling case: LF on the bottom margin gives
`a c d _ e`, no event, pen and modes as before -/
theorem perform_lf_nonvacuous :
    ∃ ws', perform W0 cbNone demoWS (.execute 10) = .ok ws' ∧ ws'.events = demoWS.events ∧
      ws'.screen.cur.rows = [demoBottom.rows[0]!, demoBottom.rows[2]!, demoBottom.rows[3]!, Row.new 3,
        demoBottom.rows[4]!] ∧ ws'.screen.cur.pos = demoBottom.pos := by
  refine ⟨_, perform_lf demoWS_inv 10 (Or.inl rfl), ?_⟩
  decide +kernel

/-- `perform_ri` likewise (cursor on the bottom margin, so RI just moves up one line) -/
theorem perform_ri_nonvacuous :
    ∃ ws', perform W0 cbNone demoWS (.escDispatch [] false 77) = .ok ws' ∧ ws'.events = demoWS.events ∧
      ws'.screen.cur = withRow demoBottom 2 := by
  refine ⟨_, perform_ri demoWS_inv false, ?_⟩
  decide +kernel

end Vt.C08lfri
