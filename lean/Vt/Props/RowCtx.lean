/-
  Vt.Props.RowCtx — what the simulations of the row emitters (`Row::write_contents_formatted`, `Row::write_contents_diff`) share:
  the fixed data of one line (`Ctx`), what is assumed of a source line (`SrcOk`), the loop over a window of cells as an induction
  over columns (`enum_fold_win`), and the receiver once the line above has wrapped onto this one (`WCtx`, `Ctx.wrapped`).
  The namespace is `Vt.RowDraw`; Props/RowDraw continues it.
-/
import Vt.Lemmas.RowSim
import Vt.Props.C07
import Vt.Props.C07b
import Vt.Props.C19b
import Vt.Props.C03b
import Vt.Props.C14b
namespace Vt.RowDraw
open Vt Vt.Recv Vt.C19 Vt.C09 Vt.C03
open Vt.Fmt (start preamble wcfPos wcfStart emit_text)

theorem attrs_wf_of_ok {a : Attrs} (h : attrsOk a = true) : Attrs.wf a := by
  simp only [attrsOk, Bool.and_eq_true] at h
  have col : ∀ c : Color, colorOk c = true → Color.wf c := by
    intro c hc
    cases c with
    | default => trivial
    | idx i => simpa [colorOk, Color.wf] using hc
    | rgb r g b => simpa [colorOk, Color.wf, and_assoc] using hc
  exact ⟨col _ h.1, col _ h.2⟩

/-- The fixed data of one line.  `p0` is the receiver's parser before the line's first byte: `Emitted W cb K.p0 out r` is always
counted from it.  `r0` is the state that `shape K.r0 K.i Ri pos pen` overwrites (line `i`, cursor, pen) to give the receiver while
the line is drawn; it is `rsOf p0.ws` only where a lemma assumes so, and `Ctx.wrapped` moves it (the line above gets its wrap flag)
while `p0` stays, so that one set of lemmas about `shape K.r0 …` serves before and after the wrap.  `W`, `cb` are in no field:
they fix the implicit arguments of `Emitted` for the dot-lemmas. -/
structure Ctx (W : Nat → Option Nat) (cb : CbPolicy) where
  p0 : Parser
  ready : Ready p0
  r0 : RS
  canvas : Canvas r0.g
  i : Nat
  hi : i < r0.g.size.rows
  src : List Cell
  hsrc : src.length = r0.g.size.cols

variable {W : Nat → Option Nat} {cb : CbPolicy}

theorem Ctx.emitted_move (K : Ctx W cb) {out : List Nat} {Ri : Row} {pos : Pos} {pen : Attrs}
    (hem : Emitted W cb K.p0 out (shape K.r0 K.i Ri pos pen)) (hl : Ri.cells.length = K.src.length) {c : Nat}
    (hc : c < K.src.length) :
    Emitted W cb K.p0 (out ++ Term.moveFromTo pos ⟨K.i, c⟩) (shape K.r0 K.i Ri ⟨K.i, c⟩ pen) := by
  have hu := K.canvas.cols_u16
  have hru := K.canvas.rows_u16
  have hi := K.hi
  have hs := K.hsrc
  exact emitted_step W cb K.ready hem (step_moveFromTo W cb pos ⟨K.i, c⟩ (by simp only; omega) (by simp only; omega))
    (shape_goto K.canvas (hl.trans hs) pos ⟨K.i, c⟩ pen K.hi (by rw [← hs]; exact hc))

theorem Ctx.emitted_pen (K : Ctx W cb) {out : List Nat} {Ri : Row} {pos : Pos} {pen : Attrs}
    (hem : Emitted W cb K.p0 out (shape K.r0 K.i Ri pos pen)) {a : Attrs} (hwf : Attrs.wf a) :
    Emitted W cb K.p0 (out ++ if (pen != a) = true then a.writeEscapeCodeDiff pen else []) (shape K.r0 K.i Ri pos a) := by
  by_cases hp : (pen != a) = true
  · rw [if_pos hp]
    exact emitted_step W cb K.ready hem (step_pen W cb a pen hwf) (r' := shape K.r0 K.i Ri pos a) (by simp [shape])
  · have hpa : pen = a := by simpa using hp
    rw [if_neg hp, List.append_nil, ← hpa]
    exact hem

/-- what is assumed of the source line (all of it follows from `Inv`, `Inv⁺` and `emitInvB`) -/
structure SrcOk (W : Nat → Option Nat) (src : List Cell) : Prop where
  cells_ok : ∀ c ∈ src, cellOk W c = true
  paired : pairThrough false src = some false
  emit_ok : ∀ j (hj : j < src.length), cellEmitOk W src.length j src[j] = true
  cont_default : ∀ c ∈ src, c.cont = true → c.attrs = Attrs.default

theorem SrcOk.wf {src : List Cell} (h : SrcOk W src) (j : Nat) (hj : j < src.length) : Attrs.wf src[j].attrs := by
  have := h.emit_ok j hj
  simp only [cellEmitOk, Bool.and_eq_true] at this
  exact attrs_wf_of_ok this.1

theorem SrcOk.blank_view {src : List Cell} (h : SrcOk W src) (j : Nat) (hj : j < src.length)
    (hh : src[j].hasContents = false) : view src[j] = ⟨0, false, src[j].cont, src[j].attrs, []⟩ := by
  have hok := h.cells_ok _ (List.getElem_mem hj)
  have hlen : src[j].len = 0 := by simpa [Cell.hasContents] using hh
  simp [view, hlen, cellOk_empty W hok hlen]

theorem SrcOk.cont_view {src : List Cell} (h : SrcOk W src) (j : Nat) (hj : j < src.length)
    (hc : src[j].cont = true) : view src[j] = contV := by
  have hok := h.cells_ok _ (List.getElem_mem hj)
  obtain ⟨hw, hlen⟩ := cellOk_cont W _ hok hc
  simp [view, contV, hlen, hw, hc, h.cont_default _ (List.getElem_mem hj) hc]

theorem wide_next_of_paired {l : List Cell} (hp : pairThrough false l = some false) (j : Nat) (hj : j < l.length)
    (hw : l[j].wide = true) : ∃ hj' : j + 1 < l.length, l[j + 1].cont = true := by
  obtain ⟨d, hd, hdc⟩ := paired_wide_next (List.getElem?_eq_getElem hj) hp hw
  have hl := getElem?_lt hd
  refine ⟨hl, ?_⟩
  rw [List.getElem?_eq_getElem hl] at hd
  rw [Option.some.inj hd]; exact hdc

theorem SrcOk.wide_next {src : List Cell} (h : SrcOk W src) (j : Nat) (hj : j < src.length)
    (hw : src[j].wide = true) : ∃ hj' : j + 1 < src.length, src[j + 1].cont = true :=
  wide_next_of_paired h.paired j hj hw

theorem srcOk_links {S : List Cell} (h : SrcOk W S) : Links S :=
  (links_iff _).mpr ⟨h.paired, fun c hc hcc => (cellOk_cont W c (h.cells_ok c hc) hcc).1⟩

theorem paired_cont_iff {l : List Cell} (hp : pairThrough false l = some false) (j : Nat) (hj : j < l.length) :
    l[j].cont = (if j = 0 then false else l[j - 1].wide) := by
  by_cases hj0 : j = 0
  · subst hj0
    simp only [↓reduceIte]
    obtain ⟨p, e1, e2, _⟩ := pairThrough_split (List.getElem?_eq_getElem hj) hp
    simp [pairThrough] at e1
    rw [e2, ← e1]
  · simp only [hj0, ↓reduceIte]
    have hj1 : j - 1 < l.length := by omega
    exact C07.paired_adjacent hp (List.getElem?_eq_getElem hj1)
      (by rw [show j - 1 + 1 = j by omega]; exact List.getElem?_eq_getElem hj)

theorem SrcOk.cont_iff {src : List Cell} (h : SrcOk W src) (j : Nat) (hj : j < src.length) :
    src[j].cont = (if j = 0 then false else src[j - 1].wide) :=
  paired_cont_iff h.paired j hj

theorem srcOk_blank (n : Nat) : SrcOk W (List.replicate n Cell.new) := by
  refine ⟨(cellsInv_replicate_new W n).cells_ok, pairThrough_replicate_new n, fun j hj => ?_, fun c hc _ => ?_⟩
  · rw [List.getElem_replicate]
    simp [cellEmitOk, Cell.new, attrsOk, Attrs.default, colorOk]
  · rw [(List.mem_replicate.mp hc).2]; rfl

/-- `pw` is the emitter's `prev_was_wide` -/
theorem cont_eq_prevWide {S : List Cell} (hS : SrcOk W S) {j : Nat} (hj : j < S.length) {pw : Bool}
    (hww : ∀ (_ : 0 < j) (hl : j ≤ S.length), pw = (S[j - 1]'(by omega)).wide) (hw0 : j = 0 → pw = false) :
    S[j].cont = pw := by
  rw [hS.cont_iff j hj]
  by_cases h0 : j = 0
  · rw [if_pos h0, hw0 h0]
  · rw [if_neg h0, hww (by omega) (Nat.le_of_lt hj)]

theorem cell_fits {S : List Cell} (hS : SrcOk W S) (j : Nat) (hj : j < S.length) :
    j + (if S[j].wide = true then 2 else 1) ≤ S.length := by
  by_cases hw : S[j].wide = true
  · obtain ⟨hj1, _⟩ := hS.wide_next j hj hw
    rw [if_pos hw]; omega
  · rw [if_neg hw]; omega

theorem SrcOk.last_narrow {S : List Cell} (hS : SrcOk W S) (hne : 0 < S.length) :
    (S[S.length - 1]'(by omega)).wide = false := by
  cases hw : (S[S.length - 1]'(by omega)).wide
  · rfl
  · have := cell_fits hS (S.length - 1) (by omega)
    rw [if_pos hw] at this; omega

theorem blank_narrow {c : Cell} (hok : cellOk W c = true) (hh : c.hasContents = false) : c.wide = false :=
  blank_narrow_of_ok hok hh

theorem wide_has_contents {c : Cell} (hok : cellOk W c = true) (hw : c.wide = true) : c.hasContents = true := by
  cases hh : c.hasContents
  · rw [blank_narrow hok hh] at hw; cases hw
  · rfl

theorem blank_blankA {S : List Cell} (hS : SrcOk W S) (j : Nat) (hj : j < S.length) (hh : S[j].hasContents = false)
    (hc : S[j].cont = false) : view S[j] = blankA S[j].attrs := by
  rw [hS.blank_view j hj hh, hc]; rfl

theorem blankA_wide {c : Cell} {a : Attrs} (h : view c = blankA a) : c.wide = false := by
  simp only [view, blankA, View.mk.injEq] at h
  exact h.2.1

theorem blankA_cont {c : Cell} {a : Attrs} (h : view c = blankA a) : c.cont = false := by
  simp only [view, blankA, View.mk.injEq] at h
  exact h.2.2.1

theorem blankA_attrs {c : Cell} {a : Attrs} (h : view c = blankA a) : c.attrs = a := by
  simp only [view, blankA, View.mk.injEq] at h
  exact h.2.2.2.1

theorem blank_not_occ {c : Cell} {a : Attrs} (h : view c = blankA a) : c.hasContents = false ∧ c.cont = false := by
  simp only [view, blankA, View.mk.injEq] at h
  exact ⟨by simp [Cell.hasContents, h.1], h.2.2.1⟩

theorem pen_if (pa a : Attrs) :
    (if (pa != a) = true then a.writeEscapeCodeDiff pa else []) = a.writeEscapeCodeDiff pa := by
  by_cases h : (pa != a) = true
  · rw [if_pos h]
  · rw [if_neg h, show pa = a by simpa using h, attrs_diff_self]

/-- the column up to which the receiver's line shows the source: where the pending erase run starts, `j` if none is pending -/
def esK (j : Nat) (st : Row.FmtSt) : Nat :=
  match st.erase with
  | some (e, _) => e
  | none => j

def afterText (i j : Nat) (st : Row.FmtSt) (c : Cell) : Row.FmtSt :=
  { prevWasWide := st.prevWasWide
    prevPos := ⟨i, j + (if c.isWide then 2 else 1)⟩
    prevAttrs := c.attrs
    erase := st.erase
    out := ((if (({ row := i, col := j } : Pos) != st.prevPos) = true then
              st.out ++ Term.moveFromTo st.prevPos ⟨i, j⟩ else st.out) ++
            (if (st.prevAttrs != c.attrs) = true then c.attrs.writeEscapeCodeDiff st.prevAttrs else [])) ++
           c.contents.take c.len }

/-- `hrow`: with the cursor already on line `i`, `wrapping` cannot suppress the move -/
theorem emit_text_eq (n i j : Nat) (st : Row.FmtSt) (c : Cell) (hh : c.hasContents = true) (hf : CellFine c)
    (w : Bool) (hrow : w = true → st.prevPos.row = i) :
    C03.emitCell n i w st j c true = .ok (afterText i j st c) := by
  have hmv : (!w || st.prevPos.row + 1 != i ||
      decide (st.prevPos.col < n - if c.isWide = true then 1 else 0) || j != 0) = true := by
    cases w
    · simp
    · simp [hrow rfl]
  rw [emit_text _ _ _ _ _ _ hh, contentsBytes_ok hf]
  by_cases h1 : st.prevPos = ⟨i, j⟩ <;>
    simp [Fmt.written, afterText, hmv, h1, eq_comm (a := (⟨i, j⟩ : Pos)), pure, Except.pure, bind, Except.bind]

theorem enum_fold_win {σ α : Type} {l : List α} {f : σ → Nat × α → M σ} {P : Nat → σ → Prop}
    (hstep : ∀ j (hj : j < l.length) s, P j s → ∃ s', f s (j, l[j]) = .ok s' ∧ P (j + 1) s') :
    ∀ (n j : Nat) (s : σ), j + n ≤ l.length → P j s →
      ∃ s', (C14.enumFrom j ((l.drop j).take n)).foldlM f s = .ok s' ∧ P (j + n) s'
  | 0, j, s, _, h => ⟨s, by simp [C14.enumFrom, pure, Except.pure], h⟩
  | n + 1, j, s, hjl, h => by
    have hj : j < l.length := by omega
    obtain ⟨s1, e1, h1⟩ := hstep j hj s h
    obtain ⟨s', e2, h2⟩ := enum_fold_win hstep n (j + 1) s1 (by omega) h1
    refine ⟨s', ?_, by rw [show j + (n + 1) = j + 1 + n by omega]; exact h2⟩
    have : C14.enumFrom j ((l.drop j).take (n + 1)) = (j, l[j]) :: C14.enumFrom (j + 1) ((l.drop (j + 1)).take n) := by
      rw [List.drop_eq_getElem_cons hj, List.take_succ_cons]
      simp [C14.enumFrom, List.zipIdx_cons]
    rw [this, List.foldlM_cons, e1]
    exact e2

theorem shape_self (r0 : RS) (i : Nat) (Ri : Row) (h : r0.g.rows[i]? = some Ri) : shape r0 i Ri r0.g.pos r0.pen = r0 := by
  simp only [shape, set_getElem?_self h]

theorem shape_at {R : RS} {k : Nat} {Rk : Row} (h : R.g.rows[k]? = some Rk) (to : Pos) :
    ({ R with g := withPos R.g to } : RS) = shape R k Rk to R.pen := by
  simp only [shape, withPos, set_getElem?_self h]

theorem wcf_line_eq (sr : Row) (i : Nat) (w : Bool) (pp : Pos) (pa : Attrs) :
    sr.writeContentsFormatted 0 sr.cells.length i w (some pp) (some pa) =
      ((C14.enumFrom 0 sr.cells).foldlM (Row.fmtStep sr.cells.length i w)
          (if (w && sr.firstIsDefault 0) = true then preamble i pa else start pp pa) >>=
        fun st => pure ((Row.fmtFinish sr.cells.length i w st).out, (Row.fmtFinish sr.cells.length i w st).prevPos,
          (Row.fmtFinish sr.cells.length i w st).prevAttrs)) := by
  rw [Fmt.wcf_eq, C14.window_enum]
  simp [wcfPos, wcfStart, Row.cols]

theorem diffStart_false (r prev : Row) (s row : Nat) (pw : Bool) (pp : Pos) (pa : Attrs) :
    Row.diffStart r prev s row false pw pp pa = .ok (start pp pa) :=
  diffStart_quiet r prev s row false pw pp pa fun _ _ _ _ => rfl

/-- what is known when line `i - 1` is wrapped: it exists on the receiver and its last column is occupied -/
structure WCtx (K : Ctx W cb) where
  hi1 : 1 ≤ K.i
  Rp : Row
  hp : K.r0.g.rows[K.i - 1]? = some Rp
  last : Cell
  hlast : Rp.cells[K.r0.g.size.cols - 1]? = some last
  hocc : (last.hasContents || last.cont) = true

/-- the context once the wrap has been recorded on the receiver -/
def Ctx.wrapped (K : Ctx W cb) (X : WCtx K) : Ctx W cb :=
  { p0 := K.p0, ready := K.ready, r0 := wrapBase K.r0 K.i X.Rp, canvas := wrapBase_canvas K.canvas K.i X.hp,
    i := K.i, hi := K.hi, src := K.src, hsrc := K.hsrc }

/-- the emitter state after the first cell of a wrapped-onto line when that cell holds text: no move -/
def afterTextW (i : Nat) (st : Row.FmtSt) (c : Cell) : Row.FmtSt :=
  { prevWasWide := st.prevWasWide
    prevPos := ⟨i, 0 + (if c.isWide then 2 else 1)⟩
    prevAttrs := c.attrs
    erase := st.erase
    out := (st.out ++ (if (st.prevAttrs != c.attrs) = true then c.attrs.writeEscapeCodeDiff st.prevAttrs else [])) ++
           c.contents.take c.len }

/-- `hc0`: from column `c0` of the line above, where the emitter's cursor is parked, the text does not fit: no move -/
theorem emit_text_wrap_eq (n i c0 : Nat) (st : Row.FmtSt) (c : Cell) (hh : c.hasContents = true) (hf : CellFine c)
    (hi1 : 1 ≤ i) (hpos : st.prevPos = ⟨i - 1, c0⟩) (hc0 : n ≤ c0 + (if c.isWide = true then 1 else 0)) :
    C03.emitCell n i true st 0 c true = .ok (afterTextW i st c) := by
  unfold C03.emitCell
  have hne : (({ row := i, col := 0 } : Pos) != st.prevPos) = true := by
    rw [hpos]; simp; omega
  have hmv : (!true || st.prevPos.row + 1 != ({ row := i, col := 0 } : Pos).row ||
      decide (st.prevPos.col < n - if c.isWide = true then 1 else 0) ||
      ({ row := i, col := 0 } : Pos).col != 0) = false := by
    rw [hpos]
    simp only [Bool.not_true, Bool.false_or, bne_self_eq_false, Bool.or_false, Bool.or_eq_false_iff, bne_eq_false_iff_eq,
      decide_eq_false_iff_not]
    refine ⟨by omega, ?_⟩
    split at hc0 <;> split <;> omega
  simp only [↓reduceIte, hh, contentsBytes_ok hf, hne, hmv, Bool.false_eq_true, List.append_nil]
  by_cases h2 : (st.prevAttrs != c.attrs) = true
  · simp [afterTextW, h2]
  · have : st.prevAttrs = c.attrs := by simpa using h2
    simp [afterTextW, this]

theorem wf_default : Attrs.wf Attrs.default := ⟨trivial, trivial⟩

end Vt.RowDraw
