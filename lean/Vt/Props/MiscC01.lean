/-
  MiscC01 — C01: the receiver after a full redraw is again a legitimate receiver, so "a parser that has
  previously been fed other full redraws" is closed under iteration.

  `contents_formatted_reproduces` / `state_formatted_reproduces` (Vt/Props/C01full.lean) assume `RecvOk W q`
  (ready, canvas, well-formed rows) and offset 0 of the receiver, and conclude `Shows`, `DrawnAs`, `Ready` —
  but not `RecvOk` of the result.
  `Recv W sz q` adds what is missing: `C13.ParserInv W q` (what every parser reached from `Parser::new` by `process`
  satisfies), view not scrolled back, size `sz`.  One redraw keeps `Recv` (`recv_contents_formatted`,
  `recv_state_formatted`), hence so does any number of them (`recv_feedRedraws`), and the last one shows its screen.
-/
import Vt.Props.C01full
namespace Vt.MiscC01
open Vt Vt.Recv Vt.C19 Vt.C09 Vt.RowDraw Vt.GridDraw Vt.Tok Vt.C03 Vt.C01 Vt.Bytes

variable {W : Nat → Option Nat} {cb : CbPolicy}

structure Recv (W : Nat → Option Nat) (sz : Size) (q : Parser) : Prop where
  ok : RecvOk W q
  inv : C13.ParserInv W q
  off : (rsOf q.ws).g.scrollbackOffset = 0
  size : (rsOf q.ws).g.size = sz

theorem recvOk_of_drawn {q' : Parser} {S : Screen} (hr : Ready q') (hd : DrawnAs q' S)
    (hi : C13.ParserInv W q') : RecvOk W q' := by
  refine ⟨hr, hd.canvas, ?_⟩
  intro r hrow
  have hg := (ScreenInv.cur hi.screen).1
  exact (hg.row_ok r hrow).2

theorem recv_new (rows cols sb : Nat) (hr : 1 ≤ rows) (hc : 1 ≤ cols) (hr' : rows ≤ 65535)
    (hc' : cols ≤ 65535) :
    ∃ q, Parser.new rows cols sb = .ok q ∧ Recv W ⟨rows, cols⟩ q ∧ q.ws.events = [] ∧
      q.screen.mouseMode = .none ∧ q.screen.mouseEnc = .default := by
  obtain ⟨q, e, hq⟩ := new_recvOk W rows cols sb hr hc hr' hc'
  obtain ⟨q0, e0, hi⟩ := C13.new_parserInv (W := W) rows cols sb hr hc hr' hc'
  cases e.symm.trans e0
  exact ⟨q, e, ⟨hq.ok, hi, hq.off, hq.size⟩, hq.events, hq.mouseMode, hq.mouseEnc⟩

/-- **C01, `contents_formatted`, with the receiver invariant re-established** -/
theorem recv_contents_formatted (hW : WOk W) (hcb : C13.CbInv W cb) {sz : Size} {q : Parser} (hq : Recv W sz q)
    (S : Screen) (hS : SrcScreen W S) (hsz : S.cur.size = sz) :
    ∃ bytes q', S.contentsFormatted = .ok bytes ∧ q.process W cb bytes = .ok q' ∧ Recv W sz q' ∧
      Shows q'.screen S ∧ q'.ws.events = q.ws.events ∧
      C10.inputModes q'.screen = C10.inputModes q.screen ∧ DrawnAs q' S := by
  obtain ⟨bytes, q', eb, ep, hr, hsh, hev, hmo, hd⟩ :=
    contents_formatted_reproduces (cb := cb) hW hq.ok hq.off S hS (by rw [hsz, hq.size])
  have hi : C13.ParserInv W q' := DiffRow.parserInv_of_emitted hW.space hcb hq.inv (contentsFormatted_bytes' S eb) ep
  refine ⟨bytes, q', eb, ep, ⟨recvOk_of_drawn hr hd hi, hi, hsh.off, ?_⟩, hsh, hev, hmo, hd⟩
  show q'.screen.cur.size = sz
  rw [hsh.size, hsz]

/-- **C01, `state_formatted`, with the receiver invariant re-established** -/
theorem recv_state_formatted (hW : WOk W) (hcb : C13.CbInv W cb) {sz : Size} {q : Parser} (hq : Recv W sz q)
    (hm : q.screen.mouseMode = .none) (he : q.screen.mouseEnc = .default)
    (S : Screen) (hS : SrcScreen W S) (hsz : S.cur.size = sz) :
    ∃ bytes q', S.stateFormatted = .ok bytes ∧ q.process W cb bytes = .ok q' ∧ Recv W sz q' ∧
      Shows q'.screen S ∧ C10.inputModes q'.screen = C10.inputModes S ∧ q'.ws.events = q.ws.events ∧
      DrawnAs q' S := by
  obtain ⟨bytes, q', eb, ep, hr, hsh, hmo, hev, hd⟩ :=
    state_formatted_reproduces (cb := cb) hW hq.ok hq.off hm he S hS (by rw [hsz, hq.size])
  have hi : C13.ParserInv W q' := DiffRow.parserInv_of_emitted hW.space hcb hq.inv (stateFormatted_bytes' S eb) ep
  refine ⟨bytes, q', eb, ep, ⟨recvOk_of_drawn hr hd hi, hi, hsh.off, ?_⟩, hsh, hmo, hev, hd⟩
  show q'.screen.cur.size = sz
  rw [hsh.size, hsz]

def feedRedraws (W : Nat → Option Nat) (cb : CbPolicy) : Parser → List Screen → M Parser
  | q, [] => pure q
  | q, S :: rest => do
    let bytes ← S.contentsFormatted
    let q' ← q.process W cb bytes
    feedRedraws W cb q' rest

theorem recv_feedRedraws (hW : WOk W) (hcb : C13.CbInv W cb) {sz : Size} :
    ∀ (Ss : List Screen) (q : Parser), Recv W sz q → (∀ S ∈ Ss, SrcScreen W S ∧ S.cur.size = sz) →
      ∃ q', feedRedraws W cb q Ss = .ok q' ∧ Recv W sz q' ∧ q'.ws.events = q.ws.events ∧
        C10.inputModes q'.screen = C10.inputModes q.screen ∧
        (∀ S, Ss.getLast? = some S → Shows q'.screen S)
  | [], q, hq, _ => ⟨q, rfl, hq, rfl, rfl, fun S h => by simp at h⟩
  | S :: rest, q, hq, h => by
    obtain ⟨hS, hsz⟩ := h S (List.mem_cons_self ..)
    obtain ⟨bytes, q1, eb, ep, hq1, hsh, hev, hmo, _⟩ := recv_contents_formatted (cb := cb) hW hcb hq S hS hsz
    obtain ⟨q', e', hq', hev', hmo', hlast⟩ :=
      recv_feedRedraws hW hcb rest q1 hq1 (fun T hT => h T (List.mem_cons_of_mem _ hT))
    refine ⟨q', ?_, hq', hev'.trans hev, hmo'.trans hmo, ?_⟩
    · simp only [feedRedraws, eb, ok_bind, ep, e']
    · intro T hT
      cases rest with
      | nil =>
        simp only [List.getLast?_singleton, Option.some.injEq] at hT
        subst hT
        simp only [feedRedraws, pure_eq_ok, Except.ok.injEq] at e'
        subst e'
        exact hsh
      | cons R rest' =>
        rw [List.getLast?_cons_cons] at hT
        exact hlast T hT

/-- **C01 for "a parser that has previously been fed other full redraws"**: any number of full redraws of
any screens of that size, then `S.contents_formatted()`: the receiver shows `S` — cells, wrap flags,
cursor, cursor visibility, pen — nothing is reported, and it is a legitimate receiver again -/
theorem redraws_then_contents_formatted (hW : WOk W) (hcb : C13.CbInv W cb) {sz : Size} {q : Parser}
    (hq : Recv W sz q) (Ss : List Screen) (hSs : ∀ T ∈ Ss, SrcScreen W T ∧ T.cur.size = sz)
    (S : Screen) (hS : SrcScreen W S) (hsz : S.cur.size = sz) :
    ∃ q1 bytes q2, feedRedraws W cb q Ss = .ok q1 ∧ S.contentsFormatted = .ok bytes ∧
      q1.process W cb bytes = .ok q2 ∧ Shows q2.screen S ∧ Recv W sz q2 ∧ q2.ws.events = q.ws.events ∧
      C10.inputModes q2.screen = C10.inputModes q.screen := by
  obtain ⟨q1, e1, hq1, hev1, hmo1, _⟩ := recv_feedRedraws (cb := cb) hW hcb Ss q hq hSs
  obtain ⟨bytes, q2, eb, ep, hq2, hsh, hev, hmo, _⟩ := recv_contents_formatted (cb := cb) hW hcb hq1 S hS hsz
  exact ⟨q1, bytes, q2, e1, eb, ep, hsh, hq2, hev.trans hev1, hmo.trans hmo1⟩

/-- the same with `S.state_formatted()` last: the five input modes are reproduced too (the receiver's mouse
mode and encoding are at their defaults to begin with — `contents_formatted` redraws do not touch them) -/
theorem redraws_then_state_formatted (hW : WOk W) (hcb : C13.CbInv W cb) {sz : Size} {q : Parser}
    (hq : Recv W sz q) (hm : q.screen.mouseMode = .none) (he : q.screen.mouseEnc = .default)
    (Ss : List Screen) (hSs : ∀ T ∈ Ss, SrcScreen W T ∧ T.cur.size = sz)
    (S : Screen) (hS : SrcScreen W S) (hsz : S.cur.size = sz) :
    ∃ q1 bytes q2, feedRedraws W cb q Ss = .ok q1 ∧ S.stateFormatted = .ok bytes ∧
      q1.process W cb bytes = .ok q2 ∧ Shows q2.screen S ∧ C10.inputModes q2.screen = C10.inputModes S ∧
      obs q2.screen = obs S ∧ Recv W sz q2 ∧ q2.ws.events = q.ws.events := by
  obtain ⟨q1, e1, hq1, hev1, hmo1, _⟩ := recv_feedRedraws (cb := cb) hW hcb Ss q hq hSs
  obtain ⟨bytes, q2, eb, ep, hq2, hsh, hmo, hev, _⟩ := recv_state_formatted (cb := cb) hW hcb hq1
    ((congrArg C10.InputModes.mouseMode hmo1).trans hm) ((congrArg C10.InputModes.mouseEnc hmo1).trans he) S hS hsz
  exact ⟨q1, bytes, q2, e1, eb, ep, hsh, hmo, shows_obs hsh hmo hS.off, hq2, hev.trans hev1⟩

/-- from `Parser::new`: a new parser of the right size, any number of full redraws, then
`S.state_formatted()`: the observable state of `S`, no callback event at all -/
theorem fresh_redraws_then_state_formatted (hW : WOk W) (hcb : C13.CbInv W cb) (rows cols sb : Nat)
    (hr : 1 ≤ rows) (hc : 1 ≤ cols) (hr' : rows ≤ 65535) (hc' : cols ≤ 65535)
    (Ss : List Screen) (hSs : ∀ T ∈ Ss, SrcScreen W T ∧ T.cur.size = ⟨rows, cols⟩)
    (S : Screen) (hS : SrcScreen W S) (hsz : S.cur.size = ⟨rows, cols⟩) :
    ∃ q q1 bytes q2, Parser.new rows cols sb = .ok q ∧ feedRedraws W cb q Ss = .ok q1 ∧
      S.stateFormatted = .ok bytes ∧ q1.process W cb bytes = .ok q2 ∧ obs q2.screen = obs S ∧
      q2.ws.events = [] := by
  obtain ⟨q, e, hq, hev, hm, he⟩ := recv_new (W := W) rows cols sb hr hc hr' hc'
  obtain ⟨q1, bytes, q2, e1, eb, ep, _, _, hobs, _, hev2⟩ :=
    redraws_then_state_formatted (cb := cb) hW hcb hq hm he Ss hSs S hS hsz
  exact ⟨q, q1, bytes, q2, e, e1, eb, ep, hobs, hev2.trans hev⟩

/-- three different 3 x 5 screens (text with a wrapped line and colours; a wide character and an erase run
with a background colour; the cursor in the pending-wrap column) satisfy the hypotheses of
`fresh_redraws_then_state_formatted` (`emitInvB`, from which `SrcScreen` follows; not scrolled back; one size) and, as
it says, a new parser fed the `contents_formatted()` of the first two and then the `state_formatted()` of the third has
the observable state of the third.  Kernel-evaluated; a test. -/
theorem redraws_nonvacuous :
    isOkTrue (do
      let a ← C02.run 3 5 0 [[0x1b, 0x5b, 0x33, 0x31, 0x6d, 97, 98, 99, 100, 101, 102, 103]]
      let b ← C02.run 3 5 0 [[97, 0xE4, 0xB8, 0x80, 0x1b, 0x5b, 0x34, 0x32, 0x6d, 0x1b, 0x5b, 0x4b, 13, 10, 120]]
      let c ← C02.run 3 5 0 [[13, 10, 97, 98, 99, 100, 101, 0x1b, 0x5b, 0x3f, 0x32, 0x35, 0x6c]]
      let q ← Parser.new 3 5 0
      let q1 ← feedRedraws W0 cbNone q [a.screen, b.screen]
      let bytes ← c.screen.stateFormatted
      let q2 ← q1.process W0 cbNone bytes
      let oa ← obs a.screen
      let ob ← obs b.screen
      let oc ← obs c.screen
      let o1 ← obs q1.screen
      let o2 ← obs q2.screen
      pure (emitInvB W0 a.screen && emitInvB W0 b.screen && emitInvB W0 c.screen &&
            a.screen.cur.scrollbackOffset == 0 && b.screen.cur.scrollbackOffset == 0 &&
            c.screen.cur.scrollbackOffset == 0 &&
            a.screen.cur.size == ⟨3, 5⟩ && b.screen.cur.size == ⟨3, 5⟩ && c.screen.cur.size == ⟨3, 5⟩ &&
            c.screen.cur.pos == ⟨1, 5⟩ && a.screen.cur.rows.any (·.wrapped) &&
            decide (o2 = oc) && decide (o1 = ob) && decide (ob ≠ oc) && decide (oa ≠ ob))) = true := by
  decide +kernel

end Vt.MiscC01
