/-
  Vt.Props.C01grid — the grid part of a full redraw (`Grid::write_contents_formatted`): the prefix
  `ESC[m ESC[H ESC[J`, what the loop over the lines needs, the two ways the emitter moves the receiver's cursor
  (`Moves`), and re-typing the last character of a line (`retype_last`): the drawn line is opened as `shape R k Rk`
  and the character typed by `DiffRow.type_at`, as in a diff of the line against itself (`mid_same`).
-/
import Vt.Props.GridDraw
namespace Vt.C01
open Vt Vt.Recv Vt.C19 Vt.C09 Vt.RowDraw Vt.GridDraw Vt.Tok Vt.C03 Vt.DiffRow Vt.C15wrap

variable {W : Nat → Option Nat} {cb : CbPolicy}

/-- the grid after `ESC [ H ESC [ J` with the default pen -/
def clearedAll (g : Grid) : Grid :=
  { g with rows := g.rows.map (fun r => r.clear Attrs.default), pos := ⟨0, 0⟩ }

theorem set0_take1 {α} (l : List α) (h : 0 < l.length) (f : α → α) :
    (l.take 1 ++ (l.drop 1).map f).set 0 (f l[0]) = l.map f := by
  cases l with
  | nil => cases h
  | cons x xs => simp

theorem erasedRow_full (r : Row) (a : Attrs) (h : 0 < r.cells.length) :
    C07.erasedRow r.cells r.wrapped 0 r.cells.length a = r.clear a := by
  simp only [C07.erasedRow, C07.flagCleared, h, beq_self_eq_true, Bool.true_or, Bool.and_true, decide_true, ↓reduceIte,
    Row.clear, Row.mk.injEq, and_true, C07.eraseRange]
  apply List.ext_getElem?
  intro k
  simp only [List.getElem?_mapIdx, List.getElem?_map]
  cases hk : r.cells[k]? with
  | none => rfl
  | some c => simp [C07.rangeCell, getElem?_lt hk]

theorem clear_from_home {g : Grid} (hc : Canvas g) (hinv : ∀ r ∈ g.rows, rowOk W r = true) :
    ∃ g', (g.setPos ⟨0, 0⟩ >>= fun g1 => g1.eraseAllForward Attrs.default) = .ok g' ∧
      g'.size = g.size ∧ g'.pos = ⟨0, 0⟩ ∧ g'.scrollTop = g.scrollTop ∧ g'.scrollBottom = g.scrollBottom ∧
      g'.originMode = g.originMode ∧ g'.rows.length = g.rows.length ∧
      (∀ r ∈ g'.rows, BlankRow g.size.cols r) ∧ g'.scrollback = g.scrollback ∧
      g'.scrollbackOffset = g.scrollbackOffset := by
  rw [setPos_eq hc ⟨0, 0⟩ hc.rows_pos hc.cols_pos]
  simp only [ok_bind]
  have hlen : 0 < g.rows.length := by rw [hc.alloc]; exact hc.rows_pos
  have hr0 : (withPos g ⟨0, 0⟩).rows[(withPos g ⟨0, 0⟩).pos.row]? = some g.rows[0] := by
    simp [withPos, List.getElem?_eq_getElem hlen]
  have hw0 := hc.width _ (List.getElem_mem hlen)
  have hcl : C07.CurLine W (withPos g ⟨0, 0⟩) g.rows[0] :=
    ⟨hr0, ((rowOk_iff W _).mp (hinv _ (List.getElem_mem hlen))).2, hw0, Nat.zero_le _, hc.cols_pos, hc.cols_u16⟩
  rw [C07.ed0_eq hcl Attrs.default]
  -- line 0 is erased from column 0 to the end, the lines below are cleared: every line is cleared
  have hrows : (C07.erasedGrid (C07.belowCleared (withPos g ⟨0, 0⟩) Attrs.default) g.rows[0]
        (withPos g ⟨0, 0⟩).pos.col (withPos g ⟨0, 0⟩).size.cols Attrs.default).rows = (clearedAll g).rows := by
    simp only [C07.erasedGrid, C07.belowCleared, withPos, Nat.zero_add, clearedAll]
    rw [← hw0, erasedRow_full _ _ (by rw [hw0]; exact hc.cols_pos)]
    exact set0_take1 g.rows hlen _
  refine ⟨_, rfl, rfl, rfl, rfl, rfl, rfl, ?_, ?_, rfl, rfl⟩
  · rw [hrows]; simp [clearedAll]
  · intro r hr
    rw [hrows] at hr
    obtain ⟨r0, hr0m, rfl⟩ := List.mem_map.mp hr
    refine ⟨rfl, ?_, ?_⟩
    · simp only [Row.clear, List.map_map]
      rw [← hc.width r0 hr0m]
      apply List.ext_getElem?
      intro k
      simp only [List.getElem?_map, List.getElem?_replicate]
      by_cases hk : k < r0.cells.length
      · simp [hk, view_clear, blankV]
      · simp [hk]
    · intro c hc'
      simp only [Row.clear, List.mem_map] at hc'
      obtain ⟨c0, hc0, rfl⟩ := hc'
      have := ((rowOk_iff W r0).mp (hinv r0 hr0m)).2.cells_ok c0 hc0
      exact (cellOk_fields W this).1

/-- what is assumed of the receiving parser; holds of a new parser and of one that has only been fed full redraws -/
structure RecvOk (W : Nat → Option Nat) (q : Parser) : Prop where
  ready : Ready q
  canvas : Canvas (rsOf q.ws).g
  rows_ok : ∀ r ∈ (rsOf q.ws).g.rows, rowOk W r = true

theorem prefix_drawn {q : Parser} (hq : RecvOk W q) (srows : List Row) (hn : srows.length = (rsOf q.ws).g.size.rows) :
    ∃ R1, Emitted W cb q (Term.clearAttrs ++ Term.clearScreen) R1 ∧ R1.pen = Attrs.default ∧
      RowsInv srows (rsOf q.ws).g.size.cols 0 false ⟨0, 0⟩ R1 ∧ R1.g.scrollbackOffset = (rsOf q.ws).g.scrollbackOffset := by
  obtain ⟨g', e, hsz, hpos, htop, hbot, horg, hlen, hblank, -, hoff⟩ := clear_from_home hq.canvas hq.rows_ok
  have h0 := emitted_nil W cb q hq.ready
  have h1 := emitted_step W cb hq.ready h0 (step_clearAttrs W cb)
    (r' := { rsOf q.ws with pen := Attrs.default }) rfl
  have h2 := emitted_step W cb hq.ready h1 (step_clearScreen W cb)
    (r' := { g := g', pen := Attrs.default, saved := (rsOf q.ws).saved }) (by
      simp only [e, ok_bind]; rfl)
  have hc := hq.canvas
  refine ⟨_, by simpa using h2, rfl, ⟨?_, by rw [hsz], by rw [hsz]; exact hn.symm, hpos, ?_, fun h => by simp at h⟩, hoff⟩
  · refine hc.of_frame hsz htop hbot horg hlen fun r hr => ?_
    have hl := congrArg List.length (hblank r hr).2.1
    simp only [List.length_map, List.length_replicate] at hl
    exact hl
  · intro k hk
    have hkl : k < g'.rows.length := by rw [hlen, hc.alloc, ← hn]; exact hk
    exact ⟨g'.rows[k], List.getElem?_eq_getElem hkl, fun h => by omega, fun _ => hblank _ (List.getElem_mem hkl)⟩

theorem rowsInv_frame {srows : List Row} {cols i : Nat} {pp : Pos} {R : RS}
    (h : RowsInv srows cols i false pp R) (R' : RS) (hs : R'.g.size = R.g.size)
    (ht : R'.g.scrollTop = R.g.scrollTop) (hb : R'.g.scrollBottom = R.g.scrollBottom)
    (ho : R'.g.originMode = R.g.originMode) (hr : R'.g.rows = R.g.rows) :
    RowsInv srows cols i false R'.g.pos R' :=
  ⟨h.canvas.of_frame hs ht hb ho (by rw [hr]) (by rw [hr]; exact h.canvas.width), by rw [hs]; exact h.hcols,
    by rw [hs]; exact h.nrows, rfl, by rw [hr]; exact h.row, fun hh => by simp at hh⟩

theorem rowsInv_pen {srows : List Row} {cols i : Nat} {w : Bool} {pp : Pos} {R : RS}
    (h : RowsInv srows cols i w pp R) (a : Attrs) : RowsInv srows cols i w pp { R with pen := a } :=
  ⟨h.canvas, h.hcols, h.nrows, h.pos, h.row, h.wrap⟩

theorem rowsInv_shape {srows : List Row} {cols : Nat} {pp : Pos} {R : RS}
    (h : RowsInv srows cols srows.length false pp R) (k : Nat) (Rk Rk' : Row) (hk : R.g.rows[k]? = some Rk)
    (hv : Rk'.cells.map view = Rk.cells.map view) (hw : Rk'.wrapped = Rk.wrapped)
    (h22 : ∀ c ∈ Rk'.cells, c.contents.length = 22) (to : Pos) (pen : Attrs) :
    RowsInv srows cols srows.length false to (shape R k Rk' to pen) := by
  have hkl := getElem?_lt hk
  have hl : Rk'.cells.length = R.g.size.cols := by
    have := congrArg List.length hv
    simp only [List.length_map] at this
    rw [this]; exact h.canvas.width Rk (List.mem_of_getElem? hk)
  refine ⟨shape_canvas h.canvas hl to pen, h.hcols, h.nrows, rfl, fun j hj => ?_, fun hh => by simp at hh⟩
  rw [shape_rows_get]
  by_cases hjk : j = k
  · subst hjk
    obtain ⟨Rj, hRj, hd, hb⟩ := h.row j hj
    obtain rfl : Rk = Rj := Option.some.inj (hk.symm.trans hRj)
    rw [if_pos ⟨rfl, hkl⟩]
    exact ⟨Rk', rfl, fun hlt => ⟨hv.trans (hd hlt).1, h22, hw.trans (hd hlt).2.2⟩, fun hge => by omega⟩
  · rw [if_neg (fun hh => hjk hh.1)]
    exact h.row j hj

/-- `mv to` are bytes that put the receiver's cursor at `to` (any position inside the screen) and change nothing
else: `move_from_to(prev, to)` when the emitter knows where the cursor is, `move_to(to)` when it does not -/
def Moves (q : Parser) (out : List Nat) (R : RS) (rows cols : Nat) (mv : Pos → List Nat) : Prop :=
  ∀ to : Pos, to.row < rows → to.col < cols → Emitted W cb q (out ++ mv to) { R with g := withPos R.g to }

theorem cursor_inside (g : Grid) (prev : Option Pos) (pa : Option Attrs) (h : g.pos.col < g.size.cols) :
    g.writeCursorPositionFormatted prev pa = .ok (Grid.moveOpt prev g.pos) := by
  have hcond : (prev != some g.pos && decide (g.pos.col ≥ g.size.cols)) = false := by
    simp [Nat.not_le.mpr h]
  simp only [Grid.writeCursorPositionFormatted, hcond, Bool.false_eq_true, ↓reduceIte, pure_eq_ok]

theorem moves_opt {q : Parser} (hr : Ready q) {srows : List Row} {cols : Nat} {pp : Pos} {out : List Nat} {R : RS}
    (hem : Emitted W cb q out R) (hinv : RowsInv srows cols srows.length false pp R) (prev : Option Pos)
    (hprev : ∀ p, prev = some p → p = pp) :
    Moves (W := W) (cb := cb) q out R srows.length cols (Grid.moveOpt prev) := by
  intro to h1 h2
  have hcv := hinv.canvas
  have hu := hcv.cols_u16
  have hru := hcv.rows_u16
  have hr1 : to.row < R.g.size.rows := by rw [hinv.nrows]; exact h1
  have hc1 : to.col < R.g.size.cols := by rw [hinv.hcols]; exact h2
  cases prev with
  | none =>
    exact emitted_step W cb hr hem (step_moveTo W cb to (by omega) (by omega))
      (by simp only [setPos_eq hcv to hr1 hc1, ok_bind]; rfl)
  | some p =>
    obtain rfl := hprev p rfl
    exact emitted_step W cb hr hem (step_moveFromTo W cb p to (by omega) (by omega)) (goto_eq hcv p to hinv.pos hr1 hc1)

theorem srcOk_cellsInv {S : List Cell} (h : SrcOk W S) : CellsInv W S := ⟨h.cells_ok, h.paired⟩

theorem lineWf_of_drawn {srows : List Row} {cols : Nat} {pp : Pos} {R : RS}
    (h : RowsInv srows cols srows.length false pp R) (hS : ∀ r ∈ srows, SrcOk W r.cells) {k : Nat} {Rk : Row}
    (hRk : R.g.rows[k]? = some Rk) : LineWf Rk := by
  have hk : k < srows.length := by rw [← h.nrows, ← h.canvas.alloc]; exact getElem?_lt hRk
  obtain ⟨Rk', hRk', hdone, _⟩ := h.row k hk
  cases hRk.symm.trans hRk'
  exact ⟨links_of_views (hdone hk).1 (srcOk_links (hS _ (List.getElem_mem hk))), (hdone hk).2.1⟩

set_option linter.unusedVariables false in -- `hem`: `hmv` already says the bytes so far were processed
/-- **re-typing the last character of a line**: from any cursor position, `move ++ pen ++ character ++ pen back`
leaves the receiver's cursor in the pending-wrap column of line `k`, and the line looks as before -/
theorem retype_last (hW : WOk W) {q : Parser} (hr : Ready q) (Sg : Grid)
    (hS : SrcRows W Sg.size.cols Sg.rows)
    {out : List Nat} {pp : Pos} {pa : Attrs} {R : RS}
    (hem : Emitted W cb q out R) (hpen : R.pen = pa) (hpawf : Attrs.wf pa)
    (hinv : RowsInv Sg.rows Sg.size.cols Sg.rows.length false pp R)
    (mv : Pos → List Nat) (hmv : Moves (W := W) (cb := cb) q out R Sg.rows.length Sg.size.cols mv)
    (k : Nat) (hk : k < Sg.rows.length) (hocc : lastOcc Sg.rows[k].cells) :
    ∃ c cell, Sg.endOfRowPos k = .ok ⟨k, c⟩ ∧ (∀ site, Sg.drawingCellM site ⟨k, c⟩ = .ok cell) ∧
      cell.hasContents = true ∧ cell.contentsBytes = .ok (cell.contents.take cell.len) ∧
      ∃ Rf, Emitted W cb q (out ++ (mv ⟨k, c⟩ ++ cell.attrs.writeEscapeCodeDiff pa ++
              cell.contents.take cell.len ++ pa.writeEscapeCodeDiff cell.attrs)) Rf ∧ Rf.pen = pa ∧
        RowsInv Sg.rows Sg.size.cols Sg.rows.length false ⟨k, Sg.size.cols⟩ Rf ∧
        Rf.g.scrollbackOffset = R.g.scrollbackOffset := by
  have hsok := hS.ok _ (List.getElem_mem hk)
  have hswd := hS.width _ (List.getElem_mem hk)
  obtain ⟨c, hc, hend, hdraw, hiff, hcw, _⟩ := end_cell Sg (List.getElem?_eq_getElem hk) (srcOk_cellsInv hsok) hswd
    (by rw [← hinv.hcols]; exact hinv.canvas.cols_pos)
  have hh := hiff.mpr hocc
  have hcw := hcw hh
  have hok := hsok.cells_ok _ (List.getElem_mem hc)
  obtain ⟨Rk, hRk, hdone, _⟩ := hinv.row k hk
  obtain ⟨hvk, -⟩ := hdone hk
  refine ⟨c, _, hend, hdraw, hh, contentsBytes_ok (cellFine_of_ok hok), ?_⟩
  let K : Ctx W cb := ⟨q, hr, R, hinv.canvas, k, by rw [hinv.nrows]; exact hk, Sg.rows[k].cells, by rw [hswd, hinv.hcols]⟩
  have hwf : LineWf Rk := lineWf_of_drawn hinv hS.ok hRk
  have hmid := mid_same hvk c
  obtain ⟨hl, hget⟩ := full_get hvk
  have hemA := hmv ⟨k, c⟩ hk (by rw [← hswd]; exact hc)
  rw [shape_at hRk, hpen] at hemA
  obtain ⟨f, cellF, hemC, hvF, hwe, hwf'⟩ := type_at K hW hsok hc hh hemA hwf hmid.len
  rw [pen_if] at hemC
  have hT := (hmid.typeCell hW.space hsok (wideNext_of_src hsok) hwf.links hc (by
    cases hcc : Sg.rows[k].cells[c].cont with
    | false => rfl
    | true => have := (cellOk_cont W _ hok hcc).2; simp [Cell.hasContents, this] at hh) R.g.size.cols
    Sg.rows[k].cells[c].attrs f hwe cellF hvF)
  have hemD := emitted_step W cb hr hemC (step_pen W cb pa Sg.rows[k].cells[c].attrs hpawf)
    (r' := shape R k (typedRow W Rk c R.g.size.cols Sg.rows[k].cells[c].attrs f cellF) ⟨k, Sg.size.cols⟩ pa) (by
      simp [shape, K, hcw])
  refine ⟨_, by simpa [List.append_assoc, K] using hemD, rfl, rowsInv_shape hinv k Rk _ hRk ?_ ?_ hwf'.len22 _ _, rfl⟩
  · rw [hcw, ← hswd] at hT
    exact hT.full.trans hvk.symm
  · refine typedRow_wrapped_over Rk (by rw [hl]; exact hc) _ _ cellF fun h => ?_
    rw [view_wide (hget c hc)]
    cases hw : Sg.rows[k].cells[c].wide with
    | true => rfl
    | false => rw [hwe, hw] at h; simp at h

end Vt.C01
