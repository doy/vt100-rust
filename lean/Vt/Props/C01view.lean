/-
  Vt.Props.C01view — C01 for a view that may be scrolled back (any offset), with the cursor inside its line.

  `state_formatted()` of a scrolled screen `S` draws the visible rows — the last `k` history lines and the first
  `rows - k` live lines.  The emitter never looks at the wrap flag of the last visible row (`fmtRowsLoop_unflag`),
  and with the cursor inside its line it reads nothing else of the grid but its size and cursor, so its bytes are
  those of a surrogate screen that is NOT scrolled back and whose live rows are the visible rows with the last
  flag cleared (`grid_surrogate`, `state_surrogate`).  The offset-0 theorem then applies to the surrogate: the receiver
  shows the visible rows of `S`, every wrap flag but the bottom one — exactly the exemption the property makes
  (`obsEq true`).  That last step (`ShowsView`, `showsView_of_surrogate`, `showsView_obs`) is declared in namespace
  `Vt.C15`, in the middle of this file: Props/C15view takes it over from here.

  Hypotheses beyond the invariants (`ScreenInv`, `ScreenX`, `ScreenF`; every reachable screen has them:
  `InvAll.reachable_all`): every visible row is `cols` wide (false after a `set_size` that changed the width while
  lines were in the scrollback: finding F12) and the cursor is not in the pending-wrap column (finding F9).
-/
import Vt.Props.Reach
namespace Vt.C01
open Vt Vt.Recv Vt.C19 Vt.C09 Vt.RowDraw Vt.GridDraw Vt.Tok Vt.C03 Vt.C13 Vt.InvX Vt.InvF

variable {W : Nat → Option Nat} {cb : CbPolicy}

def unflagLast : List Row → List Row
  | [] => []
  | [r] => [r.wrap false]
  | r :: r2 :: rs => r :: unflagLast (r2 :: rs)

theorem unflagLast_cells {α} (f : List Cell → α) : ∀ (l : List Row),
    (unflagLast l).map (fun r => f r.cells) = l.map (fun r => f r.cells)
  | [] => rfl
  | [_] => rfl
  | r :: r2 :: rs => by simp only [unflagLast, List.map_cons, unflagLast_cells f (r2 :: rs)]

theorem unflagLast_length (l : List Row) : (unflagLast l).length = l.length := by
  simpa using congrArg List.length (unflagLast_cells id l)

theorem unflagLast_mem : ∀ (l : List Row) (r' : Row), r' ∈ unflagLast l →
    ∃ r ∈ l, r'.cells = r.cells ∧ (r'.wrapped = true → r.wrapped = true)
  | [], r', h => by simp [unflagLast] at h
  | [r], r', h => by
    simp only [unflagLast, List.mem_singleton] at h
    exact ⟨r, List.mem_singleton.mpr rfl, by rw [h]; rfl, fun hw => by rw [h] at hw; simp [Row.wrap] at hw⟩
  | r :: r2 :: rs, r', h => by
    simp only [unflagLast, List.mem_cons] at h
    rcases h with rfl | h
    · exact ⟨r', List.mem_cons_self .., rfl, id⟩
    · obtain ⟨x, hx, h1, h2⟩ := unflagLast_mem (r2 :: rs) r' (by simpa [unflagLast] using h)
      exact ⟨x, List.mem_cons_of_mem _ hx, h1, h2⟩

theorem unflagLast_last : ∀ (l : List Row) (r : Row), (unflagLast l).getLast? = some r → r.wrapped = false
  | [], r, h => by simp [unflagLast] at h
  | [x], r, h => by
    simp only [unflagLast, List.getLast?_singleton, Option.some.injEq] at h
    rw [← h]; rfl
  | x :: r2 :: rs, r, h => by
    have hne : unflagLast (r2 :: rs) ≠ [] := by cases rs <;> simp [unflagLast]
    simp only [unflagLast] at h
    rw [List.getLast?_cons_of_ne_nil hne] at h
    exact unflagLast_last (r2 :: rs) r h

theorem unflagLast_wrapped : ∀ (l : List Row), ((unflagLast l).map (·.wrapped)).dropLast = (l.map (·.wrapped)).dropLast
  | [] => rfl
  | [_] => rfl
  | r :: r2 :: rs => by
    have ih := unflagLast_wrapped (r2 :: rs)
    have hne : (unflagLast (r2 :: rs)).map (·.wrapped) ≠ [] := by cases rs <;> simp [unflagLast]
    simp only [unflagLast, List.map_cons] at ih ⊢
    rw [List.dropLast_cons_of_ne_nil hne, List.dropLast_cons_of_ne_nil (by simp), ih]

theorem fmtRowsLoop_unflag (cols : Nat) : ∀ (rs : List Row) (i : Nat) (w : Bool) (pp : Pos) (pa : Attrs) (out : List Nat),
    Grid.fmtRowsLoop cols (unflagLast rs) i w pp pa out = Grid.fmtRowsLoop cols rs i w pp pa out
  | [], _, _, _, _, _ => rfl
  | [r], i, w, pp, pa, out => by
    simp only [unflagLast, Grid.fmtRowsLoop]
    rfl
  | r :: r2 :: rs, i, w, pp, pa, out => by
    simp only [unflagLast, Grid.fmtRowsLoop]
    cases r.writeContentsFormatted 0 cols i w (some pp) (some pa) with
    | error e => rfl
    | ok p =>
      simp only [ok_bind]
      exact fmtRowsLoop_unflag cols (r2 :: rs) _ _ _ _ _

def surrogate (g : Grid) (vis : List Row) : Grid :=
  { g with
    rows := unflagLast vis
    scrollbackOffset := 0 }

theorem grid_surrogate {g : Grid} {vis : List Row} (hvis : g.visibleRows = .ok vis) (hcol : g.pos.col < g.size.cols) :
    g.writeContentsFormatted = (surrogate g vis).writeContentsFormatted := by
  have hv2 : (surrogate g vis).visibleRows = .ok (unflagLast vis) := C19.visibleRows_offset0 _ rfl
  simp only [Grid.writeContentsFormatted, hvis, hv2, ok_bind]
  have hsz : (surrogate g vis).size = g.size := rfl
  rw [hsz, fmtRowsLoop_unflag]
  cases Grid.fmtRowsLoop g.size.cols vis 0 false ⟨0, 0⟩ Attrs.default (Term.clearAttrs ++ Term.clearScreen) with
  | error e => rfl
  | ok p =>
    simp only [ok_bind]
    rw [cursor_inside g _ _ hcol, cursor_inside (surrogate g vis) _ _ hcol]
    rfl

def surrogateScreen (S : Screen) (vis : List Row) : Screen := S.setCur (surrogate S.cur vis)

theorem surrogate_cur (S : Screen) (vis : List Row) : (surrogateScreen S vis).cur = surrogate S.cur vis :=
  setCur_cur S _

theorem surrogate_attrs (S : Screen) (vis : List Row) : (surrogateScreen S vis).attrs = S.attrs :=
  setCur_attrs S _

theorem surrogate_hide (S : Screen) (vis : List Row) : (surrogateScreen S vis).hideCursor = S.hideCursor := by
  unfold surrogateScreen Screen.setCur; split <;> rfl

theorem state_surrogate {S : Screen} {vis : List Row} (hvis : S.cur.visibleRows = .ok vis)
    (hcol : S.cur.pos.col < S.cur.size.cols) : S.stateFormatted = (surrogateScreen S vis).stateFormatted := by
  have hg := grid_surrogate hvis hcol
  have hm : (surrogateScreen S vis).writeInputModeFormatted = S.writeInputModeFormatted := by
    unfold surrogateScreen Screen.setCur Screen.writeInputModeFormatted; split <;> rfl
  simp only [Screen.stateFormatted, Screen.writeContentsFormatted, surrogate_cur, ← hg, surrogate_attrs, surrogate_hide, hm]

theorem srcScreen_surrogate {S : Screen} (hi : ScreenInv W S) (hx : ScreenX S) (hf : ScreenF S) {vis : List Row}
    (hvis : S.cur.visibleRows = .ok vis) (hwid : ∀ r ∈ vis, r.cells.length = S.cur.size.cols) :
    SrcScreen W (surrogateScreen S vis) := by
  obtain ⟨hcg, hal⟩ := hi.cur
  have hvlen : vis.length = S.cur.rows.length := by
    obtain ⟨rs, e, hl⟩ := C12.visibleRows_length S.cur hcg.sb_off
    rw [hvis] at e
    rw [Except.ok.inj e]; exact hl
  have hrok : ∀ r ∈ vis, rowOk W r = true := gridP_visible ⟨fun r h => (hcg.row_ok r h).2, hcg.sb_ok⟩ hvis
  have hxr : ∀ r ∈ vis, AllX r.cells := gridP_visible hx.cur hvis
  have hfr : ∀ r ∈ vis, RF r := gridP_visible hf.cur.1 hvis
  have hcur := surrogate_cur S vis
  refine ⟨by rw [hcur]; rfl, ?_, by rw [hcur]; show (unflagLast vis).length = S.cur.size.rows; rw [unflagLast_length, hvlen, hal],
    by rw [hcur]; exact hcg.pos_row, by rw [hcur]; exact hcg.pos_col, attrs_wf_of_ok (by rw [surrogate_attrs]; exact hx.pen)⟩
  rw [hcur]
  show SrcRows W S.cur.size.cols (unflagLast vis)
  refine ⟨?_, ?_, ?_, fun r hr => unflagLast_last vis r hr⟩
  · intro r' hr'
    obtain ⟨r, hr, hc, _⟩ := unflagLast_mem vis r' hr'
    rw [hc]; exact hwid r hr
  · intro r' hr'
    obtain ⟨r, hr, hc, _⟩ := unflagLast_mem vis r' hr'
    rw [hc]
    exact srcOk_of (hrok r hr) (hwid r hr) (InvAll.rowEmitOk_of (hrok r hr) (hwid r hr) (hxr r hr))
      (InvAll.rowPlusOk_of (hxr r hr) (hfr r hr))
  · intro r' hr' hw
    obtain ⟨r, hr, hc, hww⟩ := unflagLast_mem vis r' hr'
    rw [hc]
    exact lastOcc_of (InvAll.rowPlusOk_of (hxr r hr) (hfr r hr)) (hww hw)

end Vt.C01

namespace Vt.C15
open Vt Vt.Recv Vt.C19 Vt.C09 Vt.RowDraw Vt.GridDraw Vt.Tok Vt.C01 Vt.C03 Vt.C13 Vt.InvX Vt.InvF

theorem surrogate_modes (S : Screen) (vis : List Row) :
    C10.inputModes (surrogateScreen S vis) = C10.inputModes S := by
  unfold surrogateScreen Screen.setCur C10.inputModes; split <;> rfl

/-- `Shows` with the visible rows of `S` in place of its live rows, the last wrap flag exempt -/
structure ShowsView (q : Screen) (S : Screen) (vis : List Row) : Prop where
  size : q.cur.size = S.cur.size
  cells : q.cur.rows.map (fun r => r.cells.map cellObs) = vis.map (fun r => r.cells.map cellObs)
  views : q.cur.rows.map (fun r => r.cells.map view) = vis.map (fun r => r.cells.map view)
  wrapped : (q.cur.rows.map (fun r => r.wrapped)).dropLast = (vis.map (fun r => r.wrapped)).dropLast
  nrows : q.cur.rows.length = vis.length
  cursor : q.cur.pos = S.cur.pos
  hide : q.hideCursor = S.hideCursor
  pen : q.attrs = S.attrs
  off : q.cur.scrollbackOffset = 0

theorem showsView_of_surrogate {q S : Screen} {vis : List Row} (h : Shows q (surrogateScreen S vis)) :
    ShowsView q S vis := by
  have hcur := surrogate_cur S vis
  refine ⟨?_, ?_, ?_, ?_, ?_, ?_, ?_, ?_, h.off⟩
  · rw [h.size, hcur]; rfl
  · rw [h.cells, hcur]
    exact unflagLast_cells (·.map cellObs) vis
  · rw [h.views, hcur]
    exact unflagLast_cells (·.map view) vis
  · rw [h.wrapped, hcur]
    exact unflagLast_wrapped vis
  · have := congrArg List.length h.wrapped
    rw [List.length_map, List.length_map, hcur] at this
    rw [this]
    exact unflagLast_length vis
  · rw [h.cursor, hcur]; rfl
  · rw [h.hide, surrogate_hide]
  · rw [h.pen, surrogate_attrs]

/-- `ShowsView` in terms of `obs`: `obsEq true` on every component but the input modes (which the protocol does
not carry), and the whole of `obsEq true` for a receiver whose input modes are those of `S` -/
theorem showsView_obs {q S : Screen} {vis : List Row} (h : ShowsView q S vis)
    (hvis : S.cur.visibleRows = .ok vis) :
    ∃ o1 o2, obs q = .ok o1 ∧ obs S = .ok o2 ∧ obsEq true o1 { o2 with modes := o1.modes } = true ∧
      (C10.inputModes q = C10.inputModes S → obsEq true o1 o2 = true) := by
  have hn : (q.cur.rows.map (fun r => r.wrapped)).length = (vis.map (fun r => r.wrapped)).length := by
    simp only [List.length_map]; exact h.nrows
  refine ⟨_, obsOfVis S vis, obs_of_vis (C19.visibleRows_offset0 _ h.off), obs_of_vis hvis, ?_, fun hm => ?_⟩
  · simp only [obsEq, obsOfVis, Bool.and_eq_true, beq_iff_eq, ↓reduceIte]
    exact ⟨⟨⟨⟨⟨⟨h.size, h.cells⟩, h.cursor⟩, h.hide⟩, h.pen⟩, trivial⟩, h.wrapped, hn⟩
  · simp only [C10.inputModes, C10.InputModes.mk.injEq] at hm
    obtain ⟨m1, m2, m3, m4, m5⟩ := hm
    simp only [obsEq, obsOfVis, Bool.and_eq_true, beq_iff_eq, ↓reduceIte]
    exact ⟨⟨⟨⟨⟨⟨h.size, h.cells⟩, h.cursor⟩, h.hide⟩, h.pen⟩, by simp only [Prod.mk.injEq]; exact ⟨m1, m2, m3, m4, m5⟩⟩,
      h.wrapped, hn⟩

end Vt.C15

namespace Vt.C01
open Vt Vt.Recv Vt.C19 Vt.C09 Vt.RowDraw Vt.GridDraw Vt.Tok Vt.C03 Vt.C13 Vt.InvX Vt.InvF

variable {W : Nat → Option Nat} {cb : CbPolicy}

/-- **C01 for a scrolled view** (cursor inside its line, visible rows of the current width): the bytes of
`S.state_formatted()` processed by a new parser of the same size give the observable state of `S` — the visible
cells, flags, colours, every wrap flag but the bottom visible row's, cursor, visibility, pen, input modes
(`obsEq true`) — and report no event -/
theorem full_redraw_scrolled (hW : WOk W) (S : Screen) (hi : ScreenInv W S) (hx : ScreenX S) (hf : ScreenF S)
    {vis : List Row} (hvis : S.cur.visibleRows = .ok vis) (hwid : ∀ r ∈ vis, r.cells.length = S.cur.size.cols)
    (hcol : S.cur.pos.col < S.cur.size.cols) (sb : Nat) :
    ∃ q bytes q' o1 o2, Parser.new S.cur.size.rows S.cur.size.cols sb = .ok q ∧ S.stateFormatted = .ok bytes ∧
      q.process W cb bytes = .ok q' ∧ obs q'.screen = .ok o1 ∧ obs S = .ok o2 ∧ obsEq true o1 o2 = true ∧
      q'.ws.events = [] := by
  have hS := srcScreen_surrogate hi hx hf hvis hwid
  obtain ⟨hcg, _⟩ := hi.cur
  have hcur := surrogate_cur S vis
  obtain ⟨q, enew, hq⟩ := new_recvOk W S.cur.size.rows S.cur.size.cols sb hcg.rows_pos hcg.cols_pos hcg.rows_u16 hcg.cols_u16
  obtain ⟨bytes, q', eb, ep, _, hsh, hmodes, hev, _⟩ := state_formatted_reproduces (cb := cb) hW hq.ok hq.off hq.mouseMode
    hq.mouseEnc (surrogateScreen S vis) hS (by rw [hcur, hq.size]; rfl)
  obtain ⟨o1, o2, e1, e2, _, hall⟩ := C15.showsView_obs (C15.showsView_of_surrogate hsh) hvis
  exact ⟨q, bytes, q', o1, o2, enew, by rw [state_surrogate hvis hcol]; exact eb, ep, e1, e2,
    hall (hmodes.trans (C15.surrogate_modes S vis)), hev.trans hq.events⟩

/-- **C01 for every reachable screen, scrolled back or not** (cursor inside its line; visible rows of the
current width): any history of `process` / `set_size` / `set_scrollback` from `Parser::new`.  `obsEq true` exempts
the wrap flag of the bottom visible row; for a view that is not scrolled back `full_redraw_reachable` gives plain
equality (and every cursor position) -/
theorem full_redraw_reachable_view (hW : WOk W) {cbS cbR : CbPolicy}
    (hcb : CbInv W cbS) (hcx : CbX W cbS) (hcf : CbF W cbS)
    (rows cols sb : Nat) (hr : 1 ≤ rows) (hc : 1 ≤ cols) (hr' : rows ≤ 65535) (hc' : cols ≤ 65535)
    (ops : List Op) (hv : ∀ op ∈ ops, op.Valid) (sbR : Nat) :
    ∃ p vis, (Parser.new rows cols sb >>= fun p0 => ops.foldlM (applyOp W cbS) p0) = .ok p ∧
      p.ws.screen.cur.visibleRows = .ok vis ∧
      ((∀ r ∈ vis, r.cells.length = p.ws.screen.cur.size.cols) →
        p.ws.screen.cur.pos.col < p.ws.screen.cur.size.cols →
        ∃ q bytes q' o1 o2, Parser.new p.ws.screen.cur.size.rows p.ws.screen.cur.size.cols sbR = .ok q ∧
          p.ws.screen.stateFormatted = .ok bytes ∧ q.process W cbR bytes = .ok q' ∧
          obs q'.screen = .ok o1 ∧ obs p.ws.screen = .ok o2 ∧ obsEq true o1 o2 = true ∧ q'.ws.events = []) := by
  obtain ⟨p, e, hi, hx, hf⟩ := InvAll.reachable_all hW.space hcb hcx hcf rows cols sb hr hc hr' hc' ops hv
  obtain ⟨vis, hvis, _⟩ := C12.visibleRows_length p.ws.screen.cur hi.screen.cur.1.sb_off
  exact ⟨p, vis, e, hvis, fun hwid hcol => full_redraw_scrolled (cb := cbR) hW p.ws.screen hi.screen hx hf hvis hwid hcol sbR⟩

/-- the hypotheses of the scrolled-view theorem are satisfiable: "a" CR LF "b" CR LF "c" on a 2x3 screen with a
history of 5 lines, `set_scrollback(1)`: the view shows the history line "a" and the live line "b"; every visible
row is 3 wide, the cursor is inside its line (kernel-evaluated; a test) -/
theorem full_redraw_scrolled_nonvacuous :
    isOkTrue (do
      let p0 ← Parser.new 2 3 5
      let p1 ← p0.process W0 cbNone [97, 13, 10, 98, 13, 10, 99]
      let s ← p1.ws.screen.setScrollback 1
      let vis ← s.cur.visibleRows
      pure (decide (s.cur.scrollbackOffset > 0) && vis.all (fun r => r.cells.length == s.cur.size.cols) &&
            decide (s.cur.pos.col < s.cur.size.cols) && vis.length == 2)) = true := by
  decide +kernel

end Vt.C01
