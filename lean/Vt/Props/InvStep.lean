/-
  Vt.Props.InvStep (namespace `Vt.InvP`) — what a condition on the lines of the two grids has to satisfy to be an invariant.

  `OpsKeep W A Q`: the grid condition `Q` reads only the lines, holds of a new grid, and is kept by every operation
  of `grid.rs` that changes lines, on grids satisfying `Inv`; erasing and printing may assume `A` of the attributes
  they write.  `ScreenP A Q`: `A` of the pen and of the saved pen, `Q` of both grids.  InvPerform carries `Inv` and
  `ScreenP A Q` together through every action; `Inv` alone is the case of the trivial condition (`opsKeep_true`).
  The field `lines` is stated through `GScrolled` (Lemmas/Lines: all that IL, DL, SU, SD do to the lines).
-/
import Vt.Lemmas.GridP
import Vt.Spec.EmitOk
import Vt.Lemmas.GridInv
import Vt.Props.C08grid
namespace Vt.InvP
open Vt

variable {W : Nat → Option Nat} {A : Attrs → Prop} {Q : Grid → Prop}

/-- where `k` returns on a grid satisfying `Inv`, it keeps `Q`: `C13.KeepsT` (InvPerform) without the totality -/
def OpKeeps (W : Nat → Option Nat) (Q : Grid → Prop) (k : Grid → M Grid) : Prop :=
  ∀ g g', GridInv W g true → g.rows.length = g.size.rows → Q g → k g = .ok g' → Q g'

structure OpsKeep (W : Nat → Option Nat) (A : Attrs → Prop) (Q : Grid → Prop) : Prop where
  /-- all `A` may ask of a pen is that its colours are bytes -/
  penMono : ∀ {a a'}, A a → (attrsOk a = true → attrsOk a' = true) → A a'
  penDefault : A Attrs.default
  same : ∀ {g g'}, Q g → g'.rows = g.rows → g'.scrollback = g.scrollback → Q g'
  new : ∀ {sz n g}, Grid.new sz n = .ok g → Q g
  allocateRows : ∀ {g}, Q g → Q g.allocateRows
  clear : ∀ {g g'}, Q g → g.clear = .ok g' → Q g'
  setSize : ∀ {g g'} (sz : Size), Q g → g.setSize sz = .ok g' → Q g'
  /-- IL, DL, SU, SD: lines are moved, dropped, unflagged, blank ones added, the top line may go to the history -/
  lines : ∀ {g g'}, GScrolled g g' → Q g → Q g'
  insertCells : ∀ n, OpKeeps W Q (fun g => g.insertCells n)
  deleteCells : ∀ n, OpKeeps W Q (fun g => g.deleteCells n)
  /-- EL 0, EL 1 and ECH erase a range of columns of the cursor line -/
  eraseRange : ∀ lo hi {a}, A a → ∀ {g g'}, (∀ r ∈ g.rows, RowGood W g.size.cols r) → hi ≤ g.size.cols → Q g →
    g.modifyCurrentRow (fun row => forRange lo hi (fun col r => r.erase col a) row) = .ok g' → Q g'
  /-- ED 0 and ED 1 clear the lines below / above the cursor line, then erase on it as EL 0 / EL 1 do -/
  clearBelow : ∀ n {a g}, A a → Q g →
    Q { g with rows := g.rows.take n ++ (g.rows.drop n).map (fun (r : Row) => r.clear a) }
  clearAbove : ∀ n {a g}, A a → Q g →
    Q { g with rows := (g.rows.take n).map (fun (r : Row) => r.clear a) ++ g.rows.drop n }
  /-- EL 2, and ED 2 below -/
  eraseRow : ∀ {a}, A a → OpKeeps W Q (fun g => g.eraseRow a)
  eraseAll : ∀ {a}, A a → OpKeeps W Q (fun g => pure (g.eraseAll a))
  text : ∀ {a c}, A a → isScalar c = true → c ≠ 0xFFFD → OpKeeps W Q (fun g => g.text W a c)

namespace OpsKeep

theorem rowIncScroll (hQ : OpsKeep W A Q) {g : Grid} {p : Grid × Nat} (hi : GridInv W g true)
    (hl : g.rows.length = g.size.rows) (h : Q g) (e : g.rowIncScroll 1 = .ok p) : Q p.1 := by
  cases (C08lfri.lf_spec hi hl 1).symm.trans e
  exact C08lfri.lfClosed_keeps hQ.same hQ.lines (C08lfri.live_of_inv hi hl) hi.rows_u16 h

theorem rowDecScroll (hQ : OpsKeep W A Q) (n : Nat) : OpKeeps W Q (fun g => g.rowDecScroll n) :=
  fun _ _ _ _ h e =>
    have ⟨_, hr, hs, s⟩ := rowDecScroll_eq_ok e
    hQ.lines s (hQ.same h hr hs)

theorem eraseRowBackward (hQ : OpsKeep W A Q) {p : Attrs} (hp : A p) {g g' : Grid}
    (hrows : ∀ r ∈ g.rows, RowGood W g.size.cols r) (h : Q g) (e : g.eraseRowBackward p = .ok g') : Q g' := by
  obtain ⟨c1, hc1, e⟩ := bind_eq_ok.mp e
  obtain ⟨hle, rfl⟩ := subM_eq_ok.mp hc1
  exact hQ.eraseRange 0 _ hp hrows
    (Nat.succ_le_of_lt (Nat.lt_of_le_of_lt (Nat.min_le_right _ _) (Nat.sub_lt hle Nat.one_pos))) h e

theorem eraseAllForward (hQ : OpsKeep W A Q) {p : Attrs} (hp : A p) : OpKeeps W Q (fun g => g.eraseAllForward p) :=
  fun g _ hi _ h => hQ.eraseRange g.pos.col _ hp (rowGood_clearBelow W hi.row_ok _ p) (Nat.le_refl _) (hQ.clearBelow _ hp h)

theorem eraseAllBackward (hQ : OpsKeep W A Q) {p : Attrs} (hp : A p) : OpKeeps W Q (fun g => g.eraseAllBackward p) :=
  fun _ _ hi _ h => hQ.eraseRowBackward hp (rowGood_clearAbove W hi.row_ok _ p) (hQ.clearAbove _ hp h)

end OpsKeep

structure ScreenP (A : Attrs → Prop) (Q : Grid → Prop) (s : Screen) : Prop where
  pen : A s.attrs
  saved : A s.savedAttrs
  grid : Q s.grid
  alt : Q s.altGrid

namespace ScreenP
variable {s s' : Screen}

theorem cur (h : ScreenP A Q s) : Q s.cur := by
  unfold Screen.cur; split
  · exact h.alt
  · exact h.grid

theorem setCur (h : ScreenP A Q s) {g : Grid} (hg : Q g) : ScreenP A Q (s.setCur g) := by
  unfold Screen.setCur
  split
  · exact ⟨h.pen, h.saved, h.grid, hg⟩
  · exact ⟨h.pen, h.saved, hg, h.alt⟩

theorem congr (h : ScreenP A Q s) (h1 : s'.attrs = s.attrs) (h2 : s'.savedAttrs = s.savedAttrs)
    (h3 : s'.grid = s.grid) (h4 : s'.altGrid = s.altGrid) : ScreenP A Q s' :=
  ⟨h1 ▸ h.pen, h2 ▸ h.saved, h3 ▸ h.grid, h4 ▸ h.alt⟩

theorem setPen (hQ : OpsKeep W A Q) (s : Screen) (a : Attrs) (h : ScreenP A Q s)
    (ha : attrsOk s.attrs = true → attrsOk a = true) : ScreenP A Q { s with attrs := a } :=
  ⟨hQ.penMono h.pen ha, h.saved, h.grid, h.alt⟩

theorem new (hQ : OpsKeep W A Q) {sz : Size} {n : Nat} (e : Screen.new sz n = .ok s) : ScreenP A Q s := by
  unfold Screen.new at e
  obtain ⟨g, hg, e⟩ := bind_eq_ok.mp e
  obtain ⟨ag, hag, e⟩ := bind_eq_ok.mp e
  cases e
  exact ⟨hQ.penDefault, hQ.penDefault, hQ.allocateRows (hQ.new hg), hQ.new hag⟩

theorem setSize (hQ : ∀ {g g'} (sz : Size), Q g → g.setSize sz = .ok g' → Q g') (h : ScreenP A Q s) (r c : Nat)
    (e : s.setSize r c = .ok s') : ScreenP A Q s' := by
  unfold Screen.setSize at e
  obtain ⟨g, hg, e⟩ := bind_eq_ok.mp e
  obtain ⟨ag, hag, e⟩ := bind_eq_ok.mp e
  cases e
  exact ⟨h.pen, h.saved, hQ _ h.grid hg, hQ _ h.alt hag⟩

end ScreenP

theorem opsKeep_true : OpsKeep W (fun _ => True) (fun _ => True) := by
  constructor <;> intros <;> first | trivial | exact fun _ _ _ _ _ _ => trivial

theorem screenP_true (s : Screen) : ScreenP (fun _ => True) (fun _ => True) s := ⟨trivial, trivial, trivial, trivial⟩

end Vt.InvP
