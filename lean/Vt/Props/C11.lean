/-
  C11 — DECSC/DECRC and the alternate screen save, isolate and restore state.
  Isolation (`alt_isolation`) is equality of the whole primary `Grid` record: cells, wrap flags, cursor, saved cursor,
  scroll region, origin mode, scrollback rows, capacity and offset.
-/
import Vt.Lemmas.Screen
import Vt.Lemmas.WPred
import Vt.Lemmas.PerformCases
import Vt.Lemmas.Modes
namespace Vt.C11
open Vt

/-- what DECSC saves -/
structure Saved where
  pos : Pos
  origin : Bool
  pen : Attrs
  deriving DecidableEq, Repr

def saved (s : Screen) : Saved := ⟨s.cur.savedPos, s.cur.savedOriginMode, s.savedAttrs⟩
def live (s : Screen) : Saved := ⟨s.cur.pos, s.cur.originMode, s.attrs⟩

/-- DECSC in closed form (`Screen::save_cursor`) -/
def decscOf (s : Screen) : Screen :=
  if s.altScreen then { s with altGrid := s.altGrid.saveCursor, savedAttrs := s.attrs }
  else { s with grid := s.grid.saveCursor, savedAttrs := s.attrs }

/-- DECRC in closed form (`Screen::restore_cursor`): no clamping, no other effect -/
def decrcOf (s : Screen) : Screen :=
  if s.altScreen then { s with altGrid := s.altGrid.restoreCursor, attrs := s.savedAttrs }
  else { s with grid := s.grid.restoreCursor, attrs := s.savedAttrs }

theorem decsc_eq (s : Screen) : s.decsc = .ok (decscOf s) := by
  simp only [Screen.decsc, Screen.saveCursor, Screen.modifyGrid, decscOf]
  by_cases h : s.altScreen = true <;> simp [h]

theorem decrc_eq (s : Screen) : s.decrc = .ok (decrcOf s) := by
  simp only [Screen.decrc, Screen.restoreCursor, Screen.modifyGrid, decrcOf]
  by_cases h : s.altScreen = true <;> simp [h]

theorem perform_decsc (W : Nat → Option Nat) (cb : CbPolicy) (ws : WS) (ig : Bool) :
    perform W cb ws (.escDispatch [] ig 55) = .ok { ws with screen := decscOf ws.screen } := by
  simp [perform, performEsc, WS.onScreen, decsc_eq]

theorem perform_decrc (W : Nat → Option Nat) (cb : CbPolicy) (ws : WS) (ig : Bool) :
    perform W cb ws (.escDispatch [] ig 56) = .ok { ws with screen := decrcOf ws.screen } := by
  simp [perform, performEsc, WS.onScreen, decrc_eq]

theorem saved_decscOf (s : Screen) : saved (decscOf s) = live s ∧ (decscOf s).altScreen = s.altScreen := by
  unfold decscOf saved live Screen.cur
  split <;> simp [*, Grid.saveCursor]

theorem live_decrcOf (s : Screen) : live (decrcOf s) = saved s := by
  unfold decrcOf saved live Screen.cur
  split <;> simp [*, Grid.restoreCursor]

/-- DECSC; anything that keeps the saved triple; DECRC  ⇒  the cursor, origin mode and pen are
those at the time of the DECSC -/
theorem decsc_decrc (s0 s1 s2 s3 : Screen) (h1 : s0.decsc = .ok s1)
    (hkeep : saved s2 = saved s1) (h3 : s2.decrc = .ok s3) : live s3 = live s0 := by
  cases (decsc_eq s0).symm.trans h1
  cases (decrc_eq s2).symm.trans h3
  rw [live_decrcOf, hkeep, (saved_decscOf s0).1]

def Keep (s s' : Screen) : Prop := s'.grid = s.grid ∧ s'.altScreen = true

/-- the actions excluded by the property: RIS and a DECRST list that leaves the alternate screen
(bytes: 99 = `c`, 63 = `?`, 108 = `l`) -/
def Leaves : Action → Bool
  | .escDispatch [] _ 99 => true
  | .csiDispatch params (63 :: _) _ 108 => params.any (fun p => p == [47] || p == [1049])
  | _ => false

/-- `cbResize` does not have it (`cbResize_not_keeps`, C11more).  Not to be confused with `C12.CbKeeps` (both histories
are kept; `cbResize` has it) and `C13.CbKeepsCond W S` (a screen predicate `S` is kept under `Inv`). -/
def CbKeeps (cb : CbPolicy) : Prop :=
  ∀ e s s', s.altScreen = true → cb e s = .ok s' → Keep s s'

theorem cbNone_keeps : CbKeeps cbNone := by
  intro e s s' ha h
  cases h
  exact ⟨rfl, ha⟩

section keep
open Vt.C12 (MPred WPred perform_cases)
variable {s0 s : Screen}

/-- an operation on the active grid, whatever it is, works on the alternate grid -/
theorem Keep.modifyGrid {f : Grid → M Grid} (h : Keep s0 s) : MPred (Keep s0) (s.modifyGrid f) := by
  unfold Screen.modifyGrid
  rw [if_pos h.2]
  exact MPred.bind_any _ fun _ => MPred.pure h

theorem Keep.saveCursor (h : Keep s0 s) : MPred (Keep s0) s.saveCursor :=
  MPred.bind h.modifyGrid fun _ h' => MPred.pure h'

theorem Keep.restoreCursor (h : Keep s0 s) : MPred (Keep s0) s.restoreCursor :=
  MPred.bind h.modifyGrid fun _ h' => MPred.pure h'

theorem Keep.enterAlternateGrid (h : Keep s0 s) : MPred (Keep s0) s.enterAlternateGrid :=
  MPred.bind h.modifyGrid fun _ h' => MPred.pure ⟨h'.1, rfl⟩

theorem Keep.cb {cb : CbPolicy} (hcb : CbKeeps cb) (e : Event) (s : Screen) (h : Keep s0 s) :
    MPred (Keep s0) (cb e s) :=
  MPred.iff.mpr fun s' e' => ⟨(hcb e s s' h.2 e').1.trans h.1, (hcb e s s' h.2 e').2⟩

/-- on the alternate screen everything but RIS and `?47l` / `?1049l` is a callback, a pen or mode change, or an
operation on the active grid -/
theorem perform_keep (W : Nat → Option Nat) {cb : CbPolicy} (hcb : CbKeeps cb) (s0 : Screen) (a : Action)
    (hal : Leaves a = false) : WPred (Keep s0) (fun ws => perform W cb ws a) :=
  have hemit (e : Event) : WPred (Keep s0) (emit cb e) := .emit (Keep.cb hcb) e
  have stays {ps : List (List Nat)} {p : List Nat} (hp : p ∈ ps) (h : (p == [47] || p == [1049]) = true)
      (hl : ps.any (fun p => p == [47] || p == [1049]) = false) {Q : Prop} : Q :=
    absurd h (by simpa using List.any_eq_false.mp hl p hp)
  perform_cases W (C := fun a F => Leaves a = false → WPred (Keep s0) (F cb))
    (nop := fun _ _ => .pure)
    (emit := fun _ e _ _ => hemit e)
    (emit2 := fun _ e1 e2 _ _ _ => .bind (hemit e1) (hemit e2))
    (draw := fun _ _ _ _ => .onScreen fun _ h => h.modifyGrid)
    (deckpam := fun _ _ _ h => MPred.pure h)
    (deckpnm := fun _ _ _ h => MPred.pure h)
    (lf := fun _ _ _ => .onScreen fun _ h => h.modifyGrid)
    (text := fun _ _ _ _ => .onScreen fun _ h => h.modifyGrid)
    (su := fun _ _ _ => .onScreen fun _ h => h.modifyGrid)
    (decsc := fun _ _ => .onScreen fun _ h => h.saveCursor)
    (decrc := fun _ _ => .onScreen fun _ h => h.restoreCursor)
    (ris := fun _ hl => nomatch hl)
    (decstbm := fun _ _ _ => .onScreen fun _ h => MPred.bind_any _ fun _ => MPred.bind_any _ fun _ => h.modifyGrid)
    (resize := fun _ _ _ ws h => hemit _ ws h)
    (seq := fun _ _ _ _ h hl => .steps fun st hst => h st hst hl)
    (pen := fun _ _ _ _ _ _ h => MPred.pure h)
    (mode := fun _ _ _ _ _ _ _ _ h => MPred.pure h)
    (origin := fun _ _ _ _ _ _ _ => .onScreen fun _ h => h.modifyGrid)
    (enter := fun _ _ _ _ => .onScreen fun _ h => h.enterAlternateGrid)
    (save1049 := fun _ _ _ _ _ => .onScreen fun _ h => h.saveCursor)
    (clear1049 := fun _ _ _ _ _ => .onScreen fun _ h => MPred.bind_any _ fun _ => MPred.pure h)
    (exit := fun _ _ _ hp hl => hp.elim (fun hp => stays hp rfl hl) fun hp => stays hp rfl hl)
    (restore1049 := fun _ _ _ hp hl => stays hp rfl hl)
    a hal

end keep

/-- **Isolation**: while the alternate screen is active, an action other than RIS, `?47l`,
`?1049l` leaves the whole primary grid unchanged and the alternate screen active. -/
theorem alt_isolation (W : Nat → Option Nat) {cb : CbPolicy} (hcb : CbKeeps cb) (ws ws' : WS) (a : Action)
    (ha : ws.screen.altScreen = true) (hal : Leaves a = false)
    (h : perform W cb ws a = .ok ws') :
    ws'.screen.grid = ws.screen.grid ∧ ws'.screen.altScreen = true :=
  C12.MPred.iff.mp (perform_keep W hcb ws.screen a hal ws ⟨rfl, ha⟩) ws' h

/-- lifted to every list of actions (hence to every byte stream whose actions avoid the three) -/
theorem alt_isolation_stream (W : Nat → Option Nat) {cb : CbPolicy} (hcb : CbKeeps cb) :
    ∀ (acts : List Action) (ws ws' : WS), ws.screen.altScreen = true →
      (∀ a ∈ acts, Leaves a = false) → acts.foldlM (perform W cb) ws = .ok ws' →
      ws'.screen.grid = ws.screen.grid ∧ ws'.screen.altScreen = true := by
  intro acts ws ws' ha hl h
  exact C12.MPred.iff.mp (C12.WPred.foldlM (P := Keep ws.screen) (fun a => perform_keep W hcb ws.screen a) acts hl
    ws ⟨rfl, ha⟩) ws' h

end Vt.C11
