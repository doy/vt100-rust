/-
  C15 — row-wise redraw: the assembled theorem.

  The drawing protocol of the property (the repository's own, `tests/helpers/mod.rs`, less its closing
  `input_mode_formatted()`): for every line `i` of `rows_formatted(0, cols)`: `ESC [ m`; unless the previous line is
  wrapped, `ESC [ i+1 H`; the line's bytes.  Then `ESC [ m`, `cursor_state_formatted()`, `attributes_formatted()`.

  `rows_protocol_reproduces`: processing that byte stream on a receiver whose lines are blank (a new parser;
  a cleared terminal) leaves it showing the source screen.
-/
import Vt.Props.C01full
namespace Vt.C15
open Vt Vt.Recv Vt.C19 Vt.C09 Vt.RowDraw Vt.GridDraw Vt.Tok Vt.C01 Vt.C03

variable {W : Nat → Option Nat} {cb : CbPolicy}

/-- `rows_formatted` passes no previous position and no previous pen: the defaults are the start of the
line (or the pending-wrap position of the line above) and the default pen -/
theorem wcf_none (r : Row) (cols i : Nat) (w : Bool) (hw : w = true → 1 ≤ i) :
    r.writeContentsFormatted 0 cols i w none none =
      r.writeContentsFormatted 0 cols i w (some (if w then ⟨i - 1, r.cols⟩ else ⟨i, 0⟩)) (some Attrs.default) := by
  unfold Row.writeContentsFormatted
  cases w
  · simp
  · have := hw rfl
    simp [subM_ok this]

/-- `ESC [ n H` (one parameter): to line `n`, column 1 -/
def cupRow (n : Nat) : List Nat := [0x1B, 0x5B] ++ Term.itoa n ++ [72]

theorem step_cupRow (n : Nat) (h1 : 1 ≤ n) (hn : n ≤ 65535) :
    Step W cb (cupRow n) (fun r => r.g.setPos ⟨n - 1, 0⟩ >>= fun g' => pure { r with g := g' }) := by
  have := step_cup W cb [n] (by simpa using hn) (by simp) ⟨n - 1, 0⟩ (by
    have : n ≠ 0 := by omega
    simp [canon2, firstOr0, Tok.groups, this, Nat.sub_add_cancel h1])
  simpa [cupRow, paramBytes] using this

def drawRowsFrom (i : Nat) (prevWrapped : Bool) : List (List Nat) → List Bool → List Nat
  | bs :: rest, w :: ws =>
    Term.clearAttrs ++ (if prevWrapped then [] else cupRow (i + 1)) ++ bs ++ drawRowsFrom (i + 1) w rest ws
  | _, _ => []

theorem protocol_loop (hW : WOk W) (q : Parser) (h0 : Ready q) {srows : List Row} {cols : Nat}
    (hS : SrcRows W cols srows) : ∀ (rs : List Row) (i : Nat) (wrapping : Bool) (pp : Pos) (out : List Nat) (R : RS),
    srows.drop i = rs → (hil : i ≤ srows.length) →
    (∀ h : 0 < i, wrapping = (srows[i - 1]'(by omega)).wrapped) → (i = 0 → wrapping = false) →
    RowsInv srows cols i wrapping pp R → Emitted W cb q out R →
    ∃ rb, Screen.rowsFormattedLoop true 0 cols rs i wrapping = .ok rb ∧
      ∃ pp' R', Emitted W cb q (out ++ drawRowsFrom i wrapping rb (rs.map (·.wrapped))) R' ∧
        RowsInv srows cols srows.length false pp' R' ∧ R'.g.scrollbackOffset = R.g.scrollbackOffset
  | [], i, wrapping, pp, out, R, hrs, hil, hwv, hw0, hinv, hem => by
    obtain ⟨rfl, rfl⟩ := hS.end_unwrapped hrs hil hwv hw0
    exact ⟨[], rfl, pp, R, by simpa [drawRowsFrom] using hem, hinv, rfl⟩
  | r :: rest, i, wrapping, pp, out, R, hrs, hil, hwv, hw0, hinv, hem => by
    obtain ⟨hi, hr, hrest⟩ := C02.drop_eq_cons hrs
    have hrw := hS.width _ (List.getElem_mem hi)
    have hem1 := emitted_step W cb h0 hem (step_clearAttrs W cb)
      (r' := { R with pen := Attrs.default }) rfl
    have hinv1 := rowsInv_pen hinv Attrs.default
    -- the step that matters: with or without the `CSI n H`, the receiver has the default pen and stands where
    -- `write_contents_formatted` assumes it when told nothing of the previous position: that is `wcf_none` below
    have hcur : ∃ pp2 R2, Emitted W cb q (out ++ Term.clearAttrs ++ (if wrapping then [] else cupRow (i + 1))) R2 ∧
        RowsInv srows cols i wrapping pp2 R2 ∧ R2.pen = Attrs.default ∧
        pp2 = (if wrapping then ⟨i - 1, srows[i].cols⟩ else ⟨i, 0⟩) ∧ R2.g.scrollbackOffset = R.g.scrollbackOffset := by
      by_cases hw : wrapping = true
      · subst hw
        obtain ⟨_, _, hpp, _, _⟩ := hinv.wrap rfl
        refine ⟨pp, _, by simpa using hem1, hinv1, rfl, ?_, rfl⟩
        simp only [↓reduceIte, Row.cols, hrw, hpp]
      · have hw' : wrapping = false := by simpa using hw
        subst hw'
        have hcv := hinv1.canvas
        have hru := hcv.rows_u16
        have hir : i < R.g.size.rows := by rw [hinv.nrows]; exact hi
        have hsp := setPos_eq hcv ⟨i, 0⟩ hir hcv.cols_pos
        have := emitted_step W cb h0 hem1 (step_cupRow (W := W) (cb := cb) (i + 1) (by omega) (by
            have : R.g.size.rows = ({ R with pen := Attrs.default } : RS).g.size.rows := rfl
            omega))
          (r' := { g := withPos R.g ⟨i, 0⟩, pen := Attrs.default, saved := R.saved }) (by
            simp only [Nat.add_sub_cancel]
            rw [show ({ R with pen := Attrs.default } : RS).g = R.g from rfl, hsp]
            rfl)
        refine ⟨⟨i, 0⟩, _, by simpa using this, 
          rowsInv_frame hinv { g := withPos R.g ⟨i, 0⟩, pen := Attrs.default, saved := R.saved } rfl rfl rfl rfl rfl, rfl, by simp, rfl⟩
    obtain ⟨pp2, R2, hem2, hinv2, hpen2, hpp2, hoff2⟩ := hcur
    obtain ⟨bs, np, na, R3, ewc, hem3, _, hinv3, hoff3, _⟩ := rows_step hW q h0 hS hi hinv2 hem2
    rw [hpen2, hpp2] at ewc
    have hwone : wrapping = true → 1 ≤ i := fun hw => by
      subst hw
      obtain ⟨h1, _⟩ := hinv.wrap rfl
      exact h1
    have ewc' : srows[i].writeContentsFormatted 0 cols i wrapping none none = .ok (bs, np, na) := by
      rw [wcf_none _ _ _ _ hwone]; exact ewc
    obtain ⟨rb, erb, pp', R', hem', hinv', hoff'⟩ := protocol_loop hW q h0 hS rest (i + 1) srows[i].wrapped np _ R3
      hrest (by omega) (fun _ => by simp) (fun h => by omega) hinv3 hem3
    refine ⟨bs :: rb, ?_, pp', R', ?_, hinv', hoff'.trans (hoff3.trans hoff2)⟩
    · rw [← hr]
      simp only [Screen.rowsFormattedLoop, ewc', ok_bind, ↓reduceIte, erb, pure_eq_ok]
    · rw [← hr]
      simp only [List.map_cons, drawRowsFrom]
      simpa [List.append_assoc] using hem'

def protocolStream (S : Screen) (rb : List (List Nat)) (cursorState : List Nat) : List Nat :=
  drawRowsFrom 0 false rb (S.cur.rows.map (·.wrapped)) ++ Term.clearAttrs ++ cursorState ++ S.attributesFormatted

/-- `rows_protocol_reproduces` with `DrawnAs q' S`, from which diffs against `S` can follow; the protocol carries no
input mode and reports no event.  The receiver's lines need only be blank: `RecvOk.rows_ok` is not asked. -/
theorem rows_protocol_run (hW : WOk W) {q : Parser} (hr : Ready q) (hcv : Canvas (rsOf q.ws).g)
    (hqoff : (rsOf q.ws).g.scrollbackOffset = 0)
    (hblank : ∀ r ∈ (rsOf q.ws).g.rows, BlankRow (rsOf q.ws).g.size.cols r)
    (S : Screen) (hS : SrcScreen W S) (hsz : S.cur.size = (rsOf q.ws).g.size) (hgs : S.grid.size = S.cur.size) :
    ∃ rb cs q', S.rowsFormatted 0 S.cur.size.cols = .ok rb ∧ S.cursorStateFormatted = .ok cs ∧
      q.process W cb (protocolStream S rb cs) = .ok q' ∧ Ready q' ∧ Shows q'.screen S ∧
      C10.inputModes q'.screen = C10.inputModes q.screen ∧ q'.ws.events = q.ws.events ∧ DrawnAs q' S := by
  have hinv0 : RowsInv S.cur.rows S.cur.size.cols 0 false (rsOf q.ws).g.pos (rsOf q.ws) := by
    refine ⟨hcv, by rw [hsz], by rw [← hsz, hS.alloc], rfl, ?_, fun h => by simp at h⟩
    intro k hk
    have hkl : k < (rsOf q.ws).g.rows.length := by rw [hcv.alloc, ← hsz, ← hS.alloc]; exact hk
    refine ⟨_, List.getElem?_eq_getElem hkl, fun h => by omega, fun _ => ?_⟩
    rw [hsz]; exact hblank _ (List.getElem_mem hkl)
  obtain ⟨rb, erb, pp', R', hem', hinv', hoff'⟩ := protocol_loop (cb := cb) hW q hr hS.rows S.cur.rows 0 false _ []
    (rsOf q.ws) rfl (Nat.zero_le _) (fun h => absurd h (Nat.lt_irrefl 0)) (fun _ => rfl) hinv0 (emitted_nil W cb q hr)
  simp only [List.nil_append] at hem'
  obtain ⟨p1, e1, r1, hrs1, k1⟩ := Untouched.of_emitted (emitted_step W cb hr hem' (step_clearAttrs W cb)
    (r' := { R' with pen := Attrs.default }) rfl)
  obtain ⟨p2, e2, w2, r2⟩ := C10.process_hideCursor W cb p1 S.hideCursor r1
  have hrs2 : rsOf p2.ws = { R' with pen := Attrs.default } := by rw [w2, rsOf_hide, hrs1]
  have hinv2 : RowsInv S.cur.rows S.cur.size.cols S.cur.rows.length false pp' (rsOf p2.ws) := by
    rw [hrs2]; exact rowsInv_pen hinv' Attrs.default
  obtain ⟨cb3, ecur, R3, hem3, _, hinv3, hoff3⟩ := cursor_fixup (cb := cb) hW r2 S.cur hS.rows hS.alloc hS.cur_row hS.cur_col
    (emitted_nil W cb p2 r2) (show (rsOf p2.ws).pen = Attrs.default by rw [hrs2]) wf_default hinv2 none
    (fun p hp => by simp at hp)
  simp only [List.nil_append] at hem3
  -- `attributes_formatted()` is `ESC [ m` and the pen change that ends `contents_formatted`
  obtain ⟨p4, e4, r4, hdr, hrs4, k4⟩ := pen_tail (cb := cb) r2 S hS.pen_wf
    (emitted_step W cb r2 hem3 (step_clearAttrs W cb) (r' := { R3 with pen := Attrs.default }) rfl) rfl
    (rowsInv_pen hinv3 Attrs.default)
  have erf : S.rowsFormatted 0 S.cur.size.cols = .ok rb := by
    simp only [Screen.rowsFormatted, C19.visibleRows_offset0 S.cur hS.off, ok_bind, hgs, beq_self_eq_true, Bool.and_self]
    exact erb
  have ecs : S.cursorStateFormatted = .ok (Term.hideCursor S.hideCursor ++ cb3) := by
    have : S.cur.writeCursorPositionFormatted none none = .ok cb3 := ecur
    simp only [Screen.cursorStateFormatted, this, ok_bind, pure_eq_ok]
  refine ⟨rb, _, p4, erf, ecs, ?_, r4, ?_, ?_, ?_, hdr⟩
  · unfold protocolStream
    have s3 := process_then W cb hr (process_then W cb hr e1 r1 e2) r2 e4
    simpa [List.append_assoc, Screen.attributesFormatted] using s3
  · refine shows_of_drawn rfl hdr hS.alloc ?_ (congrArg RS.pen hrs4) ?_
    · show p4.ws.screen.hideCursor = S.hideCursor
      rw [k4.hide, w2]
    · rw [hrs4]; show R3.g.scrollbackOffset = 0
      rw [hoff3, hrs2]; show R'.g.scrollbackOffset = 0; rw [hoff']; exact hqoff
  · show C10.inputModes p4.ws.screen = _
    rw [k4.modes, w2]; exact k1.modes
  · rw [k4.events, w2]; exact k1.events

/-- **C15**: drawing the lines of `rows_formatted(0, cols)` by the protocol, then `cursor_state_formatted()` and
`attributes_formatted()`, on a receiver whose lines are blank (a new parser, a cleared terminal) reproduces the
source screen: cells, wrap flags, cursor (the pending-wrap column included), cursor visibility, pen -/
theorem rows_protocol_reproduces (hW : WOk W) {q : Parser} (hq : RecvOk W q)
    (hqoff : (rsOf q.ws).g.scrollbackOffset = 0)
    (hblank : ∀ r ∈ (rsOf q.ws).g.rows, BlankRow (rsOf q.ws).g.size.cols r)
    (S : Screen) (hS : SrcScreen W S) (hsz : S.cur.size = (rsOf q.ws).g.size) (hgs : S.grid.size = S.cur.size) :
    ∃ rb cs q', S.rowsFormatted 0 S.cur.size.cols = .ok rb ∧ S.cursorStateFormatted = .ok cs ∧
      q.process W cb (protocolStream S rb cs) = .ok q' ∧ Ready q' ∧ Shows q'.screen S := by
  obtain ⟨rb, cs, q', e1, e2, e3, r4, hsh, _⟩ := rows_protocol_run (cb := cb) hW hq.ready hq.canvas hqoff hblank S hS hsz hgs
  exact ⟨rb, cs, q', e1, e2, e3, r4, hsh⟩

/-- **C15 on a new parser** -/
theorem rows_protocol_fresh (hW : WOk W) (S : Screen) (hinv : emitInvB W S = true) (hoff : S.cur.scrollbackOffset = 0)
    (sb : Nat) :
    ∃ q rb cs q', Parser.new S.cur.size.rows S.cur.size.cols sb = .ok q ∧
      S.rowsFormatted 0 S.cur.size.cols = .ok rb ∧ S.cursorStateFormatted = .ok cs ∧
      q.process W cb (protocolStream S rb cs) = .ok q' ∧ Shows q'.screen S := by
  have hS := srcScreen_of_inv hinv hoff
  have hsi := screenInv_of_emitInvB hinv
  obtain ⟨hcg, _⟩ := hsi.cur
  obtain ⟨q, enew, hq⟩ := new_recvOk W S.cur.size.rows S.cur.size.cols sb hcg.rows_pos hcg.cols_pos hcg.rows_u16 hcg.cols_u16
  obtain ⟨rb, cs, q', e1, e2, e3, _, hsh⟩ := rows_protocol_reproduces (cb := cb) hW hq.ok hq.off hq.blank S hS
    (by rw [hq.size]) (grid_size_cur hsi)
  exact ⟨q, rb, cs, q', enew, e1, e2, e3, hsh⟩

end Vt.C15
