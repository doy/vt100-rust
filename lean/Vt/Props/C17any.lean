/-
  C17any — RIS (`ESC c`) from EVERY reachable parser state, end to end, and "every later input behaves exactly as it
  would on a fresh parser".  (Vt/Props/C17.lean has the action-level `ris_fresh_screen`, the Ground-only
  `ris_process_ground`, and `esc_from_any`, whose hypothesis on `Escape` is the `esc` clause of `VteClean` here.)

  The statement needs an invariant of the automaton, `VteClean`.  It holds of `Vte.new` and is kept by `advance` on
  arbitrary bytes (`clean_advance`: `Vte.run_inv` for the clauses that do not mention the carry, `Vte.run_pending` for
  the carry), hence of every reachable parser (`reachable_clean`); without any one clause the statement is false
  (`needs_esc_clause`, `needs_osc_clause`, `needs_carry_clause`).

  Under the invariant the byte ESC leaves one automaton, `escaped carry`, from each of the 13 non-Ground states
  (`esc_any`), so `advance_ris`: `v.advance (ESC c ++ suffix)` is `risPre v ++ [esc_dispatch 'c']` followed by the
  actions of `Vte.new.advance suffix`, and ends in the automaton `Vte.new.advance suffix` ends in.  `perform` and
  `process` never read the callback log (`frame_perform`, `process_frame`), so "the same events are appended" is
  equality with a fresh parser up to a prefix of the log.

  "`p'.ws.screen = Screen.new <size read from p.ws.screen>`" is false for callback policies that resize the screen
  inside `set_window_title` &c. (the pending OSC's callback runs BEFORE the RIS): `ris_process_general` /
  `ris_process_cbInv` say what is true for those; `CbQuiet` (callbacks act at most on `resize`; holds for `cbNone` and
  `cbResize`) gives the literal form.
-/
import Vt.Props.C17
import Vt.Props.C04
import Vt.Props.InvPerform
import Vt.Props.C18all
namespace Vt.C17any
open Vt

/-- `c` is a proper, non-empty prefix of one multi-byte character: `from_utf8(c)` reports
"unexpected end of input" (`error_len() == None`) at offset 0.  The same as `Utf8.Trunc c` (`Inc0.trunc`,
`Inc0.of_trunc`), in the terms of what `from_utf8` returns. -/
def Inc0 (c : List Nat) : Prop :=
  (Utf8.fromUtf8 c).err = some none ∧ (Utf8.fromUtf8 c).validUpTo = 0

theorem Inc0.trunc {c : List Nat} (h : Inc0 c) : Utf8.Trunc c := Utf8.trunc_of_err h.1 h.2

theorem Inc0.of_trunc {c : List Nat} (h : Utf8.Trunc c) : Inc0 c := by
  unfold Inc0
  rw [h.stop]
  exact ⟨rfl, rfl⟩

/-- the fields `reset_params` sets, at their initial values -/
def ParamsClear (v : Vte) : Prop :=
  v.ints = [] ∧ v.ignoring = false ∧ v.params = [] ∧ v.cur = [] ∧ v.param = 0

def OscClear (v : Vte) : Prop := v.oscRaw = [] ∧ v.oscParams = []

/-- **the invariant of the vte automaton** (all reachable automaton states satisfy it):
* the OSC buffer (`osc_raw`, `osc_params`) is empty outside `OscString`;
* in `Escape` the parameters, intermediates and the `ignoring` flag are reset;
* a pending partial UTF-8 character (`partial_utf8_len != 0`) only exists in `Ground`, and it is a
  truncated character (a proper non-empty prefix of one multi-byte character). -/
structure VteClean (v : Vte) : Prop where
  osc : v.state ≠ .oscString → OscClear v
  esc : v.state = .escape → ParamsClear v
  carry : v.carry ≠ [] → v.state = .ground ∧ Inc0 v.carry

theorem vteClean_new : VteClean Vte.new :=
  ⟨fun _ => ⟨rfl, rfl⟩, fun h => by simp [Vte.new] at h, fun h => by simp [Vte.new] at h⟩

/-- `VteClean` without the carry clause: the part `change_state` keeps byte by byte (`sc_changeState`); the carry
clause comes from `Vte.run_pending` (`clean_run`). -/
structure AutoClean (v : Vte) : Prop where
  osc : v.state ≠ .oscString → OscClear v
  esc : v.state = .escape → ParamsClear v

@[simp] theorem osc_reset (v : Vte) : OscClear v.resetParams ↔ OscClear v := Iff.rfl
@[simp] theorem osc_state (v : Vte) (s : VState) : OscClear { v with state := s } ↔ OscClear v := Iff.rfl
@[simp] theorem state_finish (v : Vte) : v.finishParams.state = v.state := (Vte.Edit.finish (b := 0)).frame.1

theorem oscClear_edit {v w : Vte} {b : Nat} (hw : Vte.Edit v b w) : OscClear w ↔ OscClear v := by
  unfold OscClear
  rw [hw.frame.2.1, hw.frame.2.2.1]

theorem auto_plain {v : Vte} (ho : OscClear v) (h1 : v.state ≠ .escape) : AutoClean v :=
  ⟨fun _ => ho, fun h => absurd h h1⟩

theorem auto_escape {v : Vte} (ho : OscClear v) : AutoClean { v.resetParams with state := .escape } :=
  ⟨fun _ => ho, fun _ => ⟨rfl, rfl, rfl, rfl, rfl⟩⟩

theorem auto_oscString {v : Vte} (hs : v.state = .oscString) : AutoClean v :=
  ⟨fun h => absurd hs h, fun h => by rw [hs] at h; cases h⟩

theorem sc_csiDispatch {v : Vte} (ho : OscClear v) (b : Nat) : AutoClean (v.actionCsiDispatch b).1 :=
  auto_plain (v := { v.finishParams with state := .ground }) ((oscClear_edit (b := b) .finish).mpr ho) nofun

macro "sc_leaf" h:ident ho:ident hs:ident : tactic => `(tactic| first
    | exact $h
    | exact sc_anywhere $ho (by rw [$hs:ident]; simp) _
    | exact sc_csiDispatch $ho _
    | exact sc_hook $ho _
    | exact sc_escDispatch $ho _
    | exact auto_escape $ho
    | (refine auto_plain ?_ ?_
       · first
           | exact $ho
           | exact (osc_collect _ _).mpr $ho
           | exact (osc_paramnext _ _).mpr $ho
           | exact (osc_subparam _).mpr $ho
           | exact (osc_param _).mpr $ho
       · simp [$hs:ident]))

theorem sc_changeState {v : Vte} (h : AutoClean v) (b : Nat) : AutoClean (v.changeState b).1 := by
  generalize hr : v.changeState b = r
  cases hr ▸ Vte.changeState_step v b with
  | stay => exact h
  | edit hw he =>
    exact ⟨fun hne => (oscClear_edit hw).mpr (h.osc (hw.frame.1 ▸ hne)), fun hs => absurd (hw.frame.1 ▸ hs) he⟩
  | goto hw s acts ho hs =>
    have ho' := (oscClear_edit hw).mpr (h.osc ho)
    exact auto_plain ho' hs.1
  | csi ho => exact sc_csiDispatch (h.osc ho) b
  | escape acts ho => exact auto_escape (h.osc ho)
  | oscStart => exact auto_oscString rfl
  | oscPut hs hw => exact auto_oscString ((Vte.oscPut_frame hw).1.trans hs)
  | oscEnd s acts hs => exact auto_plain ⟨rfl, rfl⟩ hs.1
  | oscEsc => exact auto_escape ⟨rfl, rfl⟩


/-- the main loop from an empty carry buffer: only a truncated character at the end of the input fills the buffer -/
theorem clean_run (v : Vte) (a : List Nat) (h : VteClean v) (hc : v.carry = []) : VteClean (v.run a).1 := by
  have ha := (Vte.run_inv (P := AutoClean) (Q := fun _ => True)
    (fun v b _ h => ⟨sc_changeState h b, fun _ _ => trivial⟩)
    (fun v hg h => auto_escape (h.osc (by rw [hg]; nofun))) (fun v k _ _ h => ⟨h.osc, h.esc⟩) (fun _ _ => trivial)
    (fun _ => trivial) v a ⟨h.osc, h.esc⟩).1
  exact ⟨ha.osc, ha.esc,
    fun hne => ((Vte.run_pending hc a).pendOk.resolve_left hne).imp id .of_trunc⟩

/-- **`VteClean` is preserved by `vte::Parser::advance`**, for every byte string (any numbers, not
only `u8`) and every automaton state satisfying it -/
theorem clean_advance (v : Vte) (bytes : List Nat) (h : VteClean v) : VteClean (v.advance bytes).1 := by
  rw [Vte.advance_eq]
  split
  · exact clean_run _ _ h ‹_›
  · rename_i hne
    -- the loop is entered with pending UTF-8 bytes only when no input is left
    rcases Vte.advancePartial_cases v bytes with ⟨c, n, _, e⟩ | ⟨ht, e⟩ <;> rw [e]
    · exact clean_run _ _ ⟨h.osc, h.esc, fun hh => absurd rfl hh⟩ rfl
    · rw [List.drop_length]
      exact ⟨h.osc, h.esc, fun _ => ⟨(h.carry hne).1, .of_trunc ht⟩⟩

theorem clean_process (W : Nat → Option Nat) (cb : CbPolicy) (p p' : Parser) (bytes : List Nat)
    (h : VteClean p.vte) (hp : p.process W cb bytes = .ok p') : VteClean p'.vte :=
  C04.process_vte W cb p p' bytes hp ▸ clean_advance _ _ h


/-- the automaton right after ESC (`changeState` does not look at the pending UTF-8 bytes) -/
def escaped (carry : List Nat) : Vte := { Vte.new with state := .escape, carry := carry }

/-- what the byte ESC terminates: a pending OSC string is dispatched (ESC is not BEL, so
`bell_terminated = false`), a DCS passthrough is unhooked, anything else is dropped silently -/
def escPre (v : Vte) : List Action :=
  match v.state with
  | .oscString => (v.oscEnd 0x1B).2
  | .dcsPassthrough => [.unhook]
  | _ => []

/-- in Escape the invariant leaves only the carry buffer free -/
theorem eq_escaped {v : Vte} (h : AutoClean v) (hs : v.state = .escape) : v = escaped v.carry := by
  obtain ⟨h1, h2, h3, h4, h5⟩ := h.esc hs
  obtain ⟨h6, h7⟩ := h.osc (by rw [hs]; nofun)
  cases v
  simp only at hs h1 h2 h3 h4 h5 h6 h7
  subst hs h1 h2 h3 h4 h5 h6 h7
  rfl

/-- **ESC from every non-Ground state** (all 13 of them, any collected parameters/intermediates) -/
theorem esc_any (v : Vte) (h : AutoClean v) (hg : v.state ≠ .ground) :
    v.changeState 0x1B = (escaped v.carry, escPre v) := by
  have hs : (v.changeState 0x1B).1.state = .escape ∧ (v.changeState 0x1B).2 = escPre v := by
    rw [Vte.changeState_esc]
    unfold escPre
    split
    · exact absurd ‹_› hg
    all_goals simp only [*, and_self]
  refine Prod.ext ?_ hs.2
  rw [eq_escaped (sc_changeState h _) hs.1, (Vte.changeState_step v _).carry]

theorem escaped_c (carry : List Nat) :
    (escaped carry).changeState 0x63 = ({ Vte.new with carry := carry }, [.escDispatch [] false 99]) := by
  simp [escaped, Vte.changeState, Vte.advanceEsc, Vte.isC0Exec, Vte.escDispatch, Vte.new]


/-- the actions `ESC c` produces *before* the RIS dispatch (a pending partial UTF-8 character is only possible in
Ground) -/
def risPre (v : Vte) : List Action :=
  match v.carry with
  | [] => escPre v
  | _ :: _ => [.print Vte.REPLACEMENT]

theorem run_ris (v : Vte) (h : AutoClean v) (hc : v.carry = []) (suffix : List Nat) :
    v.run (0x1B :: 0x63 :: suffix) =
      ((Vte.new.run suffix).1, escPre v ++ [.escDispatch [] false 99] ++ (Vte.new.run suffix).2) := by
  have hcs : (escaped []).run (0x63 :: suffix) =
      ((Vte.new.run suffix).1, [.escDispatch [] false 99] ++ (Vte.new.run suffix).2) := by
    rw [Vte.run_nonground (by simp [escaped]), escaped_c]
    rfl
  by_cases hg : v.state = .ground
  · have hpre : escPre v = [] := by simp [escPre, hg]
    have hesc := eq_escaped (auto_escape (h.osc (by rw [hg]; nofun))) rfl
    rw [Vte.run_esc hg, hesc, show ({ v.resetParams with state := .escape } : Vte).carry = [] from hc, hcs, hpre]
    rfl
  · rw [Vte.run_nonground hg, esc_any v h hg, hc, hcs, List.append_assoc]

/-- **vte: `ESC c` followed by anything, from every automaton state satisfying the invariant**: the
automaton emits `risPre v`, then `esc_dispatch([], false, 'c')`, and then behaves on the rest of
the chunk exactly as a newly constructed `vte::Parser` — same actions, same final automaton state. -/
theorem advance_ris (v : Vte) (h : VteClean v) (suffix : List Nat) :
    v.advance (0x1B :: 0x63 :: suffix) =
      ((Vte.new.advance suffix).1,
       risPre v ++ [.escDispatch [] false 99] ++ (Vte.new.advance suffix).2) := by
  rw [Vte.advance_eq_run (v := Vte.new) rfl suffix]
  cases hcar : v.carry with
  | nil =>
    rw [Vte.advance_eq_run hcar, run_ris v ⟨h.osc, h.esc⟩ hcar]
    simp only [risPre, hcar]
  | cons x xs =>
    have hne : v.carry ≠ [] := by rw [hcar]; nofun
    obtain ⟨hg, hinc⟩ := h.carry hne
    -- ESC cannot continue the pending character: U+FFFD, and the loop goes on at the ESC
    have hbad := (hinc.trunc.step 0x1B).resolve_right fun h => absurd h.1 (by decide)
    rw [(Vte.advance_pending hinc.trunc _).invalid rfl hinc.trunc (Nat.le_refl _) hbad,
      run_ris v.clear ⟨h.osc, h.esc⟩ rfl, show escPre v.clear = [] by simp [escPre, Vte.clear, hg]]
    simp only [risPre, hcar, List.nil_append, List.cons_append]


/-! `WS.events` models the calls the user's `Callbacks` object has received.  No method of
`WrappedScreen` looks at it, so running from a state whose log has an extra prefix gives the same
screen and the same appended events. -/

def addPre (pre : List Event) (ws : WS) : WS := { ws with events := pre ++ ws.events }

def retPre (pre : List Event) (r : M WS) : M WS := r >>= fun w => pure (addPre pre w)

/-- `f` does not read the log -/
def Frame (f : WS → M WS) : Prop := ∀ pre ws, f (addPre pre ws) = retPre pre (f ws)

theorem frame_emit (cb : CbPolicy) (e : Event) : Frame (emit cb e) := by
  intro pre ws
  simp only [emit, addPre, retPre]
  cases cb e ws.screen with
  | error x => rfl
  | ok s => simp [List.append_assoc]

theorem frame_onScreen (f : Screen → M Screen) : Frame (fun ws => ws.onScreen f) := by
  intro pre ws
  simp only [WS.onScreen, addPre, retPre]
  cases f ws.screen with
  | error x => rfl
  | ok s => rfl

theorem frame_pure : Frame (fun ws => pure ws) := fun _ _ => rfl

theorem frame_setScreen (g : Screen → Screen) : Frame (fun ws => pure { ws with screen := g ws.screen }) :=
  fun _ _ => rfl

theorem frame_bind {f g : WS → M WS} (hf : Frame f) (hg : Frame g) : Frame (fun ws => f ws >>= g) := by
  intro pre ws
  simp only [hf pre ws, retPre]
  cases f ws with
  | error x => rfl
  | ok w => simp only [ok_bind, pure_eq_ok]; exact hg pre w

theorem frame_fold {α} (step : WS → α → M WS) (hstep : ∀ x, Frame (fun ws => step ws x)) :
    ∀ (xs : List α), Frame (fun ws => xs.foldlM step ws) := by
  intro xs
  induction xs with
  | nil => exact frame_pure
  | cons x xs ih =>
    intro pre ws
    simp only [List.foldlM_cons]
    exact frame_bind (hstep x) ih pre ws

theorem addPre_modAttrs (pre : List Event) (ws : WS) (f : Attrs → Attrs) :
    (addPre pre ws).modAttrs f = addPre pre (ws.modAttrs f) := rfl
theorem addPre_setFg (pre : List Event) (ws : WS) (c : Color) : (addPre pre ws).setFg c = addPre pre (ws.setFg c) := rfl
theorem addPre_setBg (pre : List Event) (ws : WS) (c : Color) : (addPre pre ws).setBg c = addPre pre (ws.setBg c) := rfl

/-- **`perform` does not read the callback log**: every step it is put together from is a callback, an operation
on the screen, or a sequence of such steps -/
theorem frame_perform (W : Nat → Option Nat) (cb : CbPolicy) (a : Action) : Frame (fun ws => perform W cb ws a) :=
  C12.perform_cases W (C := fun _ F => ∀ cb, Frame (F cb))
    (nop := fun _ _ => frame_pure)
    (emit := fun _ e _ cb => frame_emit cb e)
    (emit2 := fun _ e1 e2 _ _ cb => frame_bind (frame_emit cb e1) (frame_emit cb e2))
    (draw := fun _ _ _ _ => frame_onScreen _)
    (deckpam := fun _ _ => frame_setScreen _)
    (deckpnm := fun _ _ => frame_setScreen _)
    (lf := fun _ _ _ => frame_onScreen _)
    (text := fun _ _ _ _ => frame_onScreen _)
    (su := fun _ _ _ => frame_onScreen _)
    (decsc := fun _ _ => frame_onScreen _)
    (decrc := fun _ _ => frame_onScreen _)
    (ris := fun _ _ => frame_onScreen _)
    (decstbm := fun _ _ _ => frame_onScreen _)
    (resize := fun _ _ cb pre ws => frame_emit cb _ pre ws)
    (seq := fun _ _ e p _ cb => frame_fold _ (fun st => match st with
      | .unhandled => frame_emit cb e
      | .op o => frame_onScreen o.run) p)
    (pen := fun _ _ t _ _ => frame_setScreen fun s => { s with attrs := t s.attrs })
    (mode := fun _ _ _ _ E _ _ => frame_setScreen fun s => s.setModes (E (C10.modesOf s)))
    (origin := fun _ _ _ _ _ _ _ => frame_onScreen _)
    (enter := fun _ _ _ _ => frame_onScreen _)
    (save1049 := fun _ _ _ _ _ => frame_onScreen _)
    (clear1049 := fun _ _ _ _ _ => frame_onScreen _)
    (exit := fun _ _ _ _ _ => frame_setScreen Screen.exitAlternateGrid)
    (restore1049 := fun _ _ _ _ _ => frame_onScreen _)
    a cb


def Parser.addPre (pre : List Event) (q : Parser) : Parser := { q with ws := C17any.addPre pre q.ws }

/-- **`process` does not read the callback log**: the same bytes on a parser whose log has an extra
prefix give the same automaton state, the same screen, append the same events and fail identically -/
theorem process_frame (W : Nat → Option Nat) (cb : CbPolicy) (q : Parser) (pre : List Event) (bytes : List Nat) :
    (Parser.addPre pre q).process W cb bytes =
      (q.process W cb bytes >>= fun q' => pure (Parser.addPre pre q')) := by
  simp only [Parser.process, Parser.addPre]
  have := frame_fold _ (frame_perform W cb) (q.vte.advance bytes).2 pre q.ws
  simp only at this
  rw [this, retPre]
  cases (q.vte.advance bytes).2.foldlM (perform W cb) q.ws with
  | error e => rfl
  | ok ws => rfl

/-- **C17, general form (any callback policy, any suffix)**: from every parser whose automaton
satisfies the invariant, `process(ESC c ++ suffix)` is:
1. perform the actions `risPre` (the pending OSC / the U+FFFD of a cut character: they only call
   callbacks);
2. replace the screen by `Screen::new(size, scrollback_len)` of the primary grid — the callback log is
   kept, nothing is appended by the RIS itself;
3. process `suffix` with a **newly constructed** automaton (`Vte.new`). -/
theorem ris_process_general (W : Nat → Option Nat) (cb : CbPolicy) (p : Parser) (h : VteClean p.vte)
    (suffix : List Nat) :
    p.process W cb (0x1B :: 0x63 :: suffix) =
      ((risPre p.vte).foldlM (perform W cb) p.ws >>= fun ws1 =>
       Screen.new ws1.screen.grid.size ws1.screen.grid.scrollbackLen >>= fun s =>
       Parser.process W cb { vte := Vte.new, ws := { screen := s, events := ws1.events } } suffix) := by
  simp only [Parser.process, advance_ris p.vte h suffix, List.foldlM_append]
  cases (risPre p.vte).foldlM (perform W cb) p.ws with
  | error e => rfl
  | ok ws1 =>
    simp only [ok_bind, List.foldlM_cons, List.foldlM_nil, C17.ris_fresh_screen]
    cases Screen.new ws1.screen.grid.size ws1.screen.grid.scrollbackLen with
    | error e => rfl
    | ok s => rfl

/-- `ris_process_general` without a suffix -/
theorem ris_process_any (W : Nat → Option Nat) (cb : CbPolicy) (p : Parser) (h : VteClean p.vte) :
    p.process W cb [0x1B, 0x63] =
      ((risPre p.vte).foldlM (perform W cb) p.ws >>= fun ws1 =>
       Screen.new ws1.screen.grid.size ws1.screen.grid.scrollbackLen >>= fun s =>
       pure { vte := Vte.new, ws := { screen := s, events := ws1.events } }) := by
  rw [ris_process_general W cb p h []]
  simp only [Parser.process, C04.advance_nil Vte.new rfl, List.foldlM_nil, pure_bind']

/-- what `osc_dispatch(params)` reports -/
def oscEvents (params : List (List Nat)) : List Event :=
  match params with
  | [[48], s] => [.setWindowIconName s, .setWindowTitle s]
  | [[49], s] => [.setWindowIconName s]
  | [[50], s] => [.setWindowTitle s]
  | _ => [.unhandledOsc params]

/-- the parameters of the OSC string collected so far (what `osc_end` would dispatch now) -/
def pendingOsc (v : Vte) : List (List Nat) :=
  v.actionOscPutParam.oscParams.map
    (fun p => (v.actionOscPutParam.oscRaw.drop p.1).take (p.2 - p.1))

/-- **the events `ESC c` appends to the callback log**, by pre-state:
* pending partial UTF-8 character: `unhandled_char(U+FFFD)`;
* inside an OSC string: the events of that OSC (title / icon name / `unhandled_osc`);
* every other state: none. -/
def risEvents (v : Vte) : List Event :=
  match v.carry with
  | [] =>
    (match v.state with
     | .oscString => oscEvents (pendingOsc v)
     | _ => [])
  | _ :: _ => [.unhandledChar 0xFFFD]

theorem risEvents_of_carry (v : Vte) (h : v.carry ≠ []) : risEvents v = [.unhandledChar 0xFFFD] := by
  unfold risEvents
  cases hc : v.carry with
  | nil => exact absurd hc h
  | cons x xs => rfl

theorem risEvents_of_osc (v : Vte) (hc : v.carry = []) (hs : v.state = .oscString) :
    risEvents v = oscEvents (pendingOsc v) := by
  simp [risEvents, hc, hs]

theorem risEvents_of_other (v : Vte) (hc : v.carry = []) (hs : v.state ≠ .oscString) :
    risEvents v = [] := by
  unfold risEvents
  rw [hc]
  cases hst : v.state <;> first | rfl | exact absurd hst hs

/-- no action of `risPre v` touches the screen, so `perform` only reports it: `oscEvents` is the OSC clause of
`C18all.expectedEvents` and `pendingOsc` is `C18all.oscFields`, both by `rfl` -/
theorem risPre_emits (W : Nat → Option Nat) (cb : CbPolicy) (v : Vte) (ws : WS) :
    (risPre v).foldlM (perform W cb) ws = C18all.report cb (risEvents v) ws := by
  have one (a : Action) (h : C18all.changesScreen a = false) :
      [a].foldlM (perform W cb) ws = C18all.report cb (C18all.expectedEvents ws.screen a) ws :=
    (bind_pure _).trans (C18all.perform_reports_only W cb ws a h)
  unfold risPre risEvents
  cases v.carry with
  | cons x xs => exact one (.print Vte.REPLACEMENT) rfl
  | nil =>
    simp only [escPre]
    cases hs : v.state
    case oscString => exact one (.oscDispatch (pendingOsc v) false) rfl
    all_goals rfl

theorem risEvents_noResize (v : Vte) : ∀ e ∈ risEvents v, ∀ r c, e ≠ .resize r c := by
  intro e he r c
  unfold risEvents at he
  split at he
  · split at he
    · unfold oscEvents at he
      split at he <;> simp at he <;> (first | (rcases he with rfl | rfl <;> simp; done) | (subst he; simp))
    · simp at he
  · simp at he; subst he; simp

/-- a callback policy that touches the screen at most in `resize` (true of `cbNone` — Rust `()` — and of
`cbResize`; not of `cbProbe`, which sets the width on every event: `CbProbe.cbProbe_not_quiet`) -/
def CbQuiet (cb : CbPolicy) : Prop := ∀ e s, (∀ r c, e ≠ .resize r c) → cb e s = .ok s

theorem cbNone_quiet : CbQuiet cbNone := fun _ _ _ => rfl
theorem cbResize_quiet : CbQuiet cbResize := by
  intro e s h
  cases e with
  | resize r c => exact absurd rfl (h r c)
  | _ => rfl

theorem report_inv {W : Nat → Option Nat} {cb : CbPolicy} (hcb : C13.CbInv W cb) (evs : List Event) (ws : WS)
    (h : ∀ e ∈ evs, ∀ r c, e ≠ .resize r c) (hi : ScreenInv W ws.screen) :
    ∃ s1, ScreenInv W s1 ∧ C18all.report cb evs ws = .ok { screen := s1, events := ws.events ++ evs } := by
  obtain ⟨ws', e, i, -⟩ := C13.stepT_fold (S := fun _ => True) (fun w e => emit cb e w)
    (fun e he => C13.stepT_emit hcb (fun _ _ _ _ _ _ _ => trivial) e (C13.eventOk_of_ne_resize he)) evs h ws hi trivial
  exact ⟨ws'.screen, i, C18all.report_events cb evs ws ws' e ▸ e⟩

def afterRis (p : Parser) : Parser :=
  { vte := Vte.new,
    ws := { screen := C13.newScreen p.ws.screen.grid.size.rows p.ws.screen.grid.size.cols
                        p.ws.screen.grid.scrollbackLen,
            events := p.ws.events ++ risEvents p.vte } }

/-- **C17** (callbacks `()` / `cbResize` / anything that only acts on `resize`): from EVERY automaton state, with
any collected parameters, and from Ground with a pending partial UTF-8 character, `process(ESC c)` succeeds and
yields exactly `Screen::new(size, scrollback_len)` of the primary grid, a newly constructed automaton, and the
callback log extended by `risEvents p.vte`. -/
theorem ris_process_quiet (W : Nat → Option Nat) {cb : CbPolicy} (hq : CbQuiet cb) (p : Parser)
    (h : VteClean p.vte) (hr : 1 ≤ p.ws.screen.grid.size.rows) :
    p.process W cb [0x1B, 0x63] = .ok (afterRis p) := by
  rw [ris_process_any W cb p h, risPre_emits, C18all.report_quiet _ _ fun e he s => hq e s (risEvents_noResize p.vte e he)]
  simp only [ok_bind, C13.new_eq _ _ hr, pure_eq_ok, afterRis]

/-- the same for arbitrary total callbacks that keep the screen invariant (`CbInv`; they may e.g.
resize the screen while being told the window title): the events are the same; the new screen has
the size the callbacks left behind -/
theorem ris_process_cbInv {W : Nat → Option Nat} {cb : CbPolicy} (hcb : C13.CbInv W cb) (p : Parser)
    (h : VteClean p.vte) (hi : ScreenInv W p.ws.screen) :
    ∃ s1, ScreenInv W s1 ∧
      p.process W cb [0x1B, 0x63] =
        .ok { vte := Vte.new,
              ws := { screen := C13.newScreen s1.grid.size.rows s1.grid.size.cols s1.grid.scrollbackLen,
                      events := p.ws.events ++ risEvents p.vte } } := by
  obtain ⟨s1, i1, e1⟩ := report_inv hcb (risEvents p.vte) p.ws (risEvents_noResize p.vte) hi
  refine ⟨s1, i1, ?_⟩
  rw [ris_process_any W cb p h, risPre_emits, e1]
  simp only [ok_bind, C13.new_eq _ _ i1.grid.rows_pos, pure_eq_ok]

theorem parser_new_eq (rows cols sb : Nat) (hr : 1 ≤ rows) :
    Parser.new rows cols sb = .ok { vte := Vte.new, ws := { screen := C13.newScreen rows cols sb, events := [] } } := by
  simp [Parser.new, C13.new_eq ⟨rows, cols⟩ sb hr]

/-- **C17**: the parser after `ESC c` IS a newly constructed parser of the current
size and scrollback capacity, up to the contents of the (write-only) callback log: literally the same
automaton (`Vte.new`), literally the same screen; hence for every later input the same automaton
states, the same screens, the same appended events, the same failures. -/
theorem ris_then_fresh (W : Nat → Option Nat) {cb : CbPolicy} (hq : CbQuiet cb) (p : Parser)
    (h : VteClean p.vte) (hr : 1 ≤ p.ws.screen.grid.size.rows) :
    ∃ p' fresh, p.process W cb [0x1B, 0x63] = .ok p' ∧
      Parser.new p.ws.screen.grid.size.rows p.ws.screen.grid.size.cols p.ws.screen.grid.scrollbackLen = .ok fresh ∧
      p'.vte = Vte.new ∧ fresh.vte = Vte.new ∧ p'.ws.screen = fresh.ws.screen ∧
      p' = Parser.addPre (p.ws.events ++ risEvents p.vte) fresh ∧
      ∀ bytes, p'.process W cb bytes =
        (fresh.process W cb bytes >>= fun q => pure (Parser.addPre (p.ws.events ++ risEvents p.vte) q)) := by
  refine ⟨afterRis p, _, ris_process_quiet W hq p h hr, parser_new_eq _ _ _ hr, rfl, rfl, rfl, ?_, ?_⟩
  · simp [afterRis, Parser.addPre, addPre]
  · intro bytes
    rw [← process_frame]
    simp [afterRis, Parser.addPre, addPre]

/-- **C17 with a suffix in the same chunk**: `process(ESC c ++ suffix)` from any automaton state =
`process(suffix)` on `Parser::new(rows, cols, scrollback_len)`, with `p`'s log and `risEvents` in front
of the log -/
theorem ris_suffix (W : Nat → Option Nat) {cb : CbPolicy} (hq : CbQuiet cb) (p : Parser)
    (h : VteClean p.vte) (hr : 1 ≤ p.ws.screen.grid.size.rows) (suffix : List Nat) :
    p.process W cb ([0x1B, 0x63] ++ suffix) =
      (Parser.new p.ws.screen.grid.size.rows p.ws.screen.grid.size.cols p.ws.screen.grid.scrollbackLen >>= fun fresh =>
       fresh.process W cb suffix >>= fun q =>
       pure (Parser.addPre (p.ws.events ++ risEvents p.vte) q)) := by
  show p.process W cb (0x1B :: 0x63 :: suffix) = _
  rw [ris_process_general W cb p h suffix, risPre_emits,
    C18all.report_quiet _ _ fun e he s => hq e s (risEvents_noResize p.vte e he), parser_new_eq _ _ _ hr]
  simp only [ok_bind, C13.new_eq _ _ hr]
  rw [← process_frame]
  simp [Parser.addPre, addPre]


theorem applyOp_clean (W : Nat → Option Nat) (cb : CbPolicy) (p p' : Parser) (op : C13.Op)
    (h : VteClean p.vte) (e : C13.applyOp W cb p op = .ok p') : VteClean p'.vte := by
  cases op with
  | process bytes => exact clean_process W cb p p' bytes h e
  | _ =>
    -- `set_size`, `set_scrollback` do not touch the automaton
    obtain ⟨s, _, e2⟩ := bind_eq_ok.mp e
    cases e2
    exact h

/-- **every reachable parser satisfies `ParserInv` and `VteClean`**: any history of `process` /
`set_size` / `set_scrollback` calls from `Parser::new` (nothing on the way can fail) -/
theorem reachable_clean {W : Nat → Option Nat} (hW32 : W 32 = some 1) {cb : CbPolicy} (hcb : C13.CbInv W cb)
    (rows cols sb : Nat) (hr : 1 ≤ rows) (hc : 1 ≤ cols) (hr' : rows ≤ 65535) (hc' : cols ≤ 65535)
    (ops : List C13.Op) (hv : ∀ op ∈ ops, op.Valid) :
    ∃ p, (Parser.new rows cols sb >>= fun p0 => ops.foldlM (C13.applyOp W cb) p0) = .ok p ∧
      C13.ParserInv W p ∧ VteClean p.vte := by
  obtain ⟨p, e, i⟩ := C13.reachable_inv hW32 hcb rows cols sb hr hc hr' hc' ops hv
  refine ⟨p, e, i, ?_⟩
  rw [parser_new_eq rows cols sb hr] at e
  simp only [ok_bind] at e
  exact C12.MPred.iff.mp (C12.foldlM_pred (P := fun p => VteClean p.vte)
    ops _ (fun op _ p h => C12.MPred.iff.mpr fun p' e => applyOp_clean W cb p p' op h e) vteClean_new) p e

/-- **C17, in the words of the property.**  For every reachable parser `p` (any history of `process` /
`set_size` / `set_scrollback` from `Parser::new` — alternate screen, scroll regions, saved cursor,
scrolled view, resized, stopped in the middle of any escape / CSI / OSC / DCS sequence or of a UTF-8
character) and every suffix: `process(ESC c ++ suffix)` on `p` equals `process(suffix)` on
`Parser::new(rows, cols, cap)` with `(rows, cols) = p.screen().size()` and `cap` the primary grid's
`scrollback_len` — the same screen, the same automaton state, and the callback log is `p`'s log, then
`risEvents p.vte`, then exactly the events the fresh parser reports. -/
theorem ris_end_to_end {W : Nat → Option Nat} (hW32 : W 32 = some 1) {cb : CbPolicy} (hcb : C13.CbInv W cb)
    (hq : CbQuiet cb)
    (rows cols sb : Nat) (hr : 1 ≤ rows) (hc : 1 ≤ cols) (hr' : rows ≤ 65535) (hc' : cols ≤ 65535)
    (ops : List C13.Op) (hv : ∀ op ∈ ops, op.Valid) (suffix : List Nat) :
    ∃ p, (Parser.new rows cols sb >>= fun p0 => ops.foldlM (C13.applyOp W cb) p0) = .ok p ∧
      p.process W cb ([0x1B, 0x63] ++ suffix) =
        (Parser.new p.ws.screen.size.rows p.ws.screen.size.cols p.ws.screen.grid.scrollbackLen >>= fun fresh =>
         fresh.process W cb suffix >>= fun q =>
         pure (Parser.addPre (p.ws.events ++ risEvents p.vte) q)) := by
  obtain ⟨p, e, i, hcl⟩ := reachable_clean hW32 hcb rows cols sb hr hc hr' hc' ops hv
  refine ⟨p, e, ?_⟩
  rw [i.screen.size_eq_grid]
  exact ris_suffix W hq p hcl i.screen.grid.rows_pos suffix

/-- the same, read off as "same screen, same later events": if the fresh parser ends in `q`, then `p`
ends in a parser with `q`'s automaton state, `q`'s screen, and the log
`p.events ++ risEvents ++ q.events` -/
theorem ris_end_to_end_ok {W : Nat → Option Nat} {cb : CbPolicy} (hq : CbQuiet cb) (p : Parser)
    (hcl : VteClean p.vte) (hi : ScreenInv W p.ws.screen) (suffix : List Nat) (fresh q : Parser)
    (hf : Parser.new p.ws.screen.size.rows p.ws.screen.size.cols p.ws.screen.grid.scrollbackLen = .ok fresh)
    (hs : fresh.process W cb suffix = .ok q) :
    ∃ p', p.process W cb ([0x1B, 0x63] ++ suffix) = .ok p' ∧ p'.vte = q.vte ∧ p'.ws.screen = q.ws.screen ∧
      p'.ws.events = p.ws.events ++ risEvents p.vte ++ q.ws.events := by
  refine ⟨Parser.addPre (p.ws.events ++ risEvents p.vte) q, ?_, rfl, rfl, rfl⟩
  rw [ris_suffix W hq p hcl hi.grid.rows_pos suffix, ← hi.size_eq_grid, hf]
  simp only [ok_bind, hs, pure_eq_ok]


/-- the hypotheses of `ris_end_to_end` are satisfiable: the width table `W0`, the callbacks `()`, an
80x24 parser with 100 lines of scrollback, a history that stops inside an OSC string -/
example := ris_end_to_end (W := W0) (by decide) C13.cbNone_inv cbNone_quiet 24 80 100
  (by decide) (by decide) (by decide) (by decide)
  [.process [0x61, 0x1B, 0x5D, 0x32, 0x3B, 0x68], .setSize 10 20, .setScrollback 3]
  (by
    intro op hop
    simp only [List.mem_cons, List.mem_nil_iff, or_false] at hop
    rcases hop with rfl | rfl | rfl
    · intro b hb
      simp only [List.mem_cons, List.mem_nil_iff, or_false] at hb
      rcases hb with rfl | rfl | rfl | rfl | rfl | rfl <;> decide
    · exact ⟨by decide, by decide, by decide, by decide⟩
    · trivial)
  [0x5A]

theorem clean_reached (bytes : List Nat) : VteClean (Vte.new.advance bytes).1 :=
  clean_advance _ _ vteClean_new

/-- one test run: bring a 2x3 parser (capacity 5) into a state with `pre`, check the automaton state
with `chk`, then compare `ESC c ++ suffix` on it with `suffix` on a new parser, and the log with
`expected` -/
def risTest (pre suffix : List Nat) (chk : Vte → Bool) (expected : List Event) : M Bool := do
  let p0 ← Parser.new 2 3 5
  let p ← p0.process (fun _ => some 1) cbNone pre
  let p' ← p.process (fun _ => some 1) cbNone ([0x1B, 0x63] ++ suffix)
  let p1 ← p.process (fun _ => some 1) cbNone [0x1B, 0x63]
  let f ← Parser.new 2 3 5
  let f' ← f.process (fun _ => some 1) cbNone suffix
  pure (chk p.vte && decide (p'.ws.screen = f'.ws.screen) && decide (p'.vte = f'.vte) &&
    decide (risEvents p.vte = expected) &&
    decide (p'.ws.events = p.ws.events ++ expected ++ f'.ws.events) &&
    decide (p1 = afterRis p) && decide (p1.ws.screen = f.ws.screen) && decide (p1.vte = Vte.new))

/-- alternate screen active (`ESC[?1049h`), text on both screens, a scroll region, hidden cursor;
Ground: no event -/
theorem test_altScreen : isOkTrue (risTest
    [0x61, 0x62, 0x1B, 0x5B, 0x3F, 0x31, 0x30, 0x34, 0x39, 0x68, 0x78, 0x1B, 0x5B, 0x31, 0x3B, 0x31, 0x72,
     0x1B, 0x5B, 0x3F, 0x32, 0x35, 0x6C]
    [0x5A, 0x0A, 0x1B, 0x5B, 0x35, 0x6D, 0x07]
    (fun v => decide (v.state = .ground)) []) = true := by decide +kernel

/-- the pre-state of `test_altScreen` really is on the alternate screen -/
theorem test_altScreen_pre : isOkTrue (do
    let p0 ← Parser.new 2 3 5
    let p ← p0.process (fun _ => some 1) cbNone
      [0x61, 0x62, 0x1B, 0x5B, 0x3F, 0x31, 0x30, 0x34, 0x39, 0x68, 0x78]
    pure p.ws.screen.altScreen) = true := by decide +kernel

/-- in the middle of a CSI sequence (`ESC [ 3 1 ;`): state CsiParam, collected parameters; no event -/
theorem test_midCsi : isOkTrue (risTest
    [0x61, 0x1B, 0x5B, 0x33, 0x31, 0x3B]
    [0x5A, 0x1B, 0x5B, 0x32, 0x3B, 0x32, 0x48, 0x07]
    (fun v => decide (v.state = .csiParam) && decide (v.params ≠ [])) []) = true := by decide +kernel

/-- in the middle of a CSI sequence with an intermediate (`ESC [ ? 1 $`): state CsiIntermediate -/
theorem test_midCsiIntermediate : isOkTrue (risTest
    [0x1B, 0x5B, 0x3F, 0x31, 0x24]
    [0x5A]
    (fun v => decide (v.state = .csiIntermediate) && decide (v.ints ≠ [])) []) = true := by decide +kernel

/-- in the middle of an OSC string (`ESC ] 2 ; h i`): the pending OSC is dispatched first — one
`set_window_title("hi")` — and only then the reset -/
theorem test_midOsc : isOkTrue (risTest
    [0x61, 0x1B, 0x5D, 0x32, 0x3B, 0x68, 0x69]
    [0x5A, 0x1B, 0x5D, 0x31, 0x3B, 0x6B, 0x07]
    (fun v => decide (v.state = .oscString) && decide (v.oscRaw ≠ []))
    [.setWindowTitle [0x68, 0x69]]) = true := by decide +kernel

/-- OSC 0 pending: two events, icon name then title -/
theorem test_midOsc0 : isOkTrue (risTest
    [0x1B, 0x5D, 0x30, 0x3B, 0x68]
    [0x5A]
    (fun v => decide (v.state = .oscString))
    [.setWindowIconName [0x68], .setWindowTitle [0x68]]) = true := by decide +kernel

/-- a pending partial UTF-8 character (`E2 82` of U+20AC): `unhandled_char(U+FFFD)` first -/
theorem test_pendingUtf8 : isOkTrue (risTest
    [0x61, 0xE2, 0x82]
    [0x5A, 0xE2, 0x82, 0xAC]
    (fun v => decide (v.state = .ground) && decide (v.carry = [0xE2, 0x82]))
    [.unhandledChar 0xFFFD]) = true := by decide +kernel

/-- inside a DCS passthrough (`ESC P q x`): unhook, no event -/
theorem test_midDcs : isOkTrue (risTest
    [0x1B, 0x50, 0x71, 0x78]
    [0x5A]
    (fun v => decide (v.state = .dcsPassthrough)) []) = true := by decide +kernel

/-- right after a lone ESC, and after `ESC (` -/
theorem test_midEsc : isOkTrue (risTest [0x1B] [0x5A] (fun v => decide (v.state = .escape)) []) = true ∧
    isOkTrue (risTest [0x1B, 0x28] [0x5A] (fun v => decide (v.state = .escapeIntermediate)) []) = true := by
  constructor <;> decide +kernel

/-- after `set_size` and with a scrolled-back view: the new screen has the *current* size -/
theorem test_resized : isOkTrue (do
    let p0 ← Parser.new 2 3 5
    let p ← p0.process (fun _ => some 1) cbNone [0x61, 0x0A, 0x62, 0x0A, 0x63, 0x0A, 0x64]
    let s ← p.ws.screen.setSize 3 4
    let s ← s.setScrollback 2
    let p : Parser := { p with ws := { p.ws with screen := s } }
    let p' ← p.process (fun _ => some 1) cbNone [0x1B, 0x63, 0x5A]
    let f ← Parser.new 3 4 5
    let f' ← f.process (fun _ => some 1) cbNone [0x5A]
    pure (decide (p.ws.screen.scrollback = 2) && decide (p' = f'))) = true := by decide +kernel

/-- **why `VteClean` is needed (1)**: an (unreachable) automaton state in `Escape` with a collected
intermediate: `ESC c` is then NOT a RIS but `esc_dispatch(['('], 'c')` -/
theorem needs_esc_clause :
    (({ state := .escape, ints := [0x28] } : Vte).advance [0x1B, 0x63]).2 = [.escDispatch [0x28] false 99] := by
  decide +kernel

/-- **why `VteClean` is needed (2)**: an (unreachable) `Ground` state with a non-empty OSC buffer is
reset by `ESC c` to something that is not literally `Vte.new` -/
theorem needs_osc_clause :
    (({ oscRaw := [1] } : Vte).advance [0x1B, 0x63]).1 ≠ Vte.new := by
  decide +kernel

/-- **why `VteClean` is needed (3)**: an (unreachable) carry buffer that is not a truncated
character (`61` = 'a'): with `ESC c FF` in the chunk, `advance_partial_utf8` consumes the valid
prefix `a ESC c`, prints only its first character, and no RIS happens at all -/
theorem needs_carry_clause :
    (({ carry := [0x61] } : Vte).advance [0x1B, 0x63, 0xFF]).2 = [.print 0x61, .print 0xFFFD] := by
  decide +kernel

end Vt.C17any
