/-
  C19 (continued) — the emitted bytes are a function of the observable state.

  `RowSame` / `GridSame` / `ScreenSame`: equal sizes, cursor, wrap flags and *cell views* (length,
  flags, attributes, live bytes — what `Screen::cell()` exposes) of the live and of the visible rows.  Everything
  else may differ: stale bytes in the cells, the saved cursor and pen, the scroll region, origin mode, the inactive
  grid, the scrollback rows outside the window and the capacity.
  Observably equal screens emit identical bytes or fail identically (`*_same`; in a diff either argument may be
  replaced), and a screen diffed against itself or against a look-alike is the empty byte string (`*_self`,
  `*_look_alike`); `emitters_of_obs` is the same in terms of `obs`.
  `rows_formatted` compares `width` with the width of the PRIMARY grid, which `ScreenSame` does not mention, so
  `rows_formatted_same` also assumes that the two primary grids are equally wide (under `Inv` both grids of a
  screen have one size).
-/
import Vt.Props.C19
import Vt.Lemmas.ViewRel
import Vt.Lemmas.FmtStep
import Vt.Lemmas.Inv
import Vt.Spec.Obs
import Vt.Props.C02
import Vt.Props.C10
namespace Vt.C19
open Vt

theorem eq_congr {a1 a2 b1 b2 : Cell} (ha : SameView a1 a2) (hb : SameView b1 b2) : a1.eq b1 = a2.eq b2 := by
  have h1 : (a1.eq b1 = true) ↔ (a2.eq b2 = true) := by
    rw [eq_iff_view, eq_iff_view]
    unfold SameView at ha hb
    rw [ha, hb]
  cases h : a1.eq b1 <;> cases h' : a2.eq b2 <;> simp_all

theorem sameView_refl (c : Cell) : SameView c c := rfl

theorem fmtCellStep_congr (n row : Nat) (w : Bool) (st : Row.FmtSt) (col : Nat) {c1 c2 : Cell}
    (h : SameView c1 c2) (d : Bool) :
    Row.fmtCellStep n row w st col c1 d = Row.fmtCellStep n row w st col c2 d := by
  obtain ⟨h1, h2, h3, h4, h5, _⟩ := accessors_view c1 c2 h
  simp only [Row.fmtCellStep, h1, h2, h4, h5]

theorem diffStep_congr (n row : Nat) (w : Bool) (st : Row.FmtSt) {p q : Nat × (Cell × Cell)}
    (h : p.1 = q.1 ∧ SameView p.2.1 q.2.1 ∧ SameView p.2.2 q.2.2) :
    Row.diffStep n row w st p = Row.diffStep n row w st q := by
  obtain ⟨c1, x1, y1⟩ := p
  obtain ⟨c2, x2, y2⟩ := q
  obtain ⟨hc, hv, hw⟩ := h
  simp only at hc hv hw
  subst hc
  obtain ⟨_, h2, _⟩ := accessors_view x1 x2 hv
  simp only [Row.diffStep, h2, eq_congr hv hw, fmtCellStep_congr _ _ _ _ _ hv]

theorem fmtStep_congr (n row : Nat) (w : Bool) (st : Row.FmtSt) {p q : Nat × Cell}
    (h : p.1 = q.1 ∧ SameView p.2 q.2) : Row.fmtStep n row w st p = Row.fmtStep n row w st q :=
  diffStep_congr n row w st (p := (p.1, (p.2, Cell.new))) (q := (q.1, (q.2, Cell.new))) ⟨h.1, h.2, sameView_refl _⟩

def RowSame (r1 r2 : Row) : Prop := r1.wrapped = r2.wrapped ∧ ListRel SameView r1.cells r2.cells

theorem rowSame_refl (r : Row) : RowSame r r := ⟨rfl, listRel_refl sameView_refl _⟩

theorem rowSame_cols {r1 r2 : Row} (h : RowSame r1 r2) : r1.cols = r2.cols := listRel_length h.2

theorem getM_bind_congr₂ {β} {l1 l2 : List Cell} (h : ListRel SameView l1 l2) (site i : Nat) (k1 k2 : Cell → M β)
    (hk : ∀ a b, SameView a b → k1 a = k2 b) : (getM site l1 i >>= k1) = (getM site l2 i >>= k2) := by
  rcases listRel_getElem? i h with ⟨e1, e2⟩ | ⟨x, y, e1, e2, hxy⟩
  · simp [getM, e1, e2, panic]
  · simp [getM, e1, e2]; exact hk x y hxy

theorem getM_bind_congr {β} {l1 l2 : List Cell} (h : ListRel SameView l1 l2) (site i : Nat) (k : Cell → M β)
    (hk : ∀ a b, SameView a b → k a = k b) : (getM site l1 i >>= k) = (getM site l2 i >>= k) :=
  getM_bind_congr₂ h site i k k hk

theorem row_formatted_same {r1 r2 : Row} (h : RowSame r1 r2) (start width row : Nat) (w : Bool)
    (pp : Option Pos) (pa : Option Attrs) :
    r1.writeContentsFormatted start width row w pp pa = r2.writeContentsFormatted start width row w pp pa := by
  have hcols := rowSame_cols h
  have hfirst : r1.firstIsDefault start = r2.firstIsDefault start := by
    unfold Row.firstIsDefault
    rcases listRel_getElem? start h.2 with ⟨e1, e2⟩ | ⟨x, y, e1, e2, hxy⟩
    · rw [e1, e2]
    · rw [e1, e2]; exact eq_congr hxy (sameView_refl _)
  have hfold : ∀ n st, (Row.window r1.cells start width).foldlM (Row.fmtStep n row w) st =
      (Row.window r2.cells start width).foldlM (Row.fmtStep n row w) st := by
    intro n st
    exact foldlM_listRel (R := fun p q => p.1 = q.1 ∧ SameView p.2 q.2) (Row.fmtStep n row w)
      (fun s x y hxy => fmtStep_congr _ _ _ s hxy) st (listRel_window h.2 start width)
  simp only [Row.writeContentsFormatted, hfirst, hfold, hcols]

theorem diffStart_same {r1 r2 p1 p2 : Row} (h : RowSame r1 r2) (hp : RowSame p1 p2) (start row : Nat)
    (w pw : Bool) (pp : Pos) (pa : Attrs) :
    Row.diffStart r1 p1 start row w pw pp pa = Row.diffStart r2 p2 start row w pw pp pa := by
  have hcols := rowSame_cols h
  unfold Row.diffStart
  rcases listRel_getElem? start h.2 with ⟨e1, e2⟩ | ⟨x, y, e1, e2, hxy⟩
  · rw [e1, e2]
  · rcases listRel_getElem? start hp.2 with ⟨f1, f2⟩ | ⟨x', y', f1, f2, hxy'⟩
    · rw [e1, e2, f1, f2]
    · rw [e1, e2, f1, f2]
      obtain ⟨_, _, _, a4, _, _⟩ := accessors_view x y hxy
      obtain ⟨_, b2, _, _, b5, _⟩ := accessors_view x' y' hxy'
      simp only [eq_congr hxy hxy', hcols, a4, b2, b5]

theorem diffEnd_same {r1 r2 p1 p2 : Row} (h : RowSame r1 r2) (hp : RowSame p1 p2) (row : Nat) (st : Row.FmtSt) :
    Row.diffEnd r1 p1 row st = Row.diffEnd r2 p2 row st := by
  unfold Row.diffEnd
  rw [h.1, hp.1, rowSame_cols h]
  -- the two cells read (the last one, and the one the cursor ends on) are read through their views
  refine ite_congr rfl (fun _ => bind_congr fun c1 => getM_bind_congr₂ h.2 344 c1 _ _ fun x y hxy => ?_) fun _ => rfl
  rw [(accessors_view x y hxy).2.2.1]
  extract_lets typeEnd1 typeEnd2
  have htype : typeEnd1 = typeEnd2 := funext fun endPos =>
    getM_bind_congr₂ h.2 346 _ _ _ fun x' y' hxy' => by
      obtain ⟨a1, a2, _, a4, a5, _⟩ := accessors_view x' y' hxy'
      simp only [a1, a2, a4, a5]
  rw [htype]

theorem row_diff_same {r1 r2 p1 p2 : Row} (h : RowSame r1 r2) (hp : RowSame p1 p2) (start width row : Nat)
    (w pw : Bool) (pp : Pos) (pa : Attrs) :
    r1.writeContentsDiff p1 start width row w pw pp pa = r2.writeContentsDiff p2 start width row w pw pp pa := by
  have hcols := rowSame_cols h
  have hfold : ∀ n st, (Row.window (r1.cells.zip p1.cells) start width).foldlM (Row.diffStep n row w) st =
      (Row.window (r2.cells.zip p2.cells) start width).foldlM (Row.diffStep n row w) st := by
    intro n st
    refine foldlM_listRel (R := fun p q => p.1 = q.1 ∧ SameView p.2.1 q.2.1 ∧ SameView p.2.2 q.2.2)
      (Row.diffStep n row w) (fun s x y hxy => diffStep_congr _ _ _ s hxy) st ?_
    exact listRel_window (listRel_zip h.2 hp.2) start width
  simp only [Row.writeContentsDiff, diffStart_same h hp, hfold, hcols, diffEnd_same h hp]

theorem fmtRowsLoop_same (cols : Nat) {rs1 rs2 : List Row} (h : ListRel RowSame rs1 rs2) :
    ∀ (i : Nat) (w : Bool) (pp : Pos) (pa : Attrs) (out : List Nat),
      Grid.fmtRowsLoop cols rs1 i w pp pa out = Grid.fmtRowsLoop cols rs2 i w pp pa out :=
  listRel_ind (P := fun rs1 rs2 => ∀ i w pp pa out, Grid.fmtRowsLoop cols rs1 i w pp pa out = Grid.fmtRowsLoop cols rs2 i w pp pa out)
    (fun _ _ _ _ _ => rfl)
    (fun hr _ ih i w pp pa out => by
      simp only [Grid.fmtRowsLoop, row_formatted_same hr, hr.1]
      exact bind_congr fun _ => ih ..) h

theorem diffRowsLoop_same (cols : Nat) {rs1 rs2 ps1 ps2 : List Row} (h : ListRel RowSame rs1 rs2)
    (hp : ListRel RowSame ps1 ps2) : ∀ (i : Nat) (w pw : Bool) (pp : Pos) (pa : Attrs) (out : List Nat),
      Grid.diffRowsLoop cols (rs1.zip ps1) i w pw pp pa out = Grid.diffRowsLoop cols (rs2.zip ps2) i w pw pp pa out :=
  listRel_ind (P := fun zs1 zs2 => ∀ i w pw pp pa out,
      Grid.diffRowsLoop cols zs1 i w pw pp pa out = Grid.diffRowsLoop cols zs2 i w pw pp pa out)
    (fun _ _ _ _ _ _ => rfl)
    (fun hr _ ih i w pw pp pa out => by
      simp only [Grid.diffRowsLoop, row_diff_same hr.1 hr.2, hr.1.1, hr.2.1]
      exact bind_congr fun _ => ih ..) (listRel_zip h hp)

structure GridSame (g1 g2 : Grid) : Prop where
  size : g1.size = g2.size
  pos : g1.pos = g2.pos
  rows : ListRel RowSame g1.rows g2.rows

theorem drawingCell_rel {g1 g2 : Grid} (h : GridSame g1 g2) (p : Pos) :
    (g1.drawingCell p = none ∧ g2.drawingCell p = none) ∨
      ∃ x y, g1.drawingCell p = some x ∧ g2.drawingCell p = some y ∧ SameView x y := by
  simp only [Grid.drawingCell, Grid.drawingRow, Row.get]
  rcases listRel_getElem? p.row h.rows with ⟨e1, e2⟩ | ⟨r1, r2, e1, e2, hr⟩
  · left; simp [e1, e2]
  · rcases listRel_getElem? p.col hr.2 with ⟨f1, f2⟩ | ⟨x, y, f1, f2, hxy⟩
    · left; simp [e1, e2, f1, f2]
    · right; exact ⟨x, y, by simp [e1, f1], by simp [e2, f2], hxy⟩

theorem drawingCellM_bind_congr {β} {g1 g2 : Grid} (h : GridSame g1 g2) (site : Nat) (p : Pos) (k1 k2 : Cell → M β)
    (hk : ∀ a b, SameView a b → k1 a = k2 b) :
    (g1.drawingCellM site p >>= k1) = (g2.drawingCellM site p >>= k2) := by
  unfold Grid.drawingCellM
  rcases drawingCell_rel h p with ⟨e1, e2⟩ | ⟨x, y, e1, e2, hxy⟩
  · simp [e1, e2, panic, bind, Except.bind]
  · simp [e1, e2]; exact hk x y hxy

theorem endOfRowPos_same {g1 g2 : Grid} (h : GridSame g1 g2) (row : Nat) :
    g1.endOfRowPos row = g2.endOfRowPos row := by
  unfold Grid.endOfRowPos
  rw [h.size]
  refine bind_congr fun c1 => drawingCellM_bind_congr h 412 _ _ _ fun a b hab => ?_
  rw [(accessors_view a b hab).2.2.1]

theorem cursorSearch_same {g1 g2 : Grid} (h : GridSame g1 g2) (pp : Option Pos) (pa : Attrs) :
    ∀ (is : List Nat), g1.cursorSearch pp pa is = g2.cursorSearch pp pa is
  | [] => rfl
  | i :: is => by
    simp only [Grid.cursorSearch, endOfRowPos_same h, h.size, h.pos]
    refine bind_congr fun pos => drawingCellM_bind_congr h 414 _ _ _ fun a b hab => ?_
    obtain ⟨a1, _, _, a4, a5, _⟩ := accessors_view a b hab
    simp only [a1, a4, a5, cursorSearch_same h pp pa is]

theorem cursor_same {g1 g2 : Grid} (h : GridSame g1 g2) (pp : Option Pos) (pa : Option Attrs) :
    g1.writeCursorPositionFormatted pp pa = g2.writeCursorPositionFormatted pp pa := by
  unfold Grid.writeCursorPositionFormatted
  simp only [h.size, h.pos, endOfRowPos_same h, cursorSearch_same h]
  split
  · refine bind_congr fun pos => drawingCellM_bind_congr h 415 _ _ _ fun a b hab => ?_
    obtain ⟨a1, _, _, a4, a5, _⟩ := accessors_view a b hab
    simp only [a1, a4, a5]
    split
    · rfl
    · refine bind_congr fun found => ?_
      cases found with
      | some out => rfl
      | none =>
        refine bind_congr fun c1 => drawingCellM_bind_congr h 417 _ _ _ fun a' b' hab' => ?_
        rw [(accessors_view a' b' hab').2.2.2.1]
  · rfl

def VisSame (g1 g2 : Grid) : Prop :=
  (∃ e, g1.visibleRows = .error e ∧ g2.visibleRows = .error e) ∨
  (∃ v1 v2, g1.visibleRows = .ok v1 ∧ g2.visibleRows = .ok v2 ∧ ListRel RowSame v1 v2)

theorem visSame_of_scrollback {g1 g2 : Grid} (h : GridSame g1 g2)
    (hs : ListRel RowSame g1.scrollback g2.scrollback) (ho : g1.scrollbackOffset = g2.scrollbackOffset) :
    VisSame g1 g2 := by
  unfold VisSame Grid.visibleRows
  simp only [listRel_length hs, listRel_length h.rows, ho]
  cases e : subM 409 g2.scrollback.length g2.scrollbackOffset with
  | error e' => left; exact ⟨e', rfl, rfl⟩
  | ok sk =>
    right
    exact ⟨_, _, rfl, rfl, listRel_append (listRel_take _ (listRel_drop _ hs)) (listRel_take _ h.rows)⟩

theorem visibleRows_offset0 (g : Grid) (h : g.scrollbackOffset = 0) : g.visibleRows = .ok g.rows := by
  simp [Grid.visibleRows, h, subM, pure, Except.pure, bind, Except.bind]

theorem visSame_of_offset0 {g1 g2 : Grid} (h : GridSame g1 g2)
    (h1 : g1.scrollbackOffset = 0) (h2 : g2.scrollbackOffset = 0) : VisSame g1 g2 :=
  Or.inr ⟨_, _, visibleRows_offset0 g1 h1, visibleRows_offset0 g2 h2, h.rows⟩

/-- two screens that look the same: same cursor, size, visible and live cell views and wrap flags on
the active grid, same pen, cursor visibility and input modes.  Nothing else (stale cell bytes, the
inactive grid, saved cursors, scroll region, scrollback beyond the window, …) is mentioned. -/
structure ScreenSame (s t : Screen) : Prop where
  grid : GridSame s.cur t.cur
  vis : VisSame s.cur t.cur
  hide : s.hideCursor = t.hideCursor
  pen : s.attrs = t.attrs
  modes : s.appKeypad = t.appKeypad ∧ s.appCursor = t.appCursor ∧ s.bracketedPaste = t.bracketedPaste ∧
         s.mouseMode = t.mouseMode ∧ s.mouseEnc = t.mouseEnc

theorem visSame_bind {β} {g1 g2 : Grid} (hv : VisSame g1 g2) (k1 k2 : List Row → M β)
    (hk : ∀ v1 v2, ListRel RowSame v1 v2 → k1 v1 = k2 v2) : (g1.visibleRows >>= k1) = (g2.visibleRows >>= k2) := by
  rcases hv with ⟨e, e1, e2⟩ | ⟨v1, v2, e1, e2, hv⟩
  · rw [e1, e2]; rfl
  · rw [e1, e2]; exact hk v1 v2 hv

theorem grid_formatted_same {g1 g2 : Grid} (h : GridSame g1 g2) (hv : VisSame g1 g2) :
    g1.writeContentsFormatted = g2.writeContentsFormatted :=
  visSame_bind hv _ _ fun v1 v2 hv => by simp only [h.size, fmtRowsLoop_same g2.size.cols hv, cursor_same h]

theorem grid_diff_same {g1 g2 p1 p2 : Grid} (h : GridSame g1 g2) (hv : VisSame g1 g2)
    (hp : GridSame p1 p2) (hpv : VisSame p1 p2) (pa : Attrs) :
    g1.writeContentsDiff p1 pa = g2.writeContentsDiff p2 pa :=
  visSame_bind hv _ _ fun v1 v2 hv => visSame_bind hpv _ _ fun w1 w2 hw => by
    simp only [h.size, hp.pos, diffRowsLoop_same g2.size.cols hv hw, cursor_same h]

/-- **C19** `contents_formatted` depends only on what the screen looks like -/
theorem contents_formatted_same {s t : Screen} (h : ScreenSame s t) :
    s.contentsFormatted = t.contentsFormatted := by
  simp only [Screen.contentsFormatted, Screen.writeContentsFormatted, grid_formatted_same h.grid h.vis,
    h.hide, h.pen]

/-- **C19** `state_formatted` depends only on what the screen looks like -/
theorem state_formatted_same {s t : Screen} (h : ScreenSame s t) :
    s.stateFormatted = t.stateFormatted := by
  rw [state_formatted_concat, state_formatted_concat, contents_formatted_same h, input_mode_formatted_obs s t h.modes]

/-- **C19** `cursor_state_formatted` depends only on what the screen looks like -/
theorem cursor_state_formatted_same {s t : Screen} (h : ScreenSame s t) :
    s.cursorStateFormatted = t.cursorStateFormatted := by
  simp only [Screen.cursorStateFormatted, cursor_same h.grid, h.hide]

theorem rowsFormattedLoop_same (fw : Bool) (start width : Nat) {rs1 rs2 : List Row} (h : ListRel RowSame rs1 rs2) :
    ∀ (i : Nat) (w : Bool),
      Screen.rowsFormattedLoop fw start width rs1 i w = Screen.rowsFormattedLoop fw start width rs2 i w :=
  listRel_ind (P := fun rs1 rs2 => ∀ i w,
      Screen.rowsFormattedLoop fw start width rs1 i w = Screen.rowsFormattedLoop fw start width rs2 i w)
    (fun _ _ => rfl)
    (fun hr _ ih i w => by simp only [Screen.rowsFormattedLoop, row_formatted_same hr, hr.1, ih]) h

/-- **C19** `rows_formatted(start, width)` depends only on what the screen looks like
(`s.grid.size = s.cur.size` is part of `Inv`) -/
theorem rows_formatted_same {s t : Screen} (h : ScreenSame s t) (hc : s.grid.size.cols = t.grid.size.cols)
    (start width : Nat) : s.rowsFormatted start width = t.rowsFormatted start width := by
  unfold Screen.rowsFormatted
  rw [hc]
  exact visSame_bind h.vis _ _ fun v1 v2 hv => rowsFormattedLoop_same _ start width hv 0 false

/-- **C19** `contents_diff` depends only on what the two screens look like -/
theorem contents_diff_same {s t p q : Screen} (h : ScreenSame s t) (hp : ScreenSame p q) :
    s.contentsDiff p = t.contentsDiff q := by
  simp only [Screen.contentsDiff, Screen.writeContentsDiff,
    grid_diff_same h.grid h.vis hp.grid hp.vis, h.hide, hp.hide, h.pen, hp.pen]

/-- **C19** `state_diff` depends only on what the two screens look like -/
theorem state_diff_same {s t p q : Screen} (h : ScreenSame s t) (hp : ScreenSame p q) :
    s.stateDiff p = t.stateDiff q := by
  have := contents_diff_same h hp
  simp only [Screen.contentsDiff] at this
  simp only [Screen.stateDiff, this, Screen.writeInputModeDiff, h.modes.1, h.modes.2.1,
    h.modes.2.2.1, h.modes.2.2.2.1, h.modes.2.2.2.2, hp.modes.1, hp.modes.2.1,
    hp.modes.2.2.1, hp.modes.2.2.2.1, hp.modes.2.2.2.2]

theorem rowsDiffLoop_same (start width : Nat) {rs1 rs2 ps1 ps2 : List Row} (h : ListRel RowSame rs1 rs2)
    (hp : ListRel RowSame ps1 ps2) : ∀ (i : Nat),
      Screen.rowsDiffLoop start width (rs1.zip ps1) i = Screen.rowsDiffLoop start width (rs2.zip ps2) i :=
  listRel_ind (P := fun zs1 zs2 => ∀ i, Screen.rowsDiffLoop start width zs1 i = Screen.rowsDiffLoop start width zs2 i)
    (fun _ => rfl)
    (fun hr _ ih i => by simp only [Screen.rowsDiffLoop, row_diff_same hr.1 hr.2, ih]) (listRel_zip h hp)

/-- **C19** `rows_diff(prev, start, width)` depends only on what the two screens look like -/
theorem rows_diff_same {s t p q : Screen} (h : ScreenSame s t) (hp : ScreenSame p q) (start width : Nat) :
    s.rowsDiff p start width = t.rowsDiff q start width := by
  exact visSame_bind h.vis _ _ fun v1 v2 hv => visSame_bind hp.vis _ _ fun w1 w2 hw =>
    rowsDiffLoop_same start width hv hw 0

theorem cell_eq_self (c : Cell) : c.eq c = true := (eq_iff_view c c).2 rfl

theorem diffStep_eq (n row : Nat) (w : Bool) (st : Row.FmtSt) (col : Nat) (c p : Cell)
    (he : st.erase = none) (hcp : c.eq p = true) :
    ∃ b, Row.diffStep n row w st (col, (c, p)) = .ok { st with prevWasWide := b } := by
  unfold Row.diffStep
  by_cases hw : st.prevWasWide = true
  · simp only [hw, ↓reduceIte]; exact ⟨false, rfl⟩
  · simp only [hw, Bool.false_eq_true, ↓reduceIte, Row.fmtCellStep, he, hcp, Bool.not_true, pure_bind']
    exact ⟨c.isWide, rfl⟩

theorem diffFold_eq (n row : Nat) (w : Bool) : ∀ (l : List (Nat × (Cell × Cell))) (st : Row.FmtSt),
    (∀ p ∈ l, p.2.1.eq p.2.2 = true) → st.erase = none →
    ∃ b, l.foldlM (Row.diffStep n row w) st = .ok { st with prevWasWide := b }
  | [], st, _, _ => ⟨st.prevWasWide, rfl⟩
  | (col, (c, p)) :: l, st, h, he => by
    obtain ⟨b, e⟩ := diffStep_eq n row w st col c p he (h (col, (c, p)) (List.mem_cons_self ..))
    obtain ⟨b', e'⟩ := diffFold_eq n row w l { st with prevWasWide := b }
      (fun q hq => h q (List.mem_cons_of_mem _ hq)) he
    exact ⟨b', by simp only [List.foldlM_cons, e, ok_bind, e']⟩

theorem diffStart_self (r : Row) (start row : Nat) (w : Bool) (pp : Pos) (pa : Attrs) :
    Row.diffStart r r start row w w pp pa = .ok ⟨false, pp, pa, none, []⟩ :=
  C03.diffStart_quiet r r start row w w pp pa fun _ _ _ _ => by cases w <;> rfl

theorem row_diff_self (r : Row) (start width row : Nat) (w : Bool) (pp : Pos) (pa : Attrs) :
    r.writeContentsDiff r start width row w w pp pa = .ok ([], pp, pa) := by
  obtain ⟨b, e⟩ := diffFold_eq r.cols row w (Row.window (r.cells.zip r.cells) start width)
    { prevWasWide := false, prevPos := pp, prevAttrs := pa, erase := none, out := [] }
    (fun p hp => by
      have h := List.getElem?_zip_eq_some.mp (C03.mem_window hp)
      rw [Option.some.inj (h.1.symm.trans h.2)]; exact cell_eq_self _) rfl
  unfold Row.writeContentsDiff
  rw [diffStart_self, ok_bind, e, ok_bind]
  exact C03.diffEnd_flag_kept r r row _ rfl

theorem row_diff_look_alike {r p : Row} (h : RowSame r p) (start width row : Nat) (w : Bool) (pp : Pos)
    (pa : Attrs) : r.writeContentsDiff p start width row w w pp pa = .ok ([], pp, pa) := by
  rw [← row_diff_self r start width row w pp pa]
  exact (row_diff_same (rowSame_refl r) h start width row w w pp pa).symm

theorem diffRowsLoop_self (cols : Nat) : ∀ (rs : List Row) (i : Nat) (w : Bool) (pp : Pos) (pa : Attrs)
    (out : List Nat), Grid.diffRowsLoop cols (rs.zip rs) i w w pp pa out = .ok (out, pp, pa)
  | [], _, _, _, _, _ => rfl
  | r :: rs, i, w, pp, pa, out => by
    simp only [List.zip_cons_cons, Grid.diffRowsLoop, row_diff_self, ok_bind, List.append_nil]
    exact diffRowsLoop_self cols rs _ _ _ _ _

theorem moveFromTo_self (p : Pos) : Term.moveFromTo p p = [] := by
  simp [Term.moveFromTo]

theorem gridSame_refl (g : Grid) : GridSame g g :=
  ⟨rfl, rfl, listRel_refl rowSame_refl _⟩

theorem visSame_refl (g : Grid) (h : g.scrollbackOffset ≤ g.scrollback.length) : VisSame g g := by
  obtain ⟨v, e⟩ := C03.visibleRows_total g h
  exact Or.inr ⟨v, v, e, e, listRel_refl rowSame_refl _⟩

theorem screenSame_refl (s : Screen) (h : s.cur.scrollbackOffset ≤ s.cur.scrollback.length) : ScreenSame s s :=
  ⟨gridSame_refl _, visSame_refl _ h, rfl, rfl, rfl, rfl, rfl, rfl, rfl⟩

theorem cursor_self (g : Grid) (pa : Option Attrs) : g.writeCursorPositionFormatted (some g.pos) pa = .ok [] := by
  unfold Grid.writeCursorPositionFormatted
  exact (if_neg (by simp)).trans (congrArg Except.ok (moveFromTo_self g.pos))

theorem grid_diff_self (g : Grid) (h : g.scrollbackOffset ≤ g.scrollback.length) (pa : Attrs) :
    g.writeContentsDiff g pa = .ok ([], pa) := by
  obtain ⟨v, e⟩ := C03.visibleRows_total g h
  simp only [Grid.writeContentsDiff, e, ok_bind, diffRowsLoop_self, cursor_self]
  rfl

/-- **C19** a screen diffed against itself is the empty byte string
(`scrollbackOffset ≤ scrollback.length` is part of `Inv`) -/
theorem contents_diff_self (s : Screen) (h : s.cur.scrollbackOffset ≤ s.cur.scrollback.length) :
    s.contentsDiff s = .ok [] := by
  simp only [Screen.contentsDiff, Screen.writeContentsDiff, grid_diff_self _ h, ok_bind, bne_self_eq_false,
    Bool.false_eq_true, ↓reduceIte, attrs_diff_self, List.append_nil]
  rfl

/-- **C19** `state_diff` of a screen against itself is the empty byte string -/
theorem state_diff_self (s : Screen) (h : s.cur.scrollbackOffset ≤ s.cur.scrollback.length) :
    s.stateDiff s = .ok [] := by
  rw [state_diff_concat, contents_diff_self s h, (C10.input_mode_diff_empty_iff s s).mpr rfl]
  rfl

/-- **C19** equal-looking screens diff to nothing: whatever else differs between `s` and `t`
(stale cell bytes, inactive grid, saved cursors, margins, hidden scrollback, …),
`s.contents_diff(t)` is empty -/
theorem contents_diff_look_alike {s t : Screen} (h : ScreenSame s t)
    (hs : s.cur.scrollbackOffset ≤ s.cur.scrollback.length) : s.contentsDiff t = .ok [] := by
  rw [← contents_diff_self s hs]
  exact (contents_diff_same (screenSame_refl s hs) h).symm

/-- **C19** equal-looking screens: `state_diff` is empty -/
theorem state_diff_look_alike {s t : Screen} (h : ScreenSame s t)
    (hs : s.cur.scrollbackOffset ≤ s.cur.scrollback.length) : s.stateDiff t = .ok [] := by
  rw [← state_diff_self s hs]
  exact (state_diff_same (screenSame_refl s hs) h).symm

/-! ### in terms of `obs` (DESIGN §5.1), for live (not scrolled-back) screens satisfying `Inv` -/

theorem sameView_of_cellObs {a b : Cell} (ha : a.len ≤ a.contents.length) (hb : b.len ≤ b.contents.length)
    (h : cellObs a = cellObs b) : SameView a b := by
  simp only [cellObs, CellObs.mk.injEq] at h
  obtain ⟨h1, h2, h3, h4⟩ := h
  have hl := congrArg List.length h1
  simp only [List.length_take] at hl
  have : a.len = b.len := by omega
  simp only [SameView, view, View.mk.injEq]
  exact ⟨this, h2, h3, h4, h1⟩

theorem cells_same_of_obs {l1 l2 : List Cell} (h1 : ∀ c ∈ l1, c.len ≤ c.contents.length)
    (h2 : ∀ c ∈ l2, c.len ≤ c.contents.length) (h : l1.map cellObs = l2.map cellObs) : ListRel SameView l1 l2 :=
  listRel_mono_mem (listRel_of_map_eq cellObs h) fun a ha b hb => sameView_of_cellObs (h1 a ha) (h2 b hb)

theorem rows_same_of_obs {l1 l2 : List Row} (h1 : ∀ r ∈ l1, ∀ c ∈ r.cells, c.len ≤ c.contents.length)
    (h2 : ∀ r ∈ l2, ∀ c ∈ r.cells, c.len ≤ c.contents.length)
    (h : l1.map (fun r => r.cells.map cellObs) = l2.map (fun r => r.cells.map cellObs))
    (hw : l1.map (fun r => r.wrapped) = l2.map (fun r => r.wrapped)) : ListRel RowSame l1 l2 :=
  listRel_mono_mem (listRel_of_map_eq (fun r => (r.cells.map cellObs, r.wrapped))
      (by rw [← List.zip_map', h, hw, List.zip_map']))
    fun a ha b hb e => ⟨(Prod.mk.inj e).2, cells_same_of_obs (h1 a ha) (h2 b hb) (Prod.mk.inj e).1⟩

theorem inv_cell_len {W : Nat → Option Nat} {s : Screen} (h : Inv W s) :
    ∀ r ∈ s.cur.rows, ∀ c ∈ r.cells, c.len ≤ c.contents.length := by
  intro r hr c hc
  have hg := ((inv_iff W s).mp h).cur.1
  have hrow := (hg.row_ok r hr).2
  have hcell := ((rowOk_iff W r).mp hrow).2.cells_ok c hc
  obtain ⟨a, b, _⟩ := cellOk_fields W hcell
  omega

theorem screenSame_of_obs {W : Nat → Option Nat} {s t : Screen} (hs : Inv W s) (ht : Inv W t)
    (hs0 : s.cur.scrollbackOffset = 0) (ht0 : t.cur.scrollbackOffset = 0) (h : obs s = obs t) :
    ScreenSame s t := by
  simp only [obs, visibleRows_offset0 _ hs0, visibleRows_offset0 _ ht0, ok_bind, pure, Except.pure,
    Except.ok.injEq, Obs.mk.injEq, Prod.mk.injEq] at h
  obtain ⟨h1, h2, h3, h4, h5, h6, h7⟩ := h
  have hg : GridSame s.cur t.cur := ⟨h1, h4, rows_same_of_obs (inv_cell_len hs) (inv_cell_len ht) h2 h3⟩
  exact ⟨hg, visSame_of_offset0 hg hs0 ht0, h5, h6, h7⟩

/-- **C19** (in terms of `obs`) live screens with equal observable state emit identical
`contents_formatted`, `state_formatted`, `cursor_state_formatted`, `rows_formatted`, and diff to nothing -/
theorem emitters_of_obs {W : Nat → Option Nat} {s t : Screen} (hs : Inv W s) (ht : Inv W t)
    (hs0 : s.cur.scrollbackOffset = 0) (ht0 : t.cur.scrollbackOffset = 0) (h : obs s = obs t) :
    s.contentsFormatted = t.contentsFormatted ∧ s.stateFormatted = t.stateFormatted ∧
    s.cursorStateFormatted = t.cursorStateFormatted ∧
    (∀ start width, s.rowsFormatted start width = t.rowsFormatted start width) ∧
    s.contentsDiff t = .ok [] ∧ s.stateDiff t = .ok [] := by
  have hst := screenSame_of_obs hs ht hs0 ht0 h
  have hc : s.grid.size.cols = t.grid.size.cols := by
    rw [← ((inv_iff W s).mp hs).size_eq_grid, ← ((inv_iff W t).mp ht).size_eq_grid]
    exact congrArg Size.cols hst.grid.size
  have hoff : s.cur.scrollbackOffset ≤ s.cur.scrollback.length := by omega
  exact ⟨contents_formatted_same hst, state_formatted_same hst, cursor_state_formatted_same hst,
    fun a b => rows_formatted_same hst hc a b, contents_diff_look_alike hst hoff,
    state_diff_look_alike hst hoff⟩

/-- the premises of `emitters_of_obs` are satisfiable by two screens that differ internally: "a" typed on
a fresh screen, against "é", carriage return, "a" (leaves a stale byte in the first cell) with a scroll
region and a saved cursor set on the way (kernel-evaluated; a test of the model) -/
theorem emitters_of_obs_nonvacuous :
    isOkTrue (do
      let p ← C02.run 3 3 0 [[97]]
      let q ← C02.run 3 3 0 [[0xC3, 0xA9, 0x1b, 55, 13, 0x1b, 0x5b, 0x31, 0x3b, 0x32, 0x72, 97]]
      let a ← obs p.screen
      let b ← obs q.screen
      pure (a == b && p.screen.cur.rows != q.screen.cur.rows && p.screen.cur.scrollBottom != q.screen.cur.scrollBottom
            && invB W0 p.screen && invB W0 q.screen
            && p.screen.cur.scrollbackOffset == 0 && q.screen.cur.scrollbackOffset == 0)) = true := by
  decide +kernel

end Vt.C19
