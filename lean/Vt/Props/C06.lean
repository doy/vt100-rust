/-
  C06 — cursor movement and addressing follow xterm semantics and never touch cells.

  Every theorem has the form `op = ok { g with pos := … }` (and, for DECSTBM / origin
  mode, the region / origin fields): a whole-record equality, so "no cell, no wrap flag,
  not the pen" is part of the statement, for every grid with at least one row and column,
  every cursor position (including the pending-wrap column) and every parameter value.
  `Screen`-level versions follow through `modifyGrid` (`modifyGrid_ok_of`): only the active grid changes.
-/
import Vt.Lemmas.Grid
namespace Vt.C06
open Vt

variable (g : Grid)

def Sized (g : Grid) : Prop := 1 ≤ g.size.rows ∧ 1 ≤ g.size.cols

theorem bs_spec : g.colDec 1 = { g with pos := ⟨g.pos.row, g.pos.col - 1⟩ } := rfl

theorem cub_spec (n : Nat) : g.colDec n = { g with pos := ⟨g.pos.row, g.pos.col - n⟩ } := rfl

/-- CHA, `n` already decremented -/
theorem cha_spec (h : Sized g) (n : Nat) :
    g.colSet n = .ok { g with pos := ⟨g.pos.row, min n (g.size.cols - 1)⟩ } :=
  colClamp_spec _ h.2

theorem cr_spec (h : Sized g) : g.colSet 0 = .ok { g with pos := ⟨g.pos.row, 0⟩ } := by
  have := cha_spec g h 0
  rwa [Nat.zero_min] at this

theorem ht_spec (h : Sized g) :
    g.colTab = .ok { g with pos := ⟨g.pos.row, min (g.pos.col - g.pos.col % 8 + 8) (g.size.cols - 1)⟩ } :=
  colClamp_spec _ h.2

/-- 65535: u16 saturation, beyond any screen -/
theorem cuf_spec (h : Sized g) (n : Nat) :
    g.colIncClamp n = .ok { g with pos := ⟨g.pos.row, min (min (g.pos.col + n) 65535) (g.size.cols - 1)⟩ } :=
  colClamp_spec _ h.2

/-- the row CUU n ends on: up by n, stopping at line 0, or at the top margin when the move
starts inside the scroll region -/
def cuuRow (g : Grid) (n : Nat) : Nat :=
  if g.inScrollRegion && g.pos.row - n < g.scrollTop then g.scrollTop else g.pos.row - n

theorem cuu_spec (n : Nat) : g.rowDecClamp n = { g with pos := ⟨cuuRow g n, g.pos.col⟩ } :=
  rowClampTop_spec _ _

/-- the row CUD n ends on: down by n, stopping at the last line, or at the bottom margin when
the move starts inside the scroll region -/
def cudRow (g : Grid) (n : Nat) : Nat :=
  min (min (g.pos.row + n) 65535) (if g.inScrollRegion then g.scrollBottom else g.size.rows - 1)

theorem cud_spec (h : Sized g) (n : Nat) :
    g.rowIncClamp n = .ok { g with pos := ⟨cudRow g n, g.pos.col⟩ } := by
  simp only [Grid.rowIncClamp]
  rw [rowClampBottom_spec _ _ (by exact h.1)]
  rfl

theorem cnl_spec (h : Sized g) (n : Nat) :
    g.cnl n = .ok { g with pos := ⟨cudRow g n, 0⟩ } := by
  simp only [Grid.cnl, cr_spec g h, ok_bind]
  exact cud_spec { g with pos := ⟨g.pos.row, 0⟩ } h n

theorem cpl_spec (h : Sized g) (n : Nat) :
    g.cpl n = .ok { g with pos := ⟨cuuRow g n, 0⟩ } := by
  simp only [Grid.cpl, cr_spec g h, ok_bind, cuu_spec, pure_eq_ok]
  rfl

/-- VPA, `n` already decremented -/
theorem vpa_spec (h : Sized g) (n : Nat) :
    g.rowSet n = .ok { g with pos := ⟨min n (g.size.rows - 1), g.pos.col⟩ } := by
  simp only [Grid.rowSet, Grid.rowClamp, subM, h.1, ↓reduceIte, pure_bind']
  split
  · rw [Nat.min_eq_right (by omega)]; rfl
  · rw [Nat.min_eq_left (by omega)]; rfl

/-- where CUP (row, col) (0-based, already decremented) puts the cursor: in origin mode rows are
relative to, and confined to, the scroll region -/
def cupPos (g : Grid) (row col : Nat) : Pos :=
  let r := if g.originMode then min (row + g.scrollTop) 65535 else row
  let r := if g.originMode && r < g.scrollTop then g.scrollTop else r
  let r := min r (if g.originMode then g.scrollBottom else g.size.rows - 1)
  ⟨r, min col (g.size.cols - 1)⟩

theorem cup_spec (h : Sized g) (row col : Nat) :
    g.setPos ⟨row, col⟩ = .ok { g with pos := cupPos g row col } := by
  obtain ⟨hr, hc⟩ := h
  simp only [Grid.setPos, rowClampTop_spec]
  rw [rowClampBottom_spec _ _ (by simpa using hr)]
  simp only [ok_bind]
  rw [colClamp_spec _ (by simpa using hc)]
  cases ho : g.originMode <;> simp [cupPos, satAddU16, U16_MAX, ho]

/-- DECSTBM top bottom (0-based, already decremented): the region is accepted iff
`top < min bottom (rows-1)`, otherwise the full screen; the cursor goes to the first line of the
resulting region, column 0.  Nothing else changes. -/
theorem decstbm_spec (h : Sized g) (top bottom : Nat) :
    g.setScrollRegion top bottom = .ok
      (if top < min bottom (g.size.rows - 1) then
        { g with scrollTop := top, scrollBottom := min bottom (g.size.rows - 1), pos := ⟨top, 0⟩ }
      else
        { g with scrollTop := 0, scrollBottom := g.size.rows - 1, pos := ⟨0, 0⟩ }) := by
  simp only [Grid.setScrollRegion, subM, h.1, ↓reduceIte, pure_bind']
  split <;> rfl

/-- DECOM: the cursor goes to the home position of the NEW mode -/
theorem origin_spec (h : Sized g) (v : Bool) :
    g.setOriginMode v = .ok { g with originMode := v, pos := cupPos { g with originMode := v } 0 0 } := by
  simp only [Grid.setOriginMode]
  exact cup_spec { g with originMode := v } h 0 0

theorem screen_cuu (s : Screen) (n : Nat) :
    s.cuu n = .ok (s.setCur { s.cur with pos := ⟨cuuRow s.cur n, s.cur.pos.col⟩ }) := by
  unfold Screen.cuu
  exact modifyGrid_ok_of (by simp [cuu_spec])

theorem screen_cud (s : Screen) (h : Sized s.cur) (n : Nat) :
    s.cud n = .ok (s.setCur { s.cur with pos := ⟨cudRow s.cur n, s.cur.pos.col⟩ }) := by
  unfold Screen.cud
  exact modifyGrid_ok_of (cud_spec _ h n)

theorem screen_cup (s : Screen) (h : Sized s.cur) (row col : Nat) (hr : 1 ≤ row) (hc : 1 ≤ col) :
    s.cup row col = .ok (s.setCur { s.cur with pos := cupPos s.cur (row - 1) (col - 1) }) := by
  unfold Screen.cup
  simp only [subM, hr, hc, ↓reduceIte, pure_bind']
  exact modifyGrid_ok_of (cup_spec _ h _ _)

theorem canon1_default (params : List (List Nat)) (h : firstOr0 params = 0) : canon1 params 1 = 1 := by
  simp [canon1, h]
theorem canon1_value (params : List (List Nat)) (h : firstOr0 params ≠ 0) :
    canon1 params 1 = firstOr0 params := by
  simp [canon1, h]
theorem canon1_pos (params : List (List Nat)) : 1 ≤ canon1 params 1 := by
  simp only [canon1]
  by_cases h : firstOr0 params = 0
  · simp [h]
  · simp [h]; omega

end Vt.C06
