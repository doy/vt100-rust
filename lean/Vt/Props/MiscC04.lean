import Vt.Props.C04b
/-
  MiscC04 — C04: chunk independence for every stream cut at CHARACTER BOUNDARIES.

  `C04.process_chunks` needs `carry = []` after every chunk.  Here the hypothesis is discharged for UTF-8 text
  (7-bit streams, `C04.process_chunks_ascii`, are the special case without multi-byte characters).

  `vte::Parser::advance` fills the carry buffer (`partial_utf8`) in exactly one place: a Ground iteration whose
  remaining input `t` contains no ESC and has `from_utf8(t) = Err(error_len: None)` (unexpected end of input).
  `EndsComplete c` says that no ESC-free suffix of the chunk `c` is such a `t` — "the chunk does not end inside a
  multi-byte character", stated so that it does not depend on the automaton state.  From ANY automaton state a chunk
  with `EndsComplete` leaves an empty carry empty (`advance_carry_complete`, by `Vte.run_carry`: a truncated character
  is the only token that writes the carry).  Every valid UTF-8 chunk has `EndsComplete` (`endsComplete_of_valid`;
  escape sequences are 7-bit, so a stream of UTF-8 text and escape sequences is valid UTF-8 as a whole), and
  `EndsComplete` is closed under concatenation: hence `process_chunks_complete` and `process_chunks_utf8`.  The
  condition is sharp for text (`text_chunk_carry`): a truncated chunk leaves the carry NON-empty, and then
  `process_chunks` does not apply — finding F10 lives there.
-/
namespace Vt.MiscC04
open Vt Vt.C04 Vt.Utf8

/-- the chunk does not end inside a multi-byte character: no ESC-free suffix of it is a truncated
UTF-8 string -/
def EndsComplete (c : List Nat) : Prop :=
  ∀ t, t <:+ c → (∀ x ∈ t, x ≠ 0x1B) → (fromUtf8 t).err ≠ some none

theorem EndsComplete.suffix {c t : List Nat} (h : EndsComplete c) (ht : t <:+ c) : EndsComplete t :=
  fun u hu hne => h u (hu.trans ht) hne

theorem endsComplete_nil : EndsComplete [] := by
  intro t ht _
  have : t = [] := List.suffix_nil.mp ht
  subst this
  simp [fromUtf8]

theorem advance_carry_complete (v : Vte) (a : List Nat) (hc : v.carry = []) (h : EndsComplete a) :
    (v.advance a).1.carry = [] := by
  rw [Vte.advance_eq_run hc]
  exact Vte.run_carry hc fun g hg ht =>
    h g hg (fun x hx => by have := ht.props.2.2.1 x hx; omega) (by rw [ht.stop]; rfl)

/-- **no suffix of a valid UTF-8 string is a truncated string**: a suffix either starts at a character
boundary (and is valid) or starts with a continuation byte (and is invalid at once) -/
theorem suffix_of_valid (a : List Nat) (h : (fromUtf8 a).err = none) :
    ∀ t, t <:+ a → (fromUtf8 t).err ≠ some none := by
  induction a using fromUtf8_induct with
  | nil =>
    intro t ht
    rw [List.suffix_nil.mp ht]
    nofun
  | char enc c rest he ih =>
    have hr := ih (by rwa [he.decode] at h)
    -- the suffixes that start inside the character
    have cont : ∀ tl, (∀ x ∈ tl, 0x80 ≤ x ∧ x ≤ 0xBF) → ∀ t, t <:+ tl ++ rest → (fromUtf8 t).err ≠ some none := by
      intro tl
      induction tl with
      | nil => exact fun _ => hr
      | cons x tl ihl =>
        intro hx t ht
        rw [List.cons_append] at ht
        rcases List.suffix_cons_iff.mp ht with rfl | ht
        · have := hx x (List.mem_cons_self ..)
          rw [fromUtf8_nolead (by omega) (by omega) (by omega) (by omega)]
          nofun
        · exact ihl (fun y hy => hx y (List.mem_cons_of_mem _ hy)) t ht
    intro t ht
    obtain ⟨b, tl, rfl⟩ := List.exists_cons_of_ne_nil (List.ne_nil_of_length_pos he.length_pos)
    rw [List.cons_append] at ht h
    rcases List.suffix_cons_iff.mp ht with rfl | ht
    · rw [h]
      nofun
    · exact cont tl he.tail t ht
  | stop a e hs => rw [hs] at h; cases h

theorem endsComplete_of_valid (c : List Nat) (h : (fromUtf8 c).err = none) : EndsComplete c :=
  fun t ht _ => suffix_of_valid c h t ht

theorem endsComplete_of_ascii (c : List Nat) (h : ∀ x ∈ c, x < 0x80) : EndsComplete c :=
  endsComplete_of_valid c (fromUtf8_ascii c h)

theorem endsComplete_append {a b : List Nat} (ha : EndsComplete a) (hb : EndsComplete b) :
    EndsComplete (a ++ b) := by
  intro t ht hne
  obtain ⟨s, hs⟩ := ht
  rcases List.append_eq_append_iff.mp hs with ⟨a', h1, h2⟩ | ⟨c', h1, h2⟩
  · -- `t = a' ++ b` with `a'` a suffix of `a`
    subst h2
    have hsa : a' <:+ a := ⟨s, h1.symm⟩
    have hnea : ∀ x ∈ a', x ≠ 0x1B := fun x hx => hne x (List.mem_append_left _ hx)
    have hneb : ∀ x ∈ b, x ≠ 0x1B := fun x hx => hne x (List.mem_append_right _ hx)
    cases he : (fromUtf8 a').err with
    | none =>
      rw [fromUtf8_append_ok a' b he]
      exact hb b (List.suffix_refl b) hneb
    | some e =>
      cases e with
      | none => exact absurd he (ha a' hsa hnea)
      | some len => rw [err_stable a' b len he, he]; simp
  · -- `t` is a suffix of `b`
    exact hb t ⟨c', h2.symm⟩ hne

theorem endsComplete_flatten : ∀ (cs : List (List Nat)), (∀ c ∈ cs, EndsComplete c) → EndsComplete cs.flatten
  | [], _ => by simpa using endsComplete_nil
  | c :: cs, h => by
    rw [List.flatten_cons]
    exact endsComplete_append (h c (List.mem_cons_self ..))
      (endsComplete_flatten cs (fun d hd => h d (List.mem_cons_of_mem _ hd)))

/-- **C04, cuts at character boundaries (general form).**  The parser is between calls with an empty
carry buffer (true of a new parser and after every chunk of this kind), in ANY automaton state.  If no
chunk ends inside a multi-byte character (`EndsComplete`; the chunks may contain invalid bytes, escape
sequences cut anywhere, OSC / DCS strings cut anywhere), feeding the chunks one by one is the same as
feeding their concatenation. -/
theorem process_chunks_complete (W : Nat → Option Nat) (cb : CbPolicy) (chunks : List (List Nat)) (p : Parser)
    (hc : p.vte.carry = []) (h : ∀ c ∈ chunks, EndsComplete c) :
    chunks.foldlM (fun p c => p.process W cb c) p = p.process W cb chunks.flatten := by
  apply process_chunks W cb chunks p hc
  intro k _
  exact advance_carry_complete _ _ hc
    (endsComplete_flatten _ (fun c hc' => h c (List.mem_of_mem_take hc')))

/-- **C04 for UTF-8 streams cut at character boundaries**: every chunk is valid UTF-8 (that is: the
stream is valid UTF-8 — text in any script, C0 controls, ESC / CSI / OSC / DCS sequences — and no cut
falls inside a multi-byte character; escape sequences may be cut anywhere).  Then any such chunking
equals one call. -/
theorem process_chunks_utf8 (W : Nat → Option Nat) (cb : CbPolicy) (chunks : List (List Nat)) (p : Parser)
    (hc : p.vte.carry = []) (h : ∀ c ∈ chunks, (fromUtf8 c).err = none) :
    chunks.foldlM (fun p c => p.process W cb c) p = p.process W cb chunks.flatten :=
  process_chunks_complete W cb chunks p hc (fun c hc' => endsComplete_of_valid c (h c hc'))

/-- the hypothesis is kept from call to call: after a chunk with `EndsComplete` the carry is empty again
(so a long-running `Parser` fed such chunks always satisfies `hc`) -/
theorem process_keeps_carry (W : Nat → Option Nat) (cb : CbPolicy) (p p' : Parser) (c : List Nat)
    (hc : p.vte.carry = []) (h : EndsComplete c) (e : p.process W cb c = .ok p') : p'.vte.carry = [] := by
  rw [process_vte W cb p p' c e]
  exact advance_carry_complete _ _ hc h

set_option linter.unusedVariables false in -- `hne`
/-- **the condition is sharp for text in Ground**: an ESC-free, non-empty chunk `a` fed to a parser in
Ground with an empty carry leaves the carry empty if `a` is valid UTF-8, and NON-empty if `a` is truncated
(`from_utf8(a)` = unexpected end of input) -/
theorem text_chunk_carry (v : Vte) (hg : v.state = .ground) (hc : v.carry = []) (a : List Nat) (hne : a ≠ [])
    (hP : ∀ x ∈ a, x ≠ 0x1B) :
    ((fromUtf8 a).err = none → (v.advance a).1.carry = []) ∧
    ((fromUtf8 a).err = some none → (v.advance a).1.carry ≠ []) := by
  refine ⟨fun he => advance_carry_complete v a hc (endsComplete_of_valid a he), fun he => ?_⟩
  -- the valid prefix is dispatched, the truncated character behind it joins the carry
  obtain ⟨p, s, rfl, hp, _, hs⟩ := fromUtf8_split a
  rcases hs with ⟨_, h⟩ | ⟨e, hs, h⟩ <;> rw [he] at h <;> cases h
  rw [Vte.advance_eq_run hc, Vte.run_valid hg (fun x hx => hP x (List.mem_append_left _ hx)) (by rw [hp]),
    Vte.run_trunc hg (trunc_of_stop hs), hc]
  exact fun h => by rw [show s = [] from h] at hs; cases hs

/-- test: "aé一😀" + `ESC[3` + `1m` + "é" cut after every character and inside the CSI sequence: every
chunk is valid UTF-8, so `process_chunks_utf8` applies; cutting "é" (C3 | A9) in the middle gives a
chunk that is NOT `EndsComplete` — and indeed leaves a non-empty carry -/
theorem utf8_chunks_nonvacuous :
    (∀ c ∈ [[0x61], [0xC3, 0xA9], [0xE4, 0xB8, 0x80], [0xF0, 0x9F, 0x98, 0x80], [0x1B, 0x5B, 0x33],
            [0x31, 0x6D, 0xC3, 0xA9]], (fromUtf8 c).err = none) ∧
    (fromUtf8 [0x61, 0xC3]).err = some none ∧ (Vte.new.advance [0x61, 0xC3]).1.carry ≠ [] := by
  decide +kernel

end Vt.MiscC04

namespace Vt.C04

/-- **C04** for 7-bit streams (all of ASCII text, C0 controls, ESC / CSI / OSC / DCS sequences): ANY
chunking whatsoever gives the same result as one call -/
theorem process_chunks_ascii (W : Nat → Option Nat) (cb : CbPolicy) (chunks : List (List Nat)) (p : Parser)
    (hc : p.vte.carry = []) (h : ∀ c ∈ chunks, ∀ x ∈ c, x < 0x80) :
    chunks.foldlM (fun p c => p.process W cb c) p = p.process W cb chunks.flatten :=
  MiscC04.process_chunks_utf8 W cb chunks p hc fun c hc' => Utf8.fromUtf8_ascii c (h c hc')

end Vt.C04
