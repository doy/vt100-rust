/-
  C10 (continued) — the input-mode round trips at the level of BYTES: the emitted byte strings are the concatenation
  of the sequences (`actBytes`: `ESC =`, `ESC >`, `ESC [ ? n h`, `ESC [ ? n l`) of `formattedActs` / `diffActs`, each
  parses to its action (`tok_act`), and performing that action is `applyAct` (`perform_act`).
-/
import Vt.Props.C10
import Vt.Props.C04b
import Vt.Lemmas.Tokens
import Vt.Lemmas.Modes
namespace Vt.C10
open Vt Vt.Tok

def actBytes : ModeAct → List Nat
  | .keypad true => [0x1B, 61]
  | .keypad false => [0x1B, 62]
  | .set n => [0x1B, 0x5B, 0x3F] ++ Term.itoa n ++ [104]
  | .rst n => [0x1B, 0x5B, 0x3F] ++ Term.itoa n ++ [108]

def actAction : ModeAct → Action
  | .keypad true => .escDispatch [] false 61
  | .keypad false => .escDispatch [] false 62
  | .set n => .csiDispatch [[n]] [0x3F] false 104
  | .rst n => .csiDispatch [[n]] [0x3F] false 108

theorem tok_private_one (n f : Nat) (hn : n ≤ 65535) (hf : 0x40 ≤ f ∧ f ≤ 0x7E) :
    Tok ([0x1B, 0x5B, 0x3F] ++ Term.itoa n ++ [f]) [.csiDispatch [[n]] [0x3F] false f] := by
  have := tok_csi_private [n] f (by simpa using hn) (by simp) hf
  simpa [paramBytes, Tok.groups] using this

theorem tok_act (a : ModeAct) (h : ∀ n, (a = .set n ∨ a = .rst n) → n ≤ 65535) : Tok (actBytes a) [actAction a] := by
  cases a with
  | keypad on =>
    cases on
    · exact tok_esc 62 (by omega)
    · exact tok_esc 61 (by omega)
  | set n => exact tok_private_one n 104 (h n (Or.inl rfl)) (by omega)
  | rst n => exact tok_private_one n 108 (h n (Or.inr rfl)) (by omega)

theorem tok_acts : ∀ (as : List ModeAct), (∀ a ∈ as, ∀ n, (a = .set n ∨ a = .rst n) → n ≤ 65535) →
    Tok (as.flatMap actBytes) (as.map actAction)
  | [], _ => tok_nil
  | a :: as, h => by
    simp only [List.flatMap_cons, List.map_cons]
    exact tok_append (tok_act a (h a (List.mem_cons_self ..))) (tok_acts as (fun b hb => h b (List.mem_cons_of_mem _ hb)))

theorem mouse_bytes (mode prev : MouseMode) :
    Term.mouseProtocolMode mode prev = (mouseActs mode prev).flatMap actBytes := by
  cases mode <;> cases prev <;> decide +kernel

theorem enc_bytes (enc prev : MouseEnc) :
    Term.mouseProtocolEncoding enc prev = (encActs enc prev).flatMap actBytes := by
  cases enc <;> cases prev <;> decide +kernel

theorem keypad_bytes (b : Bool) : Term.applicationKeypad b = actBytes (.keypad b) := by
  cases b <;> rfl

theorem cursor_bytes (b : Bool) : Term.applicationCursor b = actBytes (if b then .set 1 else .rst 1) := by
  cases b <;> decide +kernel

theorem paste_bytes (b : Bool) : Term.bracketedPaste b = actBytes (if b then .set 2004 else .rst 2004) := by
  cases b <;> decide +kernel

theorem input_mode_formatted_bytes (s : Screen) : s.inputModeFormatted = (formattedActs s).flatMap actBytes := by
  simp only [Screen.inputModeFormatted, Screen.writeInputModeFormatted, formattedActs, List.flatMap_append,
    List.flatMap_cons, List.flatMap_nil, List.append_nil, List.append_assoc, mouse_bytes, enc_bytes, keypad_bytes,
    cursor_bytes, paste_bytes]

theorem input_mode_diff_bytes (s prev : Screen) : s.inputModeDiff prev = (diffActs s prev).flatMap actBytes := by
  simp only [Screen.inputModeDiff, Screen.writeInputModeDiff, diffActs, List.flatMap_append,
    apply_ite (List.flatMap actBytes), List.flatMap_singleton, List.flatMap_nil, mouse_bytes, enc_bytes, keypad_bytes,
    cursor_bytes, paste_bytes]

/-- the actions the emitters write: the keypad sequences and `?n h` / `?n l` for a mode flag `n` -/
def Emitted : ModeAct → Bool
  | .keypad _ => true
  | .set n => modeParam [n]
  | .rst n => modeParam [n]

theorem perform_act (W : Nat → Option Nat) (cb : CbPolicy) (ws : WS) (a : ModeAct) (h : Emitted a = true) :
    perform W cb ws (actAction a) = (applyAct ws.screen a >>= fun s' => pure { ws with screen := s' }) := by
  cases a with
  | keypad on => cases on <;> rfl
  | set n =>
    show decset _ [[n]] ws = _
    simp only [decset, applyAct, List.foldlM_cons, List.foldlM_nil, ws.screen.decsetOne_flag h, ok_bind]; rfl
  | rst n =>
    show decrst _ [[n]] ws = _
    simp only [decrst, applyAct, List.foldlM_cons, List.foldlM_nil, ws.screen.decrstOne_flag h, ok_bind]; rfl

theorem perform_acts (W : Nat → Option Nat) (cb : CbPolicy) : ∀ (as : List ModeAct) (ws : WS),
    as.all Emitted = true →
    (as.map actAction).foldlM (perform W cb) ws =
      (applyActs ws.screen as >>= fun s' => pure { ws with screen := s' })
  | [], ws, _ => rfl
  | a :: as, ws, h => by
    rw [List.all_cons, Bool.and_eq_true] at h
    simp only [List.map_cons, List.foldlM_cons, perform_act W cb ws a h.1, applyActs]
    cases applyAct ws.screen a with
    | error e => rfl
    | ok s' =>
      simp only [ok_bind, pure_bind']
      exact perform_acts W cb as _ h.2

theorem emitted_bound {as : List ModeAct} (h : as.all Emitted = true) :
    ∀ a ∈ as, ∀ n, (a = .set n ∨ a = .rst n) → n ≤ 65535 := by
  intro a ha n hn
  have := List.all_eq_true.mp h a ha
  rcases hn with rfl | rfl <;>
    (simp only [Emitted, modeParam, Bool.or_eq_true, beq_iff_eq, List.cons.injEq, and_true] at this; omega)

theorem mouseActs_emitted (mode prev : MouseMode) : (mouseActs mode prev).all Emitted = true := by
  cases mode <;> cases prev <;> decide

theorem encActs_emitted (enc prev : MouseEnc) : (encActs enc prev).all Emitted = true := by
  cases enc <;> cases prev <;> decide

theorem emitted_flag {n : Nat} (h : modeParam [n] = true) (b : Bool) : Emitted (if b then .set n else .rst n) = true := by
  cases b <;> exact h

theorem all_ite {c : Prop} [Decidable c] {x : ModeAct} (h : Emitted x = true) : (if c then [x] else []).all Emitted = true := by
  split <;> simp [h]

theorem formattedActs_emitted (s : Screen) : (formattedActs s).all Emitted = true := by
  simp only [formattedActs, List.all_append, List.all_cons, List.all_nil, mouseActs_emitted, encActs_emitted,
    emitted_flag (n := 1) rfl, emitted_flag (n := 2004) rfl, show Emitted (.keypad s.appKeypad) = true from rfl, Bool.and_self]

theorem diffActs_emitted (s prev : Screen) : (diffActs s prev).all Emitted = true := by
  simp only [diffActs, List.all_append, mouseActs_emitted, encActs_emitted, all_ite (x := .keypad _) rfl,
    all_ite (emitted_flag (n := 1) rfl _), all_ite (emitted_flag (n := 2004) rfl _), Bool.and_self]

theorem process_acts (W : Nat → Option Nat) (cb : CbPolicy) (p : Parser) (as : List ModeAct)
    (h : as.all Emitted = true) (hr : C09.Ready p) (q' : Screen) (happ : applyActs p.ws.screen as = .ok q') :
    ∃ p', p.process W cb (as.flatMap actBytes) = .ok p' ∧ p'.ws = { p.ws with screen := q' } ∧ C09.Ready p' :=
  process_tok_ok (tok_acts as (emitted_bound h)) p hr _ (by rw [perform_acts W cb as p.ws h, happ]; rfl)

/-- **C10, bytes**: processing `s.input_mode_formatted()` on a ready parser whose mouse mode and encoding
are at their defaults leaves exactly the five input modes of `s`; nothing else on the screen changes and
no event is reported -/
theorem process_input_mode_formatted (W : Nat → Option Nat) (cb : CbPolicy) (p : Parser) (s : Screen)
    (hr : C09.Ready p) (hm : p.ws.screen.mouseMode = .none) (he : p.ws.screen.mouseEnc = .default) :
    ∃ p', p.process W cb s.inputModeFormatted = .ok p' ∧
      p'.ws = { p.ws with screen := setInputModes p.ws.screen (inputModes s) } ∧ C09.Ready p' := by
  rw [input_mode_formatted_bytes]
  exact process_acts W cb p _ (formattedActs_emitted s) hr _ (input_mode_formatted_roundtrip s p.ws.screen hm he)

/-- **C10, bytes**: processing `s.input_mode_diff(prev)` on a ready parser whose input modes equal `prev`'s
leaves exactly the five input modes of `s` -/
theorem process_input_mode_diff (W : Nat → Option Nat) (cb : CbPolicy) (p : Parser) (s prev : Screen)
    (hr : C09.Ready p) (hq : inputModes p.ws.screen = inputModes prev) :
    ∃ p', p.process W cb (s.inputModeDiff prev) = .ok p' ∧
      p'.ws = { p.ws with screen := setInputModes p.ws.screen (inputModes s) } ∧ C09.Ready p' := by
  rw [input_mode_diff_bytes]
  exact process_acts W cb p _ (diffActs_emitted s prev) hr _ (input_mode_diff_roundtrip s prev p.ws.screen hq)

/-- **C10, bytes**: the cursor-visibility sequence `contents_formatted` / `contents_diff` write
(`ESC [ ? 25 l` to hide, `ESC [ ? 25 h` to show) sets exactly that flag -/
theorem process_hideCursor (W : Nat → Option Nat) (cb : CbPolicy) (p : Parser) (b : Bool) (hr : C09.Ready p) :
    ∃ p', p.process W cb (Term.hideCursor b) = .ok p' ∧
      p'.ws = { p.ws with screen := { p.ws.screen with hideCursor := b } } ∧ C09.Ready p' := by
  have hb : Term.hideCursor b = [if b then .rst 25 else .set 25].flatMap actBytes := by cases b <;> decide +kernel
  rw [hb]
  exact process_acts W cb p _ (by cases b <;> rfl) hr _ (by cases b <;> rfl)

end Vt.C10
