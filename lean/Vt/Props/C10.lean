/-
  C10 — terminal modes track set/reset exactly; input_mode_formatted/diff reproduce them.

  `decset_*` / `decrst_*` are one parameter of `Screen::decset` / `decrst` (src/screen.rs), stated as whole-record
  equalities, so "nothing else changes" is part of the statement.  The round trips of the emitters are at the level of
  the actions here; C10b parses the bytes.
-/
import Vt.Model.Perform
import Vt.Lemmas.Except
namespace Vt.C10
open Vt

variable (s : Screen)

theorem decset_1 : s.decsetOne [1] = .ok (some { s with appCursor := true }) := rfl
theorem decrst_1 : s.decrstOne [1] = .ok (some { s with appCursor := false }) := rfl
theorem decset_25 : s.decsetOne [25] = .ok (some { s with hideCursor := false }) := rfl
theorem decrst_25 : s.decrstOne [25] = .ok (some { s with hideCursor := true }) := rfl
theorem decset_2004 : s.decsetOne [2004] = .ok (some { s with bracketedPaste := true }) := rfl
theorem decrst_2004 : s.decrstOne [2004] = .ok (some { s with bracketedPaste := false }) := rfl
theorem decset_9 : s.decsetOne [9] = .ok (some { s with mouseMode := .press }) := rfl
theorem decset_1000 : s.decsetOne [1000] = .ok (some { s with mouseMode := .pressRelease }) := rfl
theorem decset_1002 : s.decsetOne [1002] = .ok (some { s with mouseMode := .buttonMotion }) := rfl
theorem decset_1003 : s.decsetOne [1003] = .ok (some { s with mouseMode := .anyMotion }) := rfl
theorem decset_1005 : s.decsetOne [1005] = .ok (some { s with mouseEnc := .utf8 }) := rfl
theorem decset_1006 : s.decsetOne [1006] = .ok (some { s with mouseEnc := .sgr }) := rfl
theorem deckpam_spec : s.deckpam = { s with appKeypad := true } := rfl
theorem deckpnm_spec : s.deckpnm = { s with appKeypad := false } := rfl

/-- `.none` has no DEC private mode number: 0 is a placeholder the lemmas below exclude -/
def mouseNum : MouseMode → Nat
  | .none => 0 | .press => 9 | .pressRelease => 1000 | .buttonMotion => 1002 | .anyMotion => 1003
def encNum : MouseEnc → Nat
  | .default => 0 | .utf8 => 1005 | .sgr => 1006

theorem decrst_mouse (m : MouseMode) (hm : m ≠ .none) :
    s.decrstOne [mouseNum m] = .ok (some (if s.mouseMode = m then { s with mouseMode := .none } else s)) := by
  cases m <;> first
    | exact absurd rfl hm
    | exact congrArg (fun x => Except.ok (some x)) (by simp only [Screen.clearMouseMode, beq_iff_eq])

theorem decrst_enc (e : MouseEnc) (he : e ≠ .default) :
    s.decrstOne [encNum e] = .ok (some (if s.mouseEnc = e then { s with mouseEnc := .default } else s)) := by
  cases e <;> first
    | exact absurd rfl he
    | exact congrArg (fun x => Except.ok (some x)) (by simp only [Screen.clearMouseEnc, beq_iff_eq])

theorem decset_mouse (m : MouseMode) (hm : m ≠ .none) :
    s.decsetOne [mouseNum m] = .ok (some { s with mouseMode := m }) := by
  cases m <;> first | exact absurd rfl hm | rfl

theorem decset_enc (e : MouseEnc) (he : e ≠ .default) :
    s.decsetOne [encNum e] = .ok (some { s with mouseEnc := e }) := by
  cases e <;> first | exact absurd rfl he | rfl

theorem decset_cons (unh : WS → M WS) (p : List Nat) (ps : List (List Nat)) (ws : WS) (s' : Screen)
    (h : ws.screen.decsetOne p = .ok (some s')) :
    decset unh (p :: ps) ws = decset unh ps { ws with screen := s' } := by
  simp [decset, List.foldlM, h]

theorem decrst_cons (unh : WS → M WS) (p : List Nat) (ps : List (List Nat)) (ws : WS) (s' : Screen)
    (h : ws.screen.decrstOne p = .ok (some s')) :
    decrst unh (p :: ps) ws = decrst unh ps { ws with screen := s' } := by
  simp [decrst, List.foldlM, h]

theorem decset_nil (unh : WS → M WS) (ws : WS) : decset unh [] ws = .ok ws := rfl
theorem decrst_nil (unh : WS → M WS) (ws : WS) : decrst unh [] ws = .ok ws := rfl

structure InputModes where
  appKeypad : Bool
  appCursor : Bool
  bracketedPaste : Bool
  mouseMode : MouseMode
  mouseEnc : MouseEnc
  deriving DecidableEq, Repr

def inputModes (s : Screen) : InputModes :=
  ⟨s.appKeypad, s.appCursor, s.bracketedPaste, s.mouseMode, s.mouseEnc⟩

def setInputModes (s : Screen) (m : InputModes) : Screen :=
  { s with appKeypad := m.appKeypad, appCursor := m.appCursor, bracketedPaste := m.bracketedPaste,
           mouseMode := m.mouseMode, mouseEnc := m.mouseEnc }

inductive ModeAct where
  | keypad (on : Bool)
  | set (n : Nat)
  | rst (n : Nat)
  deriving DecidableEq, Repr

def applyAct (s : Screen) : ModeAct → M Screen
  | .keypad true => pure s.deckpam
  | .keypad false => pure s.deckpnm
  | .set n => do match ← s.decsetOne [n] with | some s' => pure s' | none => pure s
  | .rst n => do match ← s.decrstOne [n] with | some s' => pure s' | none => pure s

def applyActs (s : Screen) (as : List ModeAct) : M Screen := as.foldlM applyAct s

/-- the actions `Term.mouseProtocolMode mode prev` stands for -/
def mouseActs (mode prev : MouseMode) : List ModeAct :=
  if mode = prev then []
  else match mode with
    | .none => [.rst (mouseNum prev)]
    | m => [.set (mouseNum m)]

def encActs (enc prev : MouseEnc) : List ModeAct :=
  if enc = prev then []
  else match enc with
    | .default => [.rst (encNum prev)]
    | e => [.set (encNum e)]

/-- the actions of `input_mode_formatted` -/
def formattedActs (s : Screen) : List ModeAct :=
  [.keypad s.appKeypad, if s.appCursor then .set 1 else .rst 1,
   if s.bracketedPaste then .set 2004 else .rst 2004]
  ++ mouseActs s.mouseMode .none ++ encActs s.mouseEnc .default

/-- the actions of `input_mode_diff` -/
def diffActs (s prev : Screen) : List ModeAct :=
  (if s.appKeypad != prev.appKeypad then [.keypad s.appKeypad] else [])
  ++ (if s.appCursor != prev.appCursor then [if s.appCursor then .set 1 else .rst 1] else [])
  ++ (if s.bracketedPaste != prev.bracketedPaste then [if s.bracketedPaste then .set 2004 else .rst 2004] else [])
  ++ mouseActs s.mouseMode prev.mouseMode ++ encActs s.mouseEnc prev.mouseEnc

theorem applyActs_cons (q : Screen) (a : ModeAct) (as : List ModeAct) :
    applyActs q (a :: as) = (applyAct q a >>= fun q' => applyActs q' as) := by
  simp only [applyActs, List.foldlM_cons]

theorem applyActs_append (q : Screen) (a b : List ModeAct) :
    applyActs q (a ++ b) = (applyActs q a >>= fun q' => applyActs q' b) := by
  simp [applyActs, List.foldlM_append]

theorem applyAct_keypad (q : Screen) (b : Bool) : applyAct q (.keypad b) = .ok { q with appKeypad := b } := by
  cases b <;> rfl

theorem applyAct_cursor (q : Screen) (b : Bool) :
    applyAct q (if b then .set 1 else .rst 1) = .ok { q with appCursor := b } := by
  cases b <;> rfl

theorem applyAct_paste (q : Screen) (b : Bool) :
    applyAct q (if b then .set 2004 else .rst 2004) = .ok { q with bracketedPaste := b } := by
  cases b <;> rfl

theorem applyAct_set {q q' : Screen} {n : Nat} (h : q.decsetOne [n] = .ok (some q')) :
    applyAct q (.set n) = .ok q' := by
  simp only [applyAct, h]; rfl

theorem applyAct_rst {q q' : Screen} {n : Nat} (h : q.decrstOne [n] = .ok (some q')) :
    applyAct q (.rst n) = .ok q' := by
  simp only [applyAct, h]; rfl

theorem applyActs_one (q : Screen) (a : ModeAct) : applyActs q [a] = applyAct q a := by
  simp only [applyActs, List.foldlM_cons, List.foldlM_nil, bind_pure]

theorem apply_mouseActs (q : Screen) (mode prev : MouseMode) (h : q.mouseMode = prev) :
    applyActs q (mouseActs mode prev) = .ok { q with mouseMode := mode } := by
  subst h
  unfold mouseActs
  split
  · rename_i h; subst h; rfl
  · rename_i h
    split
    · rw [applyActs_one, applyAct_rst (decrst_mouse q _ (Ne.symm h)), if_pos rfl]
    · rw [applyActs_one, applyAct_set (decset_mouse q _ ‹mode = .none → False›)]

theorem apply_encActs (q : Screen) (enc prev : MouseEnc) (h : q.mouseEnc = prev) :
    applyActs q (encActs enc prev) = .ok { q with mouseEnc := enc } := by
  subst h
  unfold encActs
  split
  · rename_i h; subst h; rfl
  · rename_i h
    split
    · rw [applyActs_one, applyAct_rst (decrst_enc q _ (Ne.symm h)), if_pos rfl]
    · rw [applyActs_one, applyAct_set (decset_enc q _ ‹enc = .default → False›)]

/-- `input_mode_formatted` on a receiver whose mouse mode and encoding are at their defaults
(a fresh parser) reproduces exactly the five input modes, and changes nothing else -/
theorem input_mode_formatted_roundtrip (s q : Screen) (hm : q.mouseMode = .none) (he : q.mouseEnc = .default) :
    applyActs q (formattedActs s) = .ok (setInputModes q (inputModes s)) := by
  unfold formattedActs
  rw [applyActs_append, applyActs_append, applyActs_cons, applyAct_keypad, ok_bind, applyActs_cons, applyAct_cursor,
    ok_bind, applyActs_one, applyAct_paste, ok_bind, apply_mouseActs, ok_bind, apply_encActs]
  · rfl
  · exact he
  · exact hm

theorem applyActs_ne (a : ModeAct) (q q' : Screen) (x y : Bool) (h1 : applyAct q a = .ok q') (h2 : x = y → q' = q) :
    applyActs q (if x != y then [a] else []) = .ok q' := by
  by_cases h : x = y
  · rw [if_neg (by simp [h]), h2 h]; rfl
  · rw [if_pos (by simpa using h), applyActs_one, h1]

/-- `input_mode_diff(prev)` on a receiver whose modes equal `prev`'s reproduces the five input modes -/
theorem input_mode_diff_roundtrip (s prev q : Screen) (hq : inputModes q = inputModes prev) :
    applyActs q (diffActs s prev) = .ok (setInputModes q (inputModes s)) := by
  simp only [inputModes, InputModes.mk.injEq] at hq
  obtain ⟨hk, hc, hb, hm, he⟩ := hq
  unfold diffActs
  rw [applyActs_append, applyActs_append, applyActs_append, applyActs_append,
    applyActs_ne _ q _ _ _ (applyAct_keypad q _) (fun h => by rw [h, ← hk]), ok_bind,
    applyActs_ne _ _ _ _ _ (applyAct_cursor _ _) (fun h => by rw [h, ← hc]), ok_bind,
    applyActs_ne _ _ _ _ _ (applyAct_paste _ _) (fun h => by rw [h, ← hb]), ok_bind, apply_mouseActs, ok_bind, apply_encActs]
  · rfl
  · exact he
  · exact hm

theorem input_mode_diff_empty_iff (s prev : Screen) :
    s.inputModeDiff prev = [] ↔ inputModes s = inputModes prev := by
  simp only [Screen.inputModeDiff, Screen.writeInputModeDiff, inputModes, InputModes.mk.injEq,
    List.append_eq_nil_iff]
  constructor
  · rintro ⟨⟨⟨⟨h1, h2⟩, h3⟩, h4⟩, h5⟩
    refine ⟨?_, ?_, ?_, ?_, ?_⟩
    · revert h1; cases s.appKeypad <;> cases prev.appKeypad <;> decide
    · revert h2; cases s.appCursor <;> cases prev.appCursor <;> decide
    · revert h3; cases s.bracketedPaste <;> cases prev.bracketedPaste <;> decide
    · revert h4; cases s.mouseMode <;> cases prev.mouseMode <;> decide
    · revert h5; cases s.mouseEnc <;> cases prev.mouseEnc <;> decide
  · rintro ⟨h1, h2, h3, h4, h5⟩
    simp [h1, h2, h3, h4, h5, Term.mouseProtocolMode, Term.mouseProtocolEncoding]

theorem state_formatted_concat (s : Screen) :
    s.stateFormatted = (s.contentsFormatted >>= fun c => pure (c ++ s.inputModeFormatted)) := rfl
theorem state_diff_concat (s prev : Screen) :
    s.stateDiff prev = (s.contentsDiff prev >>= fun c => pure (c ++ s.inputModeDiff prev)) := rfl

end Vt.C10
