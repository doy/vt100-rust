import Vt.Props.C08b
import Vt.Props.C12rec
/-
  C08, grid level (declared in namespace `Vt.C08lfri`, which Props/C08lfri continues): closed forms of SU / SD
  (`Grid::scroll_up`, `scroll_down`), LF / VT / FF (`Grid::row_inc_scroll`) and RI (`Grid::row_dec_scroll`) as
  WHOLE-RECORD equalities on `Grid` (rows, cursor, saved cursor, margins, origin flags, history, capacity, offset:
  "nothing else changes" is part of every statement), for every count `n`:
  `scrollUp_closed` (`suClosed`), `scrollDown_closed` (`sdClosed`), `rowIncScroll_spec` (result `lfClosed`) and
  `rowDecScroll_spec` (`riClosed`).  The `lf_*` / `ri_*` lemmas read the closed forms case by case (`lf1_*` / `ri1_*`
  for `n = 1`; `lf1_cases`: the cases of LF leave nothing out).  The actions and the model runs that show the case
  lemmas are not vacuous are in C08lfri.

  Hypotheses.  RI needs only `scrollTop ≤ scrollBottom < rows.length` (no bound on the cursor).  LF needs `Live g` — all fields
  of `GridInv W g true` (`live_of_inv`); the two about the history only for the recording case.  The case lemmas that simplify
  the u16 saturation also use `size.rows ≤ 65535`.

  Where the crate differs from the informal reading of C08:
  * RI from OUTSIDE the region with `n > row` (for `n = 1`: on line 0 above an active region) stops at line 0 but
    DOES scroll the region down by `n - row`: `extra_lines` in `row_dec_scroll` is not guarded by
    `in_scroll_region` (`ri_outside_edge`, `ri1_line0_above`, witness `C08lfri.ri_line0_above_witness`).  This is the
    case C08's quantifier already excludes (DESIGN §5.3); the closed form says exactly what happens there.
  * A downward move that starts ABOVE the region is not stopped by the bottom margin: it runs through the region to
    the last line of the screen without scrolling (`lf_outside`); symmetrically an upward move from BELOW the
    region runs through it to line 0 (`ri_stay` with the `else 0` limit).
  * `row + n` saturates at 65535 before the excess is taken (`lfTarget`): on a 65535-line screen LF×n on the last
    line scrolls by `65535 - bottom`, not by `row + n - bottom`.  Irrelevant for the actions (`n = 1`), explicit in
    the general form; `lfTarget_eq` removes it when `row + n ≤ 65535`.
-/
namespace Vt.C08lfri
open Vt Vt.C08 Vt.C12

variable {W : Nat → Option Nat}

def withRow (g : Grid) (r : Nat) : Grid := { g with pos := ⟨r, g.pos.col⟩ }

def above (g : Grid) : List Row := g.rows.take g.scrollTop
def region (g : Grid) : List Row := (g.rows.drop g.scrollTop).take (g.scrollBottom + 1 - g.scrollTop)
def below (g : Grid) : List Row := g.rows.drop (g.scrollBottom + 1)

theorem split_region (g : Grid) (hle : g.scrollTop ≤ g.scrollBottom) (hb : g.scrollBottom < g.rows.length) :
    Split g g.scrollTop (above g) (region g) (below g) := split_at g g.scrollTop hle hb

theorem rows_eq (g : Grid) (hle : g.scrollTop ≤ g.scrollBottom) (hb : g.scrollBottom < g.rows.length) :
    g.rows = above g ++ region g ++ below g := (split_region g hle hb).rows

theorem region_length (g : Grid) (hle : g.scrollTop ≤ g.scrollBottom) (hb : g.scrollBottom < g.rows.length) :
    (region g).length = g.scrollBottom + 1 - g.scrollTop := by
  simp only [region, List.length_take, List.length_drop]; omega

@[simp] theorem above_withRow (g : Grid) (r : Nat) : above (withRow g r) = above g := rfl
@[simp] theorem region_withRow (g : Grid) (r : Nat) : region (withRow g r) = region g := rfl
@[simp] theorem below_withRow (g : Grid) (r : Nat) : below (withRow g r) = below g := rfl

/-- nothing is recorded: capacity 0 or an active scroll region -/
def NoRecord (g : Grid) : Prop :=
  g.scrollbackLen = 0 ∨ g.scrollTop ≠ 0 ∨ g.scrollBottom ≠ g.size.rows - 1

instance (g : Grid) : Decidable (NoRecord g) := by unfold NoRecord; infer_instance

theorem scrollUp_recording (g : Grid) (n : Nat) (hN : 0 < g.scrollbackLen) (ht : g.scrollTop = 0)
    (hb : g.scrollBottom = g.size.rows - 1) (hlen : g.rows.length = g.size.rows)
    (hsb : g.scrollback.length ≤ g.scrollbackLen) (hoff : g.scrollbackOffset ≤ g.scrollback.length) :
    g.scrollUp n = .ok (recordN g (min n g.size.rows)) := by
  rw [MiscC12.scrollUp_min_full g n ht]
  exact scrollUp_records g _ hN ht hb hlen (Nat.min_le_right _ _) hsb hoff

def suPlain (g : Grid) (k : Nat) : Grid :=
  withRows g (above g ++ shiftUp (region g) (min k (g.size.rows - g.scrollTop)) g.newRow ++ below g)

/-- **the grid after SU `k`** (= `scroll_up(k)`), all cases: `recordN` (C12: the top `min k rows` lines are appended
to the history, the offset follows) when the region is the whole screen and the capacity is not 0, `suPlain`
otherwise -/
def suClosed (g : Grid) (k : Nat) : Grid :=
  if NoRecord g then suPlain g k else recordN g (min k g.size.rows)

structure Live (g : Grid) : Prop where
  rows_pos : 1 ≤ g.size.rows
  len : g.rows.length = g.size.rows
  region_le : g.scrollTop ≤ g.scrollBottom
  region_lt : g.scrollBottom < g.size.rows
  sb_len : g.scrollback.length ≤ g.scrollbackLen
  sb_off : g.scrollbackOffset ≤ g.scrollback.length

theorem live_of_inv {g : Grid} (h : GridInv W g true) (hl : g.rows.length = g.size.rows) : Live g :=
  ⟨h.rows_pos, hl, h.region_le, h.region_lt, h.sb_len, h.sb_off⟩

theorem Live.pos {g : Grid} (h : Live g) (p : Pos) : Live { g with pos := p } :=
  ⟨h.rows_pos, h.len, h.region_le, h.region_lt, h.sb_len, h.sb_off⟩

theorem scrollUp_closed {g : Grid} (h : Live g) (k : Nat) : g.scrollUp k = .ok (suClosed g k) := by
  have hrl := h.region_lt; have hrle := h.region_le
  unfold suClosed
  by_cases hno : NoRecord g
  · rw [if_pos hno]
    exact C08.scrollUp_plain g _ _ _ (split_region g h.region_le (by rw [h.len]; exact h.region_lt)) (by omega)
      h.rows_pos hno k
  · rw [if_neg hno]
    simp only [NoRecord, not_or, Decidable.not_not] at hno
    exact scrollUp_recording g k (by omega) hno.2.1 hno.2.2 h.len h.sb_len h.sb_off

/-- **the grid after SD `k`** (= `scroll_down(k)`): `min k rows` blank lines come in at the top margin, the
region's lines move down, the line landing on the bottom margin loses its wrap flag; every other field of the
record is the old one -/
def sdClosed (g : Grid) (k : Nat) : Grid :=
  withRows g (above g ++ shiftDown (region g) (min k g.size.rows) g.newRow ++ below g)

theorem scrollDown_closed (g : Grid) (hle : g.scrollTop ≤ g.scrollBottom) (hb : g.scrollBottom < g.rows.length)
    (k : Nat) : g.scrollDown k = .ok (sdClosed g k) :=
  scrollDown_eq g _ _ _ (split_region g hle hb) k

theorem suClosed_zero {g : Grid} (h : Live g) : suClosed g 0 = g := by
  have := scrollUp_closed h 0
  rw [C12.scrollUp_eq_iterate] at this
  have hrl := h.region_lt; have hrle := h.region_le
  simp only [subM_ok (show g.scrollTop ≤ g.size.rows by omega), ok_bind, Nat.zero_min] at this
  exact (Except.ok.inj this).symm

theorem sdClosed_zero (g : Grid) (hle : g.scrollTop ≤ g.scrollBottom) (hb : g.scrollBottom < g.rows.length) :
    sdClosed g 0 = g := by
  have := scrollDown_closed g hle hb 0
  rw [scrollDown_eq_iterate] at this
  simp only [Nat.zero_min] at this
  exact (Except.ok.inj this).symm

theorem suClosed_plain {g : Grid} (hno : NoRecord g) (k : Nat) : suClosed g k = suPlain g k := if_pos hno
theorem suClosed_record {g : Grid} (hrec : ¬ NoRecord g) (k : Nat) :
    suClosed g k = recordN g (min k g.size.rows) := if_neg hrec

theorem shiftDown_eq (R : List Row) (k : Nat) (x : Row) (hk : 0 < k) (hk' : k ≤ R.length) :
    shiftDown R k x = unwrapLast (List.replicate k x ++ R.take (R.length - k)) := by
  unfold shiftDown
  rw [if_neg (by omega), List.take_append, List.length_replicate, List.take_of_length_le (by simp; omega)]

theorem shiftDown_all (R : List Row) (k : Nat) (x : Row) (hk : 0 < k) (hk' : R.length ≤ k) (hx : x.wrap false = x) :
    shiftDown R k x = List.replicate R.length x := by
  unfold shiftDown
  rw [if_neg (by omega), List.take_append_of_le_length (by simpa using hk'), List.take_replicate,
    Nat.min_eq_left hk']
  cases hn : R.length with
  | zero => simp [unwrapLast]
  | succ m =>
    rw [List.replicate_succ', unwrapLast_snoc, hx]

theorem sdClosed_all (g : Grid) (hle : g.scrollTop ≤ g.scrollBottom) (hb : g.scrollBottom < g.rows.length)
    (hl : g.rows.length = g.size.rows) {k : Nat} (hk : g.size.rows ≤ k) :
    sdClosed g k =
      withRows g (above g ++ List.replicate (g.scrollBottom + 1 - g.scrollTop) g.newRow ++ below g) := by
  have hlen := region_length g hle hb
  rw [sdClosed, Nat.min_eq_right hk, shiftDown_all _ _ _ (by omega) (by omega) rfl, hlen]

/-- `pos.row.saturating_add(n)` -/
def lfTarget (g : Grid) (n : Nat) : Nat := min (g.pos.row + n) 65535

theorem lfTarget_eq (g : Grid) (n : Nat) (hn : g.pos.row + n ≤ 65535) : lfTarget g n = g.pos.row + n :=
  Nat.min_eq_left hn

/-- the line a downward move is confined to: the bottom margin when the move starts inside the region, the last
line of the screen otherwise (also when it starts ABOVE the region: it then passes through the region) -/
def lfLimit (g : Grid) : Nat := if g.inScrollRegion then g.scrollBottom else g.size.rows - 1

/-- **closed form of `row_inc_scroll(n)`**: the grid afterwards and the returned number of scrolled lines -/
def lfClosed (g : Grid) (n : Nat) : Grid × Nat :=
  if g.inScrollRegion then
    (suClosed (withRow g (min (lfTarget g n) g.scrollBottom)) (lfTarget g n - g.scrollBottom),
     lfTarget g n - g.scrollBottom)
  else (withRow g (min (lfTarget g n) (g.size.rows - 1)), 0)

theorem rowIncScroll_spec {g : Grid} (h : Live g) (n : Nat) : g.rowIncScroll n = .ok (lfClosed g n) := by
  rw [rowIncScroll_eq g h.rows_pos n, lfClosed]
  cases hin : g.inScrollRegion
  · rfl
  · show ((withRow g (min (lfTarget g n) g.scrollBottom)).scrollUp (lfTarget g n - g.scrollBottom) >>= _) = _
    rw [scrollUp_closed (g := withRow g _) (h.pos _)]
    rfl

/-- (a) the move stays on or above its limit: only the cursor row changes, nothing scrolls -/
theorem lf_stay {g : Grid} (h : Live g) (hu : g.size.rows ≤ 65535) (n : Nat) (hn : g.pos.row + n ≤ lfLimit g) :
    lfClosed g n = (withRow g (g.pos.row + n), 0) := by
  have hlim : lfLimit g ≤ 65535 := by
    have := h.region_lt
    unfold lfLimit; split <;> omega
  unfold lfClosed
  rw [lfTarget_eq g n (Nat.le_trans hn hlim)]
  unfold lfLimit at hn
  cases hin : g.inScrollRegion
  · simp only [hin, Bool.false_eq_true, ↓reduceIte] at hn ⊢
    rw [Nat.min_eq_left hn]
  · simp only [hin, ↓reduceIte] at hn ⊢
    rw [Nat.sub_eq_zero_of_le hn, Nat.min_eq_left hn, suClosed_zero (g := withRow g _) (h.pos _)]

/-- (b) the move starts inside the region and passes the bottom margin: the cursor ends ON the bottom margin and
the region scrolls up by the excess -/
theorem lf_scroll {g : Grid} (hin : g.inScrollRegion = true) (n : Nat) (hn : g.scrollBottom < g.pos.row + n)
    (hb : g.scrollBottom ≤ 65535) :
    lfClosed g n = (suClosed (withRow g g.scrollBottom) (lfTarget g n - g.scrollBottom),
                    lfTarget g n - g.scrollBottom) := by
  unfold lfClosed lfTarget
  simp only [hin, ↓reduceIte]
  rw [show min (min (g.pos.row + n) 65535) g.scrollBottom = g.scrollBottom by omega]

theorem lf_scroll_plain {g : Grid} (hin : g.inScrollRegion = true) (n : Nat) (hn : g.scrollBottom < g.pos.row + n)
    (hb : g.scrollBottom ≤ 65535) (hno : NoRecord g) :
    (lfClosed g n).1 = withRows (withRow g g.scrollBottom)
      (above g ++ shiftUp (region g) (min (lfTarget g n - g.scrollBottom) (g.size.rows - g.scrollTop)) g.newRow
        ++ below g) := by
  rw [lf_scroll hin n hn hb]
  exact suClosed_plain (g := withRow g g.scrollBottom) hno _

theorem lf_scroll_record {g : Grid} (hin : g.inScrollRegion = true) (n : Nat) (hn : g.scrollBottom < g.pos.row + n)
    (hb : g.scrollBottom ≤ 65535) (hrec : ¬ NoRecord g) :
    (lfClosed g n).1 = recordN (withRow g g.scrollBottom) (min (lfTarget g n - g.scrollBottom) g.size.rows) := by
  rw [lf_scroll hin n hn hb]
  exact suClosed_record (g := withRow g g.scrollBottom) hrec _

/-- (c) the move starts outside the region (below it — or above it): it stops at the last line of the screen and
never scrolls -/
theorem lf_outside {g : Grid} (hu : g.size.rows ≤ 65535) (hin : g.inScrollRegion = false) (n : Nat) :
    lfClosed g n = (withRow g (min (g.pos.row + n) (g.size.rows - 1)), 0) := by
  unfold lfClosed lfTarget
  simp only [hin, Bool.false_eq_true, ↓reduceIte]
  rw [Nat.min_assoc, Nat.min_eq_right (Nat.le_trans (Nat.sub_le _ _) hu)]

def lfGrid (g : Grid) : Grid := (lfClosed g 1).1

theorem lf1_down {g : Grid} (h : Live g) (hu : g.size.rows ≤ 65535) (hn : g.pos.row + 1 ≤ lfLimit g) :
    lfGrid g = withRow g (g.pos.row + 1) := by
  unfold lfGrid; rw [lf_stay h hu 1 hn]

theorem lf1_scroll {g : Grid} (h : Live g) (hu : g.size.rows ≤ 65535) (hin : g.inScrollRegion = true)
    (hb : g.pos.row = g.scrollBottom) : lfClosed g 1 = (suClosed g 1, 1) := by
  have hrl := h.region_lt
  rw [lf_scroll hin 1 (by omega) (by omega), lfTarget_eq g 1 (by omega), hb,
    show g.scrollBottom + 1 - g.scrollBottom = 1 by omega]
  have : withRow g g.scrollBottom = g := by rw [← hb]; rfl
  rw [this]

theorem lf1_last {g : Grid} (hu : g.size.rows ≤ 65535) (hin : g.inScrollRegion = false)
    (hl : g.pos.row = g.size.rows - 1) : lfGrid g = g := by
  unfold lfGrid; rw [lf_outside hu hin 1]
  show withRow g (min (g.pos.row + 1) (g.size.rows - 1)) = g
  rw [show min (g.pos.row + 1) (g.size.rows - 1) = g.pos.row by omega]
  rfl

theorem suPlain_one {g : Grid} (h : Live g) :
    suPlain g 1 = withRows g (above g ++ ((region g).tail ++ [g.newRow]) ++ below g) := by
  have hrl := h.region_lt; have hrle := h.region_le
  unfold suPlain
  rw [show min 1 (g.size.rows - g.scrollTop) = 1 by omega,
    shiftUp_eq _ _ _ (by rw [region_length g h.region_le (by rw [h.len]; exact h.region_lt)]; omega)]
  simp

theorem suClosed_frame (g : Grid) (k : Nat) :
    (suClosed g k).pos = g.pos ∧ (suClosed g k).scrollTop = g.scrollTop ∧
      (suClosed g k).scrollBottom = g.scrollBottom := by
  unfold suClosed
  split <;> exact ⟨rfl, rfl, rfl⟩

theorem scrollUpStep_closed {g : Grid} (h : Live g) : C12.scrollUpStep g = .ok (suClosed g 1) := by
  have hup := scrollUp_closed h 1
  rw [C08.scrollUp_one _ (Nat.lt_of_le_of_lt h.region_le h.region_lt)] at hup
  obtain ⟨g1, h1, e⟩ := bind_eq_ok.mp hup
  cases e
  exact h1

theorem scrollUpStep_prev {g g' : Grid} (hb : g.scrollBottom < g.rows.length) (ht : g.scrollTop < g.scrollBottom)
    (e : C12.scrollUpStep g = .ok g') : g'.rows[g.scrollBottom - 1]? = g.rows[g.scrollBottom]? := by
  obtain ⟨-, rfl⟩ := (scrollUpStep_iff g g').mp e
  rw [suF_rows, upStep, List.getElem?_eraseIdx_of_ge (by omega), show g.scrollBottom - 1 + 1 = g.scrollBottom by omega,
    List.getElem?_append_left (by simp [List.length_take]; omega), List.getElem?_take_of_lt (by omega)]

/-- **LF, every case**: on the bottom margin the region scrolls by one line and the cursor stays (`lf1_scroll`);
everywhere else only the cursor line changes (`lf_stay`, `lf_outside`) -/
theorem lf1_cases {g : Grid} (h : Live g) (hu : g.size.rows ≤ 65535) :
    (g.inScrollRegion = true ∧ g.pos.row = g.scrollBottom ∧ lfClosed g 1 = (suClosed g 1, 1)) ∨
      ∃ r, r < g.size.rows ∧ lfClosed g 1 = (withRow g r, 0) := by
  have hrp := h.rows_pos; have hrl := h.region_lt
  cases hin : g.inScrollRegion
  · exact .inr ⟨_, by omega, lf_outside hu hin 1⟩
  · by_cases hb : g.pos.row = g.scrollBottom
    · exact .inl ⟨rfl, hb, lf1_scroll h hu hin hb⟩
    · have hlim : g.pos.row + 1 ≤ lfLimit g := by
        simp only [Grid.inScrollRegion, Bool.and_eq_true, decide_eq_true_eq] at hin
        simp only [lfLimit, Grid.inScrollRegion, hin, decide_true, Bool.and_self, ↓reduceIte]
        omega
      refine .inr ⟨_, ?_, lf_stay h hu 1 hlim⟩
      simp only [lfLimit, hin, ↓reduceIte] at hlim
      omega

/-- LF keeps what a move of the cursor and a scroll of the region keep -/
theorem lfClosed_keeps {Q : Grid → Prop}
    (hsame : ∀ {g g'}, Q g → g'.rows = g.rows → g'.scrollback = g.scrollback → Q g')
    (hlines : ∀ {g g'}, GScrolled g g' → Q g → Q g')
    {g : Grid} (h : Live g) (hu : g.size.rows ≤ 65535) (hq : Q g) : Q (lfClosed g 1).1 := by
  rcases lf1_cases h hu with ⟨-, -, e⟩ | ⟨r, -, e⟩ <;> rw [e]
  · exact hlines (scrollUp_scrolled (by rw [h.len]; exact Nat.lt_of_le_of_lt h.region_le h.region_lt)
      (scrollUp_closed h 1)) hq
  · exact hsame hq rfl rfl

/-- **closed form of `row_dec_scroll(n)`**.
Inside the region: the cursor goes up to `max top (row - n)` and the region scrolls DOWN by the excess
`n - (row - top)` (written `n + top - row`; the `extra_lines` term of the source makes this exact also when
`row - n` saturates at 0).
Outside the region: the cursor goes up to `row - n`, stopping at line 0 — and the `extra_lines` term
is still applied: if `n > row` the REGION scrolls down by `n - row` although the cursor is not in it (DESIGN §5.3;
with `n = 1` this is: RI on line 0 above an active region). -/
def riClosed (g : Grid) (n : Nat) : Grid :=
  if g.inScrollRegion then sdClosed (withRow g (max g.scrollTop (g.pos.row - n))) (n + g.scrollTop - g.pos.row)
  else sdClosed (withRow g (g.pos.row - n)) (n - g.pos.row)

theorem rowDecScroll_spec (g : Grid) (hle : g.scrollTop ≤ g.scrollBottom) (hb : g.scrollBottom < g.rows.length)
    (n : Nat) : g.rowDecScroll n = .ok (riClosed g n) := by
  rw [rowDecScroll_eq, riClosed]
  cases g.inScrollRegion <;> simp only [Bool.false_eq_true, ↓reduceIte]
  · exact scrollDown_closed (withRow g (g.pos.row - n)) hle hb _
  · exact scrollDown_closed (withRow g (max g.scrollTop (g.pos.row - n))) hle hb _

/-- (a) the move stays on or below its limit (the top margin when it starts inside the region, line 0
otherwise): only the cursor row changes -/
theorem ri_stay (g : Grid) (hle : g.scrollTop ≤ g.scrollBottom) (hb : g.scrollBottom < g.rows.length) (n : Nat)
    (hn : n + (if g.inScrollRegion then g.scrollTop else 0) ≤ g.pos.row) :
    riClosed g n = withRow g (g.pos.row - n) := by
  unfold riClosed
  cases hin : g.inScrollRegion
  · simp only [hin, Bool.false_eq_true, ↓reduceIte, Nat.add_zero] at hn ⊢
    rw [Nat.sub_eq_zero_of_le hn]
    exact sdClosed_zero (withRow g (g.pos.row - n)) hle hb
  · simp only [hin, ↓reduceIte] at hn ⊢
    rw [Nat.sub_eq_zero_of_le hn, Nat.max_eq_right (Nat.le_sub_of_add_le' hn)]
    exact sdClosed_zero (withRow g (g.pos.row - n)) hle hb

/-- (b) the move starts inside the region and passes the top margin: the cursor ends ON the top margin and the
region scrolls down by the excess `k = n - (row - top)`.  With the top margin on line 0 this is the same statement
(`k = n - row`): there `saturating_sub` stops the cursor and `extra_lines` alone supplies `k`. -/
theorem ri_scroll (g : Grid) (hin : g.inScrollRegion = true) (n : Nat) (hn : g.pos.row < n + g.scrollTop) :
    riClosed g n = sdClosed (withRow g g.scrollTop) (n + g.scrollTop - g.pos.row) := by
  unfold riClosed
  simp only [hin, ↓reduceIte]
  rw [show max g.scrollTop (g.pos.row - n) = g.scrollTop by omega]

theorem ri_scroll_rows (g : Grid) (hin : g.inScrollRegion = true) (n : Nat) (hn : g.pos.row < n + g.scrollTop) :
    riClosed g n = withRows (withRow g g.scrollTop)
      (above g ++ shiftDown (region g) (min (n + g.scrollTop - g.pos.row) g.size.rows) g.newRow ++ below g) :=
  ri_scroll g hin n hn

/-- (c) the move starts outside the region with `n > row` (`n ≤ row` is `ri_stay`): the cursor stops at line 0 and the REGION
scrolls down by `n - row` lines (DESIGN §5.3) -/
theorem ri_outside_edge (g : Grid) (hin : g.inScrollRegion = false) (n : Nat) (hn : g.pos.row < n) :
    riClosed g n = sdClosed (withRow g 0) (n - g.pos.row) := by
  unfold riClosed
  simp only [hin, Bool.false_eq_true, ↓reduceIte]
  rw [show g.pos.row - n = 0 by omega]

theorem ri_blank (g : Grid) (hle : g.scrollTop ≤ g.scrollBottom) (hb : g.scrollBottom < g.rows.length)
    (hl : g.rows.length = g.size.rows) (n : Nat) (hn : g.pos.row + g.size.rows ≤ n) :
    riClosed g n = withRows (withRow g (if g.inScrollRegion then g.scrollTop else 0))
      (above g ++ List.replicate (g.scrollBottom + 1 - g.scrollTop) g.newRow ++ below g) := by
  have hrows : 0 < g.size.rows := hl ▸ Nat.zero_lt_of_lt hb
  have hlt : g.pos.row < n := Nat.lt_of_lt_of_le (Nat.lt_add_of_pos_right hrows) hn
  have hk : g.size.rows ≤ n - g.pos.row := Nat.le_sub_of_add_le' hn
  cases hin : g.inScrollRegion
  · rw [ri_outside_edge g hin n hlt, sdClosed_all (withRow g 0) hle hb hl hk]
    rfl
  · rw [ri_scroll g hin n (Nat.lt_add_right _ hlt),
      sdClosed_all (withRow g g.scrollTop) hle hb hl (Nat.le_trans hk (Nat.sub_le_sub_right (Nat.le_add_right ..) _))]
    rfl

theorem ri1_up (g : Grid) (hle : g.scrollTop ≤ g.scrollBottom) (hb : g.scrollBottom < g.rows.length)
    (hn : 1 + (if g.inScrollRegion then g.scrollTop else 0) ≤ g.pos.row) :
    riClosed g 1 = withRow g (g.pos.row - 1) := ri_stay g hle hb 1 hn

theorem ri1_scroll (g : Grid) (hin : g.inScrollRegion = true) (ht : g.pos.row = g.scrollTop) :
    riClosed g 1 = sdClosed g 1 := by
  rw [ri_scroll g hin 1 (by omega), show 1 + g.scrollTop - g.pos.row = 1 by omega]
  have : withRow g g.scrollTop = g := by rw [← ht]; rfl
  rw [this]

/-- RI on line 0 ABOVE an active region (outside the contract of C08, DESIGN §5.3): the region, which the cursor is not in,
scrolls down by one line -/
theorem ri1_line0_above (g : Grid) (hin : g.inScrollRegion = false) (h0 : g.pos.row = 0) :
    riClosed g 1 = sdClosed g 1 := by
  rw [ri_outside_edge g hin 1 (by omega), h0]
  have : withRow g 0 = g := by rw [← h0]; rfl
  rw [this]

theorem sdClosed_one (g : Grid) (hr : 1 ≤ g.size.rows) (hle : g.scrollTop ≤ g.scrollBottom)
    (hb : g.scrollBottom < g.rows.length) :
    sdClosed g 1 = withRows g (above g ++ unwrapLast (g.newRow :: (region g).dropLast) ++ below g) := by
  unfold sdClosed
  rw [show min 1 g.size.rows = 1 by omega]
  congr 3
  unfold shiftDown
  simp only [Nat.one_ne_zero, ↓reduceIte, List.replicate_one, List.singleton_append]
  have hlen := region_length g hle hb
  cases hR : region g with
  | nil => rw [hR] at hlen; simp at hlen; omega
  | cons r0 R' =>
    rw [List.dropLast_eq_take]
    simp

/-- `row_inc_scroll(n)` (LF/VT/FF call it with `n = 1`; so does auto-wrap) on every grid of a reachable screen -/
theorem lf_spec {g : Grid} (h : GridInv W g true) (hl : g.rows.length = g.size.rows) (n : Nat) :
    g.rowIncScroll n = .ok (lfClosed g n) := rowIncScroll_spec (live_of_inv h hl) n

/-- `row_dec_scroll(n)` (RI calls it with `n = 1`) on every grid of a reachable screen -/
theorem ri_spec {g : Grid} (h : GridInv W g true) (hl : g.rows.length = g.size.rows) (n : Nat) :
    g.rowDecScroll n = .ok (riClosed g n) :=
  rowDecScroll_spec g h.region_le (by rw [hl]; exact h.region_lt) n

end Vt.C08lfri
