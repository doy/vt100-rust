import Vt.Props.C13
import Vt.Props.C12
import Vt.Props.C02
/-
  MiscC13 — C13: `cell(r, c)` is `Some` exactly inside the screen, at EVERY scrollback offset.

  The property exempts only "scrollback views after a width change": history lines keep the width they had when they
  scrolled off (`set_size` does not touch the scrollback).  `viewWidthOk g` (decidable) says that every history line in
  view has `cols` cells; it holds trivially at offset 0, it is what `cell_some_iff_any_offset` needs beside `Inv`, it is
  exact (`cell_some_iff_all_iff`), and the exempted case is real (`width_change_counterexample`).  Without it the width
  change shows up in the column bound only (`cell_row_bound`).
-/
namespace Vt.MiscC13
open Vt

variable {W : Nat → Option Nat}

/-- the history lines in view: the first `rows` of the last `offset` history lines -/
def viewHistory (g : Grid) : List Row :=
  (g.scrollback.drop (g.scrollback.length - g.scrollbackOffset)).take g.rows.length

def viewWidthOk (g : Grid) : Bool := (viewHistory g).all (fun r => r.cells.length == g.size.cols)

theorem viewWidthOk_offset0 (g : Grid) (h : g.scrollbackOffset = 0) : viewWidthOk g = true := by
  simp [viewWidthOk, viewHistory, h]

theorem viewWidthOk_of_all (g : Grid) (h : ∀ r ∈ g.scrollback, r.cells.length = g.size.cols) :
    viewWidthOk g = true := by
  simp only [viewWidthOk, viewHistory, List.all_eq_true, beq_iff_eq]
  intro r hr
  exact h r (List.mem_of_mem_drop (List.mem_of_mem_take hr))

theorem visible_split (g : Grid) (h : g.scrollbackOffset ≤ g.scrollback.length) :
    g.visibleRows = .ok (viewHistory g ++ g.rows.take (g.rows.length - g.scrollbackOffset)) ∧
    (viewHistory g ++ g.rows.take (g.rows.length - g.scrollbackOffset)).length = g.rows.length := by
  refine ⟨C12.visibleRows_spec g h, ?_⟩
  obtain ⟨rs, e, hl⟩ := C12.visibleRows_length g h
  cases e.symm.trans (C12.visibleRows_spec g h)
  exact hl

/-- **no condition on the history**: `cell(r, c)` never fails; it is `Some` only for `r < rows`, and for
such `r` exactly when `c` is below the width of the visible row `r` -/
theorem cell_row_bound (s : Screen) (hi : Inv W s) (r c : Nat) :
    ∃ vis o, s.cur.visibleRows = .ok vis ∧ vis.length = s.cur.size.rows ∧ s.cell r c = .ok o ∧
      (o.isSome ↔ ∃ h : r < vis.length, c < vis[r].cells.length) := by
  obtain ⟨hg, hl⟩ := ((inv_iff W s).mp hi).cur
  obtain ⟨hv, hlen⟩ := visible_split s.cur hg.sb_off
  generalize viewHistory s.cur ++ List.take (s.cur.rows.length - s.cur.scrollbackOffset) s.cur.rows = vis
    at hv hlen
  refine ⟨vis, (vis[r]?).bind (fun row => row.get c), hv, hlen.trans hl, ?_, ?_⟩
  · simp only [Screen.cell, Grid.visibleCell, Grid.visibleRow, hv, ok_bind, pure_eq_ok]
  · by_cases hr : r < vis.length
    · simp only [List.getElem?_eq_getElem hr, Option.bind_some, Row.get, isSome_getElem?, hr,
        exists_true_left]
    · simp only [List.getElem?_eq_none (Nat.le_of_not_lt hr), Option.bind_none, Option.isSome_none,
        Bool.false_eq_true]
      exact ⟨False.elim, fun ⟨h, _⟩ => hr h⟩

theorem visible_width (s : Screen) (hi : Inv W s) (hw : viewWidthOk s.cur = true)
    (vis : List Row) (hv : s.cur.visibleRows = .ok vis) : ∀ row ∈ vis, row.cells.length = s.cur.size.cols := by
  obtain ⟨hg, hl⟩ := ((inv_iff W s).mp hi).cur
  obtain ⟨hv', _⟩ := visible_split s.cur hg.sb_off
  rw [hv'] at hv
  simp only [Except.ok.injEq] at hv
  subst hv
  intro row hrow
  rcases List.mem_append.mp hrow with h | h
  · simp only [viewWidthOk, List.all_eq_true, beq_iff_eq] at hw
    exact hw row h
  · exact (hg.row_ok row (List.mem_of_mem_take h)).1

/-- **C13, `cell` at every offset.**  Under `Inv W s`, if every history line in view has `cols` cells
(`viewWidthOk`; true at offset 0, and whenever the width was not changed while those lines were in the
scrollback), then `cell(r, c)` returns, and is `Some` exactly when `r < rows ∧ c < cols`. -/
theorem cell_some_iff_any_offset (s : Screen) (hi : Inv W s) (hw : viewWidthOk s.cur = true) (r c : Nat) :
    ∃ o, s.cell r c = .ok o ∧ (o.isSome ↔ r < s.cur.size.rows ∧ c < s.cur.size.cols) := by
  obtain ⟨vis, o, hv, hlen, hc, hiff⟩ := cell_row_bound s hi r c
  have hwid (h : r < vis.length) : vis[r].cells.length = s.cur.size.cols :=
    visible_width s hi hw vis hv _ (List.getElem_mem h)
  refine ⟨o, hc, ?_⟩
  rw [hiff, ← hlen]
  exact ⟨fun ⟨h1, h2⟩ => ⟨h1, hwid h1 ▸ h2⟩, fun ⟨h1, h2⟩ => ⟨h1, (hwid h1).symm ▸ h2⟩⟩

theorem cell_some_iff_offset0 (s : Screen) (hi : Inv W s) (h0 : s.cur.scrollbackOffset = 0) (r c : Nat) :
    ∃ o, s.cell r c = .ok o ∧ (o.isSome ↔ r < s.cur.size.rows ∧ c < s.cur.size.cols) :=
  cell_some_iff_any_offset s hi (viewWidthOk_offset0 _ h0) r c

/-- **the condition is exact**: under `Inv`, "`cell(r, c)` is `Some` iff `r < rows ∧ c < cols`, for all
`r`, `c`" holds if and only if every history line in view has `cols` cells -/
theorem cell_some_iff_all_iff (s : Screen) (hi : Inv W s) :
    (∀ r c, ∃ o, s.cell r c = .ok o ∧ (o.isSome ↔ r < s.cur.size.rows ∧ c < s.cur.size.cols))
      ↔ viewWidthOk s.cur = true := by
  constructor
  · intro hall
    obtain ⟨hg, hl⟩ := ((inv_iff W s).mp hi).cur
    obtain ⟨hv, hlen⟩ := visible_split s.cur hg.sb_off
    simp only [viewWidthOk, List.all_eq_true, beq_iff_eq]
    intro row hrow
    obtain ⟨j, hj, rfl⟩ := List.getElem_of_mem hrow
    -- row `j` of the view is that history line
    have hget : (viewHistory s.cur ++ s.cur.rows.take (s.cur.rows.length - s.cur.scrollbackOffset))[j]?
        = some (viewHistory s.cur)[j] := by
      rw [List.getElem?_append_left hj, List.getElem?_eq_getElem hj]
    have hjr : j < s.cur.size.rows := by rw [← hl, ← hlen, List.length_append]; omega
    have key : ∀ c, c < ((viewHistory s.cur)[j]).cells.length ↔ c < s.cur.size.cols := by
      intro c
      obtain ⟨o, ho, hiff⟩ := hall j c
      simp only [Screen.cell, Grid.visibleCell, Grid.visibleRow, hv, ok_bind, pure_eq_ok, hget,
        Option.bind_some, Row.get, Except.ok.injEq] at ho
      subst ho
      rw [isSome_getElem?] at hiff
      exact ⟨fun h => (hiff.mp h).2, fun h => hiff.mpr ⟨hjr, h⟩⟩
    have h1 := key ((viewHistory s.cur)[j]).cells.length
    have h2 := key s.cur.size.cols
    omega
  · intro hw r c
    exact cell_some_iff_any_offset s hi hw r c

/-- test: 2x3 screen, capacity 5, four lines printed (two scrolled off), scrolled back by 2: `Inv`,
offset 2, `viewWidthOk`, and `cell` is `Some` exactly on the 2x3 rectangle (checked on a 4x5 grid of
positions) -/
theorem any_offset_nonvacuous :
    isOkTrue (do
      let p ← C02.run 2 3 5 [[97, 13, 10, 98, 13, 10, 99, 13, 10, 100]]
      let s ← p.screen.setScrollback 2
      let cells ← (List.range 4).mapM (fun r => (List.range 5).mapM (fun c => do
        let o ← s.cell r c
        pure (o.isSome == (decide (r < 2) && decide (c < 3)))))
      pure (decide (Inv W0 s) && s.cur.scrollbackOffset == 2 && viewWidthOk s.cur &&
            cells.all (fun l => l.all id))) = true := by
  decide +kernel

/-- test (the exempted case): the same history, then `set_size(2, 5)` and `set_scrollback(1)`: `Inv` still
holds, but the history line in view is 3 cells wide on a 5-column screen: `viewWidthOk` fails and
`cell(0, 4)` is `None` although `0 < rows` and `4 < cols`; the live row below it is 5 wide:
`cell(1, 4)` is `Some` -/
theorem width_change_counterexample :
    isOkTrue (do
      let p ← C02.run 2 3 5 [[97, 13, 10, 98, 13, 10, 99, 13, 10, 100]]
      let s ← p.screen.setSize 2 5
      let s ← s.setScrollback 1
      let o ← s.cell 0 4
      let o' ← s.cell 1 4
      pure (decide (Inv W0 s) && s.cur.scrollbackOffset == 1 && s.cur.size == ⟨2, 5⟩ &&
            !viewWidthOk s.cur && o.isNone && o'.isSome)) = true := by
  decide +kernel

end Vt.MiscC13

namespace Vt.C13
variable (W : Nat → Option Nat)

/-- C13: at offset 0, `cell(r,c)` is `Some` exactly when `r < rows ∧ c < cols` -/
theorem cell_some_iff (s : Screen) (hi : Inv W s) (h0 : s.cur.scrollbackOffset = 0) (r c : Nat) :
    ∃ o, s.cell r c = .ok o ∧ (o.isSome ↔ r < s.cur.size.rows ∧ c < s.cur.size.cols) :=
  MiscC13.cell_some_iff_offset0 s hi h0 r c

end Vt.C13
