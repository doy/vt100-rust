/-
  C03 (continued) — totality of the read accessors.

  Every accessor that walks the grid returns normally (`.ok`) on every screen that satisfies `Inv`, for *every*
  argument value (any `start`, `width`, row and column numbers, in or out of range), and for a diff against *any*
  other `Inv` screen (of any size): `accessors_total`.  Together with `reachable_inv` (every reachable screen
  satisfies `Inv`) this is the accessor half of C03: none of the panic sites (the numbers are the model's SITE ids,
  the first argument of `subM` / `getM` / `panic` (Vt/Model/Prim), not Rust line numbers; the literal `412`, `415` …
  in the proofs below are the same ids)
     201 (`from_utf8(..).unwrap()` in `Cell::contents`), 321 (`col - prev_col`), 331
     (`pos.col - prev_col`), 332 (`row - 1`), 343–346 (last-cell lookups of `write_contents_diff`),
     409 (`scrollback.len() - offset`), 411–417 (`drawing_cell(..).unwrap()` and `cols - 1/2` of
     `write_cursor_position_formatted`)
  can be reached.
-/
import Vt.Props.C03
import Vt.Props.C14b
import Vt.Props.InvPerform
import Vt.Lemmas.FmtStep
namespace Vt.C03

/-- totality of a fold over the cells of a line with their column numbers: `P col s` is an invariant indexed by the
column the fold has come to, and each step that has it returns.  `row_formatted_total` and `row_diff_total` are the
instance `EraseLe`, through `window_fold` (the window `start .. start + width`). -/
theorem enumFrom_fold {α σ} (f : σ → Nat × α → M σ) (P : Nat → σ → Prop) :
    ∀ (l : List α) (k : Nat) (s0 : σ),
      (∀ col c s, c ∈ l → P col s → ∃ s', f s (col, c) = .ok s' ∧ P (col + 1) s') →
      P k s0 → ∃ s' j, (C14.enumFrom k l).foldlM f s0 = .ok s' ∧ P j s'
  | [], k, s0, _, h0 => ⟨s0, k, rfl, h0⟩
  | x :: xs, k, s0, hstep, h0 => by
    obtain ⟨s1, e1, p1⟩ := hstep k x s0 (List.mem_cons_self ..) h0
    obtain ⟨s', j, e2, p2⟩ := enumFrom_fold f P xs (k + 1) s1
      (fun col c s hc => hstep col c s (List.mem_cons_of_mem _ hc)) p1
    exact ⟨s', j, by simpa [C14.enumFrom, List.zipIdx_cons, e1] using e2, p2⟩

theorem window_fold {α σ} (f : σ → Nat × α → M σ) (P : Nat → σ → Prop) (l : List α) (start width : Nat) (s0 : σ)
    (hstep : ∀ col c s, c ∈ l → P col s → ∃ s', f s (col, c) = .ok s' ∧ P (col + 1) s') (h0 : P start s0) :
    ∃ s' j, (Row.window l start width).foldlM f s0 = .ok s' ∧ P j s' := by
  rw [C14.window_enum]
  exact enumFrom_fold f P _ start s0
    (fun col c s hc => hstep col c s (List.mem_of_mem_drop (List.mem_of_mem_take hc))) h0

open Fmt in
theorem flush_ok (n row : Nat) (w : Bool) (st : Row.FmtSt) (col : Nat) (c : Cell) (hp : EraseLe col st) :
    ∃ st1, flush n row w st col c = .ok st1 := by
  cases he : st.erase with
  | none => exact ⟨_, flush_none _ _ _ _ _ _ he⟩
  | some pa =>
    rw [flush_some _ _ _ _ _ _ he, subM_ok (hp _ _ he)]
    split <;> exact ⟨_, rfl⟩

open Fmt in
theorem emit_ok (n row : Nat) (w : Bool) (st : Row.FmtSt) (col : Nat) (c : Cell) (d : Bool) (hc : CellFine c) :
    ∃ st', emitCell n row w st col c d = .ok st' := by
  cases d with
  | false => exact ⟨_, rfl⟩
  | true =>
    cases hh : c.hasContents with
    | true => exact ⟨_, by rw [emit_text _ _ _ _ _ _ hh, contentsBytes_ok hc]; rfl⟩
    | false => exact ⟨_, emit_blank _ _ _ _ _ _ hh⟩

/-- nothing is asked of pen, position and output; a pending run started at or before `col` -/
theorem kept_run (row col : Nat) :
    Fmt.Kept row (fun _ => True) (fun _ => True) (fun pc _ => pc ≤ col) (fun _ => True) :=
  ⟨fun _ _ => trivial, fun _ => ⟨trivial, trivial⟩⟩

theorem diffStep_ok (n row : Nat) (w : Bool) (st : Row.FmtSt) (col : Nat) (c p : Cell)
    (hc : CellFine c) (hp : EraseLe col st) :
    ∃ st', Row.diffStep n row w st (col, (c, p)) = .ok st' ∧ EraseLe (col + 1) st' := by
  have ok : ∃ st', Row.diffStep n row w st (col, (c, p)) = .ok st' := by
    unfold Row.diffStep
    simp only
    split
    · exact ⟨_, rfl⟩
    · obtain ⟨st1, e1⟩ := flush_ok n row w { st with prevWasWide := c.isWide } col c hp
      obtain ⟨st', e'⟩ := emit_ok n row w st1 col c (!(c.eq p)) hc
      exact ⟨st', by rw [fmtCellStep_eq, e1]; exact e'⟩
  obtain ⟨st', e⟩ := ok
  exact ⟨st', e, fun pc a h => Nat.le_succ_of_le ((C12.MPred.iff.mp (Fmt.diffStep_all (kept_run row col) n w
    (p := (col, (c, p))) ⟨trivial, trivial, hp, trivial⟩ ⟨trivial, trivial, Nat.le_refl _⟩) _ e).run pc a h)⟩

theorem fmtStep_ok (n row : Nat) (w : Bool) (st : Row.FmtSt) (col : Nat) (c : Cell)
    (hc : CellFine c) (hp : EraseLe col st) :
    ∃ st', Row.fmtStep n row w st (col, c) = .ok st' ∧ EraseLe (col + 1) st' :=
  diffStep_ok n row w st col c Cell.new hc hp

/-- `Row::write_contents_formatted` cannot fail on a row of valid cells, whatever the window, as long
as a wrapped-onto row without a known previous position is not row 0 -/
theorem row_formatted_total (r : Row) (hr : ∀ c ∈ r.cells, CellFine c) (start width row : Nat) (w : Bool)
    (pp : Option Pos) (pa : Option Attrs) (h0 : pp = none → w = true → 1 ≤ row) :
    ∃ res, r.writeContentsFormatted start width row w pp pa = .ok res := by
  have hp : ∃ p, Fmt.wcfPos r start row w pp = .ok p := by
    cases pp with
    | some p => exact ⟨p, rfl⟩
    | none =>
      by_cases hw : w = true
      · exact ⟨_, by simp only [Fmt.wcfPos, hw, ↓reduceIte, subM_ok (h0 rfl hw), ok_bind]; rfl⟩
      · exact ⟨_, by simp only [Fmt.wcfPos, hw, Bool.false_eq_true, ↓reduceIte]; rfl⟩
  obtain ⟨p, e⟩ := hp
  obtain ⟨st, j, e2, _⟩ := window_fold (Row.fmtStep r.cols row w) EraseLe r.cells start width
    (Fmt.wcfStart r start row w p (pa.getD Attrs.default))
    (fun col c s hc hp => fmtStep_ok r.cols row w s col c (hr c hc) hp)
    (by unfold Fmt.wcfStart; split <;> exact fun _ _ h => nomatch h)
  rw [Fmt.wcf_eq, e, ok_bind, e2]
  exact ⟨_, rfl⟩

/-- the part of `write_contents_diff` after the cell loop cannot fail: the row has a last cell, and a
second half of a wide character there has its first half in front of it -/
theorem diffEnd_total {W : Nat → Option Nat} (r p : Row) (hr : rowOk W r = true) (row : Nat) (st : Row.FmtSt) :
    ∃ res, Row.diffEnd r p row st = .ok res := by
  obtain ⟨hlen, hci⟩ := (rowOk_iff W r).mp hr
  have hlen : 0 < r.cells.length := hlen
  by_cases hw : ((!r.wrapped && p.wrapped) || (!p.wrapped && r.wrapped)) = true
  · have h2 : (r.cells[r.cells.length - 1]'(by omega)).cont = true → 2 ≤ r.cells.length := fun hcont => by
      obtain ⟨j0, _, hj0, _, _⟩ := paired_cont_prev (List.getElem?_eq_getElem (by omega)) hci.paired hcont
      omega
    have hc : (if (r.cells[r.cells.length - 1]'(by omega)).cont = true then r.cells.length - 2 else r.cells.length - 1) <
        r.cells.length := by split <;> omega
    exact ⟨_, diffEnd_eq r p row st hw hlen _ hc rfl h2 (rowFine_of_ok hr _ (List.getElem_mem hc))⟩
  · exact ⟨_, if_neg hw⟩

theorem row_diff_total {W : Nat → Option Nat} (r p : Row) (hr : rowOk W r = true)
    (hpv : ∀ c ∈ p.cells, CellFine c) (start width row : Nat) (w pw : Bool) (pp : Pos) (pa : Attrs) :
    ∃ res, r.writeContentsDiff p start width row w pw pp pa = .ok res := by
  unfold Row.writeContentsDiff
  have h1 : ∃ st0, Row.diffStart r p start row w pw pp pa = .ok st0 ∧ st0.erase = none := by
    by_cases h : ∃ fc pc, r.cells[start]? = some fc ∧ p.cells[start]? = some pc ∧ (w && !pw && fc.eq pc && pp.row + 1 == row
        && decide (pp.col ≥ r.cols - (if pc.isWide then 1 else 0))) = true
    · obtain ⟨fc, pc, e1, e2, hc⟩ := h
      exact ⟨_, diffStart_eq e1 e2 row pa hc (hpv pc (List.mem_of_getElem? e2)), rfl⟩
    · exact ⟨_, diffStart_quiet r p start row w pw pp pa fun fc pc e1 e2 =>
        Bool.eq_false_iff.mpr fun hc => h ⟨fc, pc, e1, e2, hc⟩, rfl⟩
  obtain ⟨st0, e0, he0⟩ := h1
  rw [e0]
  simp only [ok_bind]
  obtain ⟨st, j, e2, _⟩ := window_fold (Row.diffStep r.cols row w) EraseLe (r.cells.zip p.cells) start width st0
    (fun col c s hc hp => diffStep_ok r.cols row w s col c.1 c.2 (rowFine_of_ok hr c.1 (List.of_mem_zip hc).1) hp)
    (fun pc a h => by rw [he0] at h; simp at h)
  rw [e2]
  simp only [ok_bind]
  exact diffEnd_total r p hr row _

variable {W : Nat → Option Nat}

theorem fmtRowsLoop_total (cols : Nat) : ∀ (rs : List Row) (i : Nat) (w : Bool) (pp : Pos) (pa : Attrs)
    (out : List Nat), (∀ r ∈ rs, rowOk W r = true) → ∃ res, Grid.fmtRowsLoop cols rs i w pp pa out = .ok res
  | [], _, _, pp, pa, out, _ => ⟨(out, pp, pa), rfl⟩
  | r :: rs, i, w, pp, pa, out, h => by
    obtain ⟨⟨bs, np, na⟩, e⟩ := row_formatted_total r (rowFine_of_ok (h r (List.mem_cons_self ..))) 0 cols i w
      (some pp) (some pa) (fun hh => by simp at hh)
    simp only [Grid.fmtRowsLoop, e, ok_bind]
    exact fmtRowsLoop_total cols rs _ _ _ _ _ (fun r' hr' => h r' (List.mem_cons_of_mem _ hr'))

theorem diffRowsLoop_total (cols : Nat) : ∀ (rs : List (Row × Row)) (i : Nat) (w pw : Bool) (pp : Pos) (pa : Attrs)
    (out : List Nat), (∀ p ∈ rs, rowOk W p.1 = true ∧ rowOk W p.2 = true) →
    ∃ res, Grid.diffRowsLoop cols rs i w pw pp pa out = .ok res
  | [], _, _, _, pp, pa, out, _ => ⟨(out, pp, pa), rfl⟩
  | (r, p) :: rs, i, w, pw, pp, pa, out, h => by
    have hrp := h (r, p) (List.mem_cons_self ..)
    obtain ⟨⟨bs, np, na⟩, e⟩ := row_diff_total r p hrp.1 (rowFine_of_ok hrp.2) 0 cols i w pw pp pa
    simp only [Grid.diffRowsLoop, e, ok_bind]
    exact diffRowsLoop_total cols rs _ _ _ _ _ _ (fun r' hr' => h r' (List.mem_cons_of_mem _ hr'))

theorem Live.shaped {g : Grid} (h : Live W g) : C16cells.Shaped g := C16cells.GridInv.shaped h.inv h.alloc

open RowDraw (lastOcc) in
/-- the cell `write_cursor_position_formatted` looks at to decide whether the end of line `k` is occupied: the
last cell, or the one before when the last is the second half of a wide character.  It holds text exactly when
the last column is occupied, and then it ends at the right margin -/
theorem end_cell (g : Grid) {k : Nat} {r : Row} (hr : g.rows[k]? = some r) (hok : CellsInv W r.cells)
    (hswd : r.cells.length = g.size.cols) (hc1 : 1 ≤ g.size.cols) :
    ∃ c, ∃ hc : c < r.cells.length, g.endOfRowPos k = .ok ⟨k, c⟩ ∧
      (∀ site, g.drawingCellM site ⟨k, c⟩ = .ok r.cells[c]) ∧
      (r.cells[c].hasContents = true ↔ lastOcc r.cells) ∧
      (r.cells[c].hasContents = true → c + (if r.cells[c].wide then 2 else 1) = g.size.cols) ∧
      (r.cells[c].hasContents = false →
        c = g.size.cols - 1 ∧ r.cells[c].cont = false ∧ r.cells[c].wide = false) := by
  have hl1 : g.size.cols - 1 < r.cells.length := by omega
  have hdraw : ∀ site j (hj : j < r.cells.length), g.drawingCellM site ⟨k, j⟩ = .ok r.cells[j] :=
    fun site j hj => drawingCellM_of site hr (List.getElem?_eq_getElem hj)
  have hocc : lastOcc r.cells ↔ r.cells[g.size.cols - 1].hasContents = true ∨
      r.cells[g.size.cols - 1].cont = true := by
    simp only [lastOcc, hswd]
    exact ⟨fun ⟨_, h⟩ => h, fun h => ⟨hc1, h⟩⟩
  cases hlc : r.cells[g.size.cols - 1].cont with
  | true =>
    -- the second half of a wide character: its first half is in the column before
    obtain ⟨j0, pv, hj0, hpv, hpvw⟩ := paired_cont_prev (List.getElem?_eq_getElem hl1) hok.paired hlc
    obtain rfl : j0 = g.size.cols - 2 := by omega
    have hl2 : g.size.cols - 2 < r.cells.length := by omega
    have hwide : r.cells[g.size.cols - 2].wide = true := by
      rw [List.getElem?_eq_getElem hl2] at hpv; rw [Option.some.inj hpv]; exact hpvw
    have hh : r.cells[g.size.cols - 2].hasContents = true := by
      cases hb : r.cells[g.size.cols - 2].hasContents with
      | true => rfl
      | false => exact absurd (blank_narrow_of_ok (hok.cells_ok _ (List.getElem_mem hl2)) hb) (by simp [Cell.isWide, hwide])
    refine ⟨g.size.cols - 2, hl2, ?_, fun site => hdraw site _ hl2, ⟨fun _ => hocc.mpr (Or.inr hlc), fun _ => hh⟩,
      fun _ => by rw [hwide]; simp only [↓reduceIte]; omega, fun h => by rw [hh] at h; cases h⟩
    simp only [Grid.endOfRowPos, subM_ok hc1, ok_bind, hdraw 412 _ hl1, Cell.isWideContinuation, hlc, ↓reduceIte,
      subM_ok (show 2 ≤ g.size.cols by omega), pure_eq_ok]
  | false =>
    -- the last column cannot hold the first half of a wide character
    have hnw : r.cells[g.size.cols - 1].wide = false := by
      cases hw : r.cells[g.size.cols - 1].wide with
      | false => rfl
      | true =>
        obtain ⟨d, hd, _⟩ := paired_wide_next (List.getElem?_eq_getElem hl1) hok.paired hw
        have := getElem?_lt hd; omega
    refine ⟨g.size.cols - 1, hl1, ?_, fun site => hdraw site _ hl1, by rw [hocc, hlc]; simp,
      fun _ => by rw [hnw]; simp only [Bool.false_eq_true, ↓reduceIte]; omega, fun _ => ⟨rfl, hlc, hnw⟩⟩
    simp only [Grid.endOfRowPos, subM_ok hc1, ok_bind, hdraw 412 _ hl1, Cell.isWideContinuation, hlc,
      Bool.false_eq_true, ↓reduceIte, pure_eq_ok]

theorem Live.endCell {g : Grid} (h : Live W g) {row : Nat} (hr : row < g.size.rows) :
    ∃ c cell, g.endOfRowPos row = .ok ⟨row, c⟩ ∧ (∀ site, g.drawingCellM site ⟨row, c⟩ = .ok cell) ∧ CellFine cell := by
  have hrl : row < g.rows.length := h.alloc ▸ hr
  obtain ⟨hlen, hok⟩ := h.inv.row_ok _ (List.getElem_mem hrl)
  obtain ⟨c, hc, e, hd, -⟩ := end_cell g (List.getElem?_eq_getElem hrl) ((rowOk_iff W _).mp hok).2 hlen h.inv.cols_pos
  exact ⟨c, _, e, hd, rowFine_of_ok hok _ (List.getElem_mem hc)⟩

theorem cursorSearch_total {g : Grid} (h : Live W g) (pp : Option Pos) (pa : Attrs) :
    ∀ (is : List Nat), (∀ i ∈ is, i < g.size.rows) → ∃ res, g.cursorSearch pp pa is = .ok res
  | [], _ => ⟨none, rfl⟩
  | i :: is, hi => by
    obtain ⟨c, cell, e, ec, hcf⟩ := h.endCell (hi i (List.mem_cons_self ..))
    simp only [Grid.cursorSearch, e, ok_bind, ec 414, contentsBytes_ok hcf]
    split
    · cases pp with
      | none => exact ⟨_, rfl⟩
      | some q =>
        simp only
        split <;> exact ⟨_, rfl⟩
    · exact cursorSearch_total h pp pa is (fun j hj => hi j (List.mem_cons_of_mem _ hj))

theorem cursor_total {g : Grid} (h : Live W g) (pp : Option Pos) (pa : Option Attrs) :
    ∃ bs, g.writeCursorPositionFormatted pp pa = .ok bs := by
  unfold Grid.writeCursorPositionFormatted
  simp only
  split
  · obtain ⟨c, cell, e, ec, hcf⟩ := h.endCell h.inv.pos_row
    simp only [e, ok_bind, ec 415, contentsBytes_ok hcf]
    split
    · exact ⟨_, rfl⟩
    · obtain ⟨found, ef⟩ := cursorSearch_total h pp (pa.getD Attrs.default) (List.range g.pos.row).reverse
        (fun i hi => by
          have := List.mem_range.mp (List.mem_reverse.mp hi)
          have := h.inv.pos_row; omega)
      simp only [ef, ok_bind]
      cases found with
      | some out => exact ⟨_, rfl⟩
      | none =>
        have hc := h.inv.cols_pos
        obtain ⟨_, c', _, _, ec'⟩ := h.shaped.cell_some g.pos.row (g.size.cols - 1) h.inv.pos_row (by omega)
        simp only [subM_ok hc, ok_bind, Grid.drawingCellM, ec']
        exact ⟨_, rfl⟩
  · exact ⟨_, rfl⟩

theorem grid_formatted_total {g : Grid} (h : Live W g) : ∃ res, g.writeContentsFormatted = .ok res := by
  obtain ⟨v, e, hv⟩ := visibleRows_good h.inv
  obtain ⟨⟨out, pp, pa⟩, e2⟩ := fmtRowsLoop_total g.size.cols v 0 false ⟨0, 0⟩ Attrs.default
    (Term.clearAttrs ++ Term.clearScreen) hv
  obtain ⟨cur, e3⟩ := cursor_total h (some pp) (some pa)
  simp only [Grid.writeContentsFormatted, e, ok_bind, e2, e3]
  exact ⟨_, rfl⟩

theorem grid_diff_total {g p : Grid} {un : Bool} (h : Live W g) (hp : GridInv W p un) (pa : Attrs) :
    ∃ res, g.writeContentsDiff p pa = .ok res := by
  obtain ⟨v, e, hv⟩ := visibleRows_good h.inv
  obtain ⟨pv, pe, hpv⟩ := visibleRows_good hp
  obtain ⟨⟨out, pp, pa'⟩, e2⟩ := diffRowsLoop_total (W := W) g.size.cols (v.zip pv) 0 false false p.pos pa []
    (fun q hq => ⟨hv _ (List.of_mem_zip hq).1, hpv _ (List.of_mem_zip hq).2⟩)
  obtain ⟨cur, e3⟩ := cursor_total h (some pp) (some pa')
  simp only [Grid.writeContentsDiff, e, pe, ok_bind, e2, e3]
  exact ⟨_, rfl⟩

/-- **C03** `contents()` returns normally -/
theorem contents_total {s : Screen} (h : Inv W s) : ∃ bs, s.contents = .ok bs :=
  let ⟨_, _, e⟩ := C14.contents_eq h; ⟨_, e⟩

/-- **C03** `rows(start, width)` returns normally for all `start`, `width` -/
theorem rows_total {s : Screen} (h : Inv W s) (start width : Nat) : ∃ rs, s.rows start width = .ok rs :=
  let ⟨_, _, e⟩ := C14.rows_eq h start width; ⟨_, e⟩

/-- **C03** `contents_between(r1, c1, r2, c2)` returns normally for all four arguments -/
theorem contents_between_total {s : Screen} (h : Inv W s) (sr sc er ec : Nat) :
    ∃ bs, s.contentsBetween sr sc er ec = .ok bs := by
  rcases Nat.lt_trichotomy sr er with hlt | rfl | hgt
  · exact let ⟨_, _, e⟩ := C14.contents_between_eq h sr sc er ec hlt; ⟨_, e⟩
  · rcases Nat.lt_or_ge sc ec with hc | hc
    · obtain ⟨rs, e⟩ := rows_total h sc (ec - sc)
      exact ⟨_, by rw [C14.contents_between_same_row s sr sc ec hc, e]; rfl⟩
    · exact ⟨_, C14.contents_between_same_row_empty s sr sc ec hc⟩
  · exact ⟨_, C14.contents_between_empty_after s sr sc er ec hgt⟩

/-- **C03** `contents_formatted()` returns normally -/
theorem contents_formatted_total {s : Screen} (h : Inv W s) : ∃ bs, s.contentsFormatted = .ok bs := by
  obtain ⟨⟨bs, pa⟩, e⟩ := grid_formatted_total (live_cur h)
  simp only [Screen.contentsFormatted, Screen.writeContentsFormatted, e, ok_bind]
  exact ⟨_, rfl⟩

/-- **C03** `state_formatted()` returns normally -/
theorem state_formatted_total {s : Screen} (h : Inv W s) : ∃ bs, s.stateFormatted = .ok bs := by
  obtain ⟨bs, e⟩ := contents_formatted_total h
  simp only [Screen.contentsFormatted] at e
  simp only [Screen.stateFormatted, e, ok_bind]
  exact ⟨_, rfl⟩

/-- **C03** `cursor_state_formatted()` returns normally -/
theorem cursor_state_formatted_total {s : Screen} (h : Inv W s) : ∃ bs, s.cursorStateFormatted = .ok bs := by
  obtain ⟨bs, e⟩ := cursor_total (live_cur h) none none
  simp only [Screen.cursorStateFormatted, e, ok_bind]
  exact ⟨_, rfl⟩

theorem rowsFormattedLoop_total (fw : Bool) (start width : Nat) : ∀ (rs : List Row) (i : Nat) (w : Bool),
    (∀ r ∈ rs, rowOk W r = true) → (w = true → 1 ≤ i) →
    ∃ res, Screen.rowsFormattedLoop fw start width rs i w = .ok res
  | [], _, _, _, _ => ⟨[], rfl⟩
  | r :: rs, i, w, h, hw => by
    obtain ⟨⟨bs, np, na⟩, e⟩ := row_formatted_total r (rowFine_of_ok (h r (List.mem_cons_self ..))) start width i w
      none none (fun _ => hw)
    obtain ⟨rest, e2⟩ := rowsFormattedLoop_total fw start width rs (i + 1) (if fw then r.wrapped else w)
      (fun r' hr' => h r' (List.mem_cons_of_mem _ hr')) (fun _ => by omega)
    simp only [Screen.rowsFormattedLoop, e, ok_bind, e2]
    exact ⟨_, rfl⟩

/-- **C03** `rows_formatted(start, width)` returns normally for all `start`, `width` -/
theorem rows_formatted_total {s : Screen} (h : Inv W s) (start width : Nat) :
    ∃ rs, s.rowsFormatted start width = .ok rs := by
  obtain ⟨v, e, hv⟩ := visibleRows_good (live_cur h).inv
  simp only [Screen.rowsFormatted, e, ok_bind]
  exact rowsFormattedLoop_total _ start width v 0 false hv (fun hh => by simp at hh)

/-- **C03** `contents_diff(prev)` returns normally for every pair of `Inv` screens (of any sizes) -/
theorem contents_diff_total {s p : Screen} (h : Inv W s) (hp : Inv W p) : ∃ bs, s.contentsDiff p = .ok bs := by
  obtain ⟨⟨bs, pa⟩, e⟩ := grid_diff_total (live_cur h) (live_cur hp).inv p.attrs
  simp only [Screen.contentsDiff, Screen.writeContentsDiff, e, ok_bind]
  exact ⟨_, rfl⟩

/-- **C03** `state_diff(prev)` returns normally -/
theorem state_diff_total {s p : Screen} (h : Inv W s) (hp : Inv W p) : ∃ bs, s.stateDiff p = .ok bs := by
  obtain ⟨bs, e⟩ := contents_diff_total h hp
  simp only [Screen.contentsDiff] at e
  simp only [Screen.stateDiff, e, ok_bind]
  exact ⟨_, rfl⟩

theorem rowsDiffLoop_total (start width : Nat) : ∀ (rs : List (Row × Row)) (i : Nat),
    (∀ p ∈ rs, rowOk W p.1 = true ∧ rowOk W p.2 = true) → ∃ res, Screen.rowsDiffLoop start width rs i = .ok res
  | [], _, _ => ⟨[], rfl⟩
  | (r, p) :: rs, i, h => by
    have hrp := h (r, p) (List.mem_cons_self ..)
    obtain ⟨⟨bs, np, na⟩, e⟩ := row_diff_total r p hrp.1 (rowFine_of_ok hrp.2) start width i false false
      ⟨i, start⟩ Attrs.default
    obtain ⟨rest, e2⟩ := rowsDiffLoop_total start width rs (i + 1) (fun r' hr' => h r' (List.mem_cons_of_mem _ hr'))
    simp only [Screen.rowsDiffLoop, e, ok_bind, e2]
    exact ⟨_, rfl⟩

/-- **C03** `rows_diff(prev, start, width)` returns normally for all `start`, `width` -/
theorem rows_diff_total {s p : Screen} (h : Inv W s) (hp : Inv W p) (start width : Nat) :
    ∃ rs, s.rowsDiff p start width = .ok rs := by
  obtain ⟨v, e, hv⟩ := visibleRows_good (live_cur h).inv
  obtain ⟨pv, pe, hpv⟩ := visibleRows_good (live_cur hp).inv
  simp only [Screen.rowsDiff, e, pe, ok_bind]
  exact rowsDiffLoop_total start width _ 0
    (fun q hq => ⟨hv _ (List.of_mem_zip hq).1, hpv _ (List.of_mem_zip hq).2⟩)

/-- **C03** `cell(row, col)` and `row_wrapped(row)` return normally for all arguments -/
theorem cell_rowWrapped_total {s : Screen} (h : Inv W s) (row col : Nat) :
    (∃ c, s.cell row col = .ok c) ∧ ∃ b, s.rowWrapped row = .ok b :=
  ⟨cell_total s (live_cur h).inv.sb_off row col, row_wrapped_total s (live_cur h).inv.sb_off row⟩

/-- **C03, accessor half**: on a screen satisfying `Inv` every read accessor returns normally, for all argument
values, the diffs against any other `Inv` screen.  (`reachable_inv` gives `Inv` after any history from `Parser::new`:
`reachable_accessors_total`.) -/
theorem accessors_total {s p : Screen} (h : Inv W s) (hp : Inv W p) :
    (∃ bs, s.contents = .ok bs) ∧ (∀ a b, ∃ rs, s.rows a b = .ok rs) ∧
    (∀ a b c d, ∃ bs, s.contentsBetween a b c d = .ok bs) ∧
    (∃ bs, s.contentsFormatted = .ok bs) ∧ (∃ bs, s.stateFormatted = .ok bs) ∧
    (∃ bs, s.cursorStateFormatted = .ok bs) ∧ (∀ a b, ∃ rs, s.rowsFormatted a b = .ok rs) ∧
    (∃ bs, s.contentsDiff p = .ok bs) ∧ (∃ bs, s.stateDiff p = .ok bs) ∧
    (∀ a b, ∃ rs, s.rowsDiff p a b = .ok rs) ∧
    (∀ r c, (∃ x, s.cell r c = .ok x) ∧ ∃ b, s.rowWrapped r = .ok b) :=
  ⟨contents_total h, rows_total h, contents_between_total h, contents_formatted_total h,
    state_formatted_total h, cursor_state_formatted_total h, rows_formatted_total h,
    contents_diff_total h hp, state_diff_total h hp, rows_diff_total h hp, cell_rowWrapped_total h⟩

open Vt.C13

/-- **C03** (process + accessors): after any two histories of `process` / `set_size` / `set_scrollback`
calls from `Parser::new` (sizes 1..65535, any byte strings in any chunking, any scrollback value, any
callback policy that keeps `Inv`), nothing failed on the way and every read accessor of the one screen —
including the diffs against the other — returns normally for all argument values. -/
theorem reachable_accessors_total {W : Nat → Option Nat} (hW32 : W 32 = some 1) {cb : CbPolicy} (hcb : CbInv W cb)
    (rows cols sb rows' cols' sb' : Nat)
    (hr : 1 ≤ rows ∧ rows ≤ 65535) (hc : 1 ≤ cols ∧ cols ≤ 65535)
    (hr' : 1 ≤ rows' ∧ rows' ≤ 65535) (hc' : 1 ≤ cols' ∧ cols' ≤ 65535)
    (ops ops' : List Op) (hv : ∀ op ∈ ops, op.Valid) (hv' : ∀ op ∈ ops', op.Valid) :
    ∃ p q, (Parser.new rows cols sb >>= fun p0 => ops.foldlM (applyOp W cb) p0) = .ok p ∧
      (Parser.new rows' cols' sb' >>= fun p0 => ops'.foldlM (applyOp W cb) p0) = .ok q ∧
      (∃ bs, p.screen.contents = .ok bs) ∧ (∀ a b, ∃ rs, p.screen.rows a b = .ok rs) ∧
      (∀ a b c d, ∃ bs, p.screen.contentsBetween a b c d = .ok bs) ∧
      (∃ bs, p.screen.contentsFormatted = .ok bs) ∧ (∃ bs, p.screen.stateFormatted = .ok bs) ∧
      (∃ bs, p.screen.cursorStateFormatted = .ok bs) ∧ (∀ a b, ∃ rs, p.screen.rowsFormatted a b = .ok rs) ∧
      (∃ bs, p.screen.contentsDiff q.screen = .ok bs) ∧ (∃ bs, p.screen.stateDiff q.screen = .ok bs) ∧
      (∀ a b, ∃ rs, p.screen.rowsDiff q.screen a b = .ok rs) ∧
      (∀ r c, (∃ x, p.screen.cell r c = .ok x) ∧ ∃ b, p.screen.rowWrapped r = .ok b) := by
  obtain ⟨p, e, i⟩ := reachable_inv hW32 hcb rows cols sb hr.1 hc.1 hr.2 hc.2 ops hv
  obtain ⟨q, e', i'⟩ := reachable_inv hW32 hcb rows' cols' sb' hr'.1 hc'.1 hr'.2 hc'.2 ops' hv'
  exact ⟨p, q, e, e', accessors_total ((inv_iff W _).mpr i.screen) ((inv_iff W _).mpr i'.screen)⟩

end Vt.C03
