/-
  C08 — insert/delete and scrolling shift exactly the region they address.  Here: LF / VT / FF with room below (`lf_inside`) and
  on the last line outside the region (`lf_last_line_outside`), and the trip counts (C03's cost clause; commit 05acf7d of /repo
  bounds the loops).  `su_bounded` / `sd_bounded` are facts about the trip-count expressions alone, `min count rows ≤ rows` on
  bare numbers; `scrollDown_trips` / `insertLines_trips` restate, by `rfl`, that the model's SD / IL loop runs `min count rows`
  times — the numbers `440`… are the panic-site ids of Vt/Model/Prim — and state no bound themselves.
  The closed forms are in C08b (IL / DL / SU / SD for every n), C08c (ICH / DCH on every well-formed line) and C08grid
  (LF / VT / FF and RI for every count, whole-record; SU / SD whole-record); the actions LF / VT / FF / RI in C08lfri.
-/
import Vt.Lemmas.Inv
namespace Vt.C08
open Vt

theorem iterateM_zero {σ} (f : σ → M σ) (s : σ) : iterateM 0 f s = .ok s := rfl

theorem lf_inside (g : Grid) (hr : 1 ≤ g.size.rows)
    (h : g.pos.row + 1 ≤ (if g.inScrollRegion then g.scrollBottom else g.size.rows - 1))
    (hb : g.pos.row + 1 ≤ 65535) (ht : g.scrollTop ≤ g.size.rows) :
    g.rowIncScroll 1 = .ok ({ g with pos := ⟨g.pos.row + 1, g.pos.col⟩ }, 0) := by
  rw [rowIncScroll_eq g hr 1, show min (g.pos.row + 1) 65535 = g.pos.row + 1 by omega]
  cases hin : g.inScrollRegion <;> simp only [hin, Bool.false_eq_true, ↓reduceIte] at h ⊢
  · rw [Nat.min_eq_left h]
  · rw [Nat.min_eq_left h, Nat.sub_eq_zero_of_le h]
    simp only [Grid.scrollUp, subM_ok ht, ok_bind, Nat.zero_min, iterateM_zero]
    rfl

theorem lf_last_line_outside (g : Grid) (hr : 1 ≤ g.size.rows) (hin : g.inScrollRegion = false)
    (hl : g.pos.row = g.size.rows - 1) (hb : g.size.rows ≤ 65535) :
    g.rowIncScroll 1 = .ok (g, 0) := by
  rw [rowIncScroll_eq g hr 1, hin, if_neg Bool.false_ne_true,
    show min (min (g.pos.row + 1) 65535) (g.size.rows - 1) = g.pos.row by omega]

theorem su_bounded (count rows top : Nat) (h : top ≤ rows) : min count (rows - top) ≤ rows := by omega
theorem sd_bounded (count rows : Nat) : min count rows ≤ rows := by omega

theorem scrollDown_trips (g : Grid) (count : Nat) :
    g.scrollDown count = iterateM (min count g.size.rows) (fun g => do
      let (_, rows) ← removeM 440 g.rows g.scrollBottom
      let rows ← insertM 441 rows g.scrollTop g.newRow
      let rows ← modifyM 442 rows g.scrollBottom (fun r => pure (r.wrap false))
      pure { g with rows := rows }) g := rfl

theorem insertLines_trips (g : Grid) (count : Nat) :
    g.insertLines count = iterateM (min count g.size.rows) (fun g => do
      let (_, rows) ← removeM 430 g.rows g.scrollBottom
      let rows ← insertM 431 rows g.pos.row g.newRow
      let rows ← modifyM 432 rows g.scrollBottom (fun r => pure (r.wrap false))
      pure { g with rows := rows }) g := rfl

end Vt.C08
