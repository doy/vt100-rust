/-
  Vt.Props.RowDraw — one line of a redraw: processing the bytes `Row::write_contents_formatted` emits for a
  source line, on a receiver whose line `i` is blank, makes line `i` of the receiver look like the source line;
  the cursor and the pen end where the emitter says they do; nothing else on the receiver changes
  (`row_formatted_draws`).  When the line above is wrapped onto this one (`row_formatted_draws_wrap`) the emitter
  does not position the cursor: the first thing it writes is typed at the pending-wrap position of the line above,
  so that the receiver's own autowrap sets that line's flag.

  The cell loop of `write_contents_formatted` is that of `write_contents_diff` against blank default cells (`fold_fmt_diff`),
  and a blank line is a line the receiver's closed forms apply to (`lineWf_of_blank`): the line theorems are the simulation of
  the diff (DiffRow; the pending phase of a wrapped-onto line: DiffPend) run against `DCtx.blank`.  What is special to a
  blank previous line: every occupied cell is typed (`typedAt_blank`), so the emitter's cursor ends behind an occupied last
  column.  `Drawn`, `Inv1`, `J`, `Pend` restate the simulation's invariants for that case in terms of `Line`; they serve
  `pending_step` (one cell of the pending phase in those terms) only: the two line theorems go through `CellLoop` / `Parked` /
  `Started` themselves.
-/
import Vt.Props.DiffPend
namespace Vt.RowDraw
open Vt Vt.Recv Vt.C19 Vt.C09 Vt.C03 Vt.DiffRow Vt.C15wrap Vt.C02
open Vt.Fmt (start preamble)

variable {W : Nat → Option Nat} {cb : CbPolicy}

/-- `DiffRow.DiffAt` against the blank line, in terms of `Line` (`Drawn.of_diff`) -/
def Drawn (K : Ctx W cb) (x : Nat) (st : Row.FmtSt) : Prop :=
  ∃ Ri, Emitted W cb K.p0 st.out (shape K.r0 K.i Ri st.prevPos st.prevAttrs) ∧ Line K.src x Ri

/-- `DiffRow.Between` against the blank line, in terms of `Line` -/
structure Inv1 (K : Ctx W cb) (j : Nat) (st : Row.FmtSt) : Prop where
  drawn : Drawn K (esK j st) st
  er : ∀ e a, st.erase = some (e, a) → e ≤ j ∧ e < K.src.length ∧ Attrs.wf a ∧
    ∀ k (hk : k < K.src.length), e ≤ k → k < j → view K.src[k] = blankA a

/-- the invariant of the cell loop, as the shared simulation gives it against a blank previous line (`J.of_diff`) -/
structure J (K : Ctx W cb) (w : Bool) (j : Nat) (st : Row.FmtSt) : Prop where
  prow : w = true → st.prevPos.row = K.i
  ww : ∀ (_ : 0 < j) (hl : j ≤ K.src.length), st.prevWasWide = (K.src[j - 1]'(by omega)).wide
  w0 : j = 0 → st.prevWasWide = false
  A : st.prevWasWide = true → st.erase = none ∧ Drawn K (j + 1) st
  B : st.prevWasWide = false → Inv1 K j st
  pp : ∀ (_ : 0 < j) (hl : j ≤ K.src.length),
    ((K.src[j - 1]'(by omega)).hasContents = true ∨ (K.src[j - 1]'(by omega)).cont = true) →
    st.erase = none ∧ st.prevPos = ⟨K.i, if st.prevWasWide then j + 1 else j⟩

/-- `C02.Parked` against a blank line, the cursor in the pending-wrap column -/
structure Pend (K : Ctx W cb) (pa : Attrs) (j : Nat) (st : Row.FmtSt) : Prop where
  out : st.out = []
  pos : st.prevPos = ⟨K.i - 1, K.r0.g.size.cols⟩
  pen : st.prevAttrs = pa
  pww : st.prevWasWide = false
  er : (j = 0 ∧ st.erase = none) ∨
    (∃ a, st.erase = some (0, a) ∧ 1 ≤ j ∧ Attrs.wf a ∧ ∀ k (hk : k < K.src.length), k < j → view K.src[k] = blankA a)

theorem views_blank (n : Nat) : (List.replicate n Cell.new).map view = List.replicate n blankV := by
  rw [List.map_replicate, view_new]

theorem shows_blank {src : List Cell} {Ri0 : Row} (h : Line src 0 Ri0) :
    Ri0.cells.map view = (List.replicate src.length Cell.new).map view := by
  rw [h.views, views_blank]; simp

theorem lineWf_of_blank {src : List Cell} {Ri0 : Row} (h : Line src 0 Ri0) : LineWf Ri0 :=
  ⟨links_of_views (shows_blank h) (links_replicate_new _), h.len22⟩

/-- the loop of `write_contents_formatted` is the loop of `write_contents_diff` against blank default cells -/
theorem fold_fmt_diff (n i : Nat) (w : Bool) (l : List Cell) : ∀ (m j : Nat) (st : Row.FmtSt), l.length ≤ m →
    (C14.enumFrom j (l.zip (List.replicate m Cell.new))).foldlM (Row.diffStep n i w) st =
      (C14.enumFrom j l).foldlM (Row.fmtStep n i w) st := by
  induction l with
  | nil => intro m j st _; simp [C14.enumFrom]
  | cons c l ih =>
    intro m j st h
    cases m with
    | zero => simp at h
    | succ m =>
      simp only [List.replicate_succ, List.zip_cons_cons, C14.enumFrom, List.zipIdx_cons, List.map_cons, List.foldlM_cons]
      show (Row.fmtStep n i w st (j, c) >>= _) = _
      congr 1
      funext st1
      exact ih m (j + 1) st1 (by simpa using h)

theorem fold_fmt_window (n i : Nat) (w : Bool) (l : List Cell) (s width j : Nat) (st : Row.FmtSt) :
    (C14.enumFrom j (((l.zip (List.replicate l.length Cell.new)).drop s).take width)).foldlM (Row.diffStep n i w) st =
      (C14.enumFrom j ((l.drop s).take width)).foldlM (Row.fmtStep n i w) st := by
  have : ((l.zip (List.replicate l.length Cell.new)).drop s).take width =
      ((l.drop s).take width).zip (List.replicate (min width (l.length - s)) Cell.new) := by
    simp only [List.zip, List.drop_zipWith, List.take_zipWith, List.drop_replicate, List.take_replicate]
  rw [this]
  exact fold_fmt_diff _ _ _ _ _ _ _ (by simp only [List.length_take, List.length_drop]; omega)

theorem wcf_of_loop (sr : Row) (i : Nat) (w : Bool) (pp : Pos) (pa : Attrs) {st' : Row.FmtSt}
    (e : (C14.enumFrom 0 (sr.cells.zip (List.replicate sr.cells.length Cell.new))).foldlM (Row.diffStep sr.cells.length i w)
      (if (w && sr.firstIsDefault 0) = true then preamble i pa else start pp pa) = .ok st') :
    sr.writeContentsFormatted 0 sr.cells.length i w (some pp) (some pa) =
      .ok ((Row.fmtFinish sr.cells.length i w st').out, (Row.fmtFinish sr.cells.length i w st').prevPos,
        (Row.fmtFinish sr.cells.length i w st').prevAttrs) := by
  rw [wcf_line_eq, ← fold_fmt_diff _ _ _ _ _ _ _ (Nat.le_refl _), e]
  rfl

theorem Line.full {src : List Cell} {Ri : Row} (h : Line src src.length Ri) :
    Ri.cells.map view = src.map view ∧ Ri.wrapped = false := by
  refine ⟨?_, h.unwrapped⟩
  rw [h.views]; simp

theorem typedAt_blank {S : List Cell} (hS : SrcOk W S) {k : Nat} (hk : k < S.length)
    (hocc : S[k].hasContents = true ∨ S[k].cont = true) : TypedAt S (List.replicate S.length Cell.new) k := by
  have hne : ∀ j (hj : j < S.length), S[j].hasContents = true →
      view S[j] ≠ view ((List.replicate S.length Cell.new)[j]'(by simpa using hj)) := by
    intro j hj hh hv
    rw [List.getElem_replicate, view_new] at hv
    have := (blank_not_occ (a := Attrs.default) hv).1
    rw [hh] at this; cases this
  refine ⟨hk, by simpa using hk, ?_⟩
  rcases hocc with hh | hc
  · exact Or.inl ⟨hh, hne k hk hh⟩
  · have hci := hS.cont_iff k hk
    have h0 : 0 < k := by
      rcases Nat.eq_zero_or_pos k with h | h
      · rw [if_pos h, hc] at hci; cases hci
      · exact h
    rw [if_neg (by omega), hc] at hci
    exact Or.inr ⟨hc, h0, hne (k - 1) (by omega)
      (wide_has_contents (hS.cells_ok _ (List.getElem_mem (by omega))) hci.symm)⟩

theorem finish_blank (K : Ctx W cb) {Q : Bool → Prop} (hQ : ∀ w, Q w → w = false) (hK : KeepsFlag W K.src (DCtx.blank K).prv Q)
    (hS : SrcOk W K.src) (hne : 0 < K.src.length) {st : Row.FmtSt} (hJ : CellLoop K (DCtx.blank K) Q K.src.length st) :
    (∃ Ri, Emitted W cb K.p0 (Row.fmtFinish K.src.length K.i false st).out
        (shape K.r0 K.i Ri (Row.fmtFinish K.src.length K.i false st).prevPos
          (Row.fmtFinish K.src.length K.i false st).prevAttrs) ∧ Line K.src K.src.length Ri) ∧
      (lastOcc K.src → (Row.fmtFinish K.src.length K.i false st).prevPos = ⟨K.i, K.src.length⟩) := by
  refine ⟨?_, fun ⟨_, hocc⟩ => ?_⟩
  · obtain ⟨Ri, hem, hmid, hq, hwf⟩ := finish_line K (DCtx.blank K) hK hS hne hJ
    exact ⟨Ri, hem, hQ _ hq, hmid.full.trans (by simp), hwf.len22⟩
  · have hpw : st.prevWasWide = false := (hJ.ww hne (Nat.le_refl _)).trans (hS.last_narrow hne)
    obtain ⟨he, hp⟩ := hJ.pp hne (typedAt_blank hS (Nat.sub_lt hne Nat.one_pos) hocc)
    simp only [Row.fmtFinish, he, hp, hpw, Bool.false_eq_true, ↓reduceIte]

/-- **one line of a redraw, no wrap-through** (`wrapping = false`, full width): processing the bytes of
`write_contents_formatted` on a receiver whose line `i` is blank makes line `i` show the source line cell for
cell; cursor and pen end at the `prev_pos` / `prev_attrs` the emitter returns; every other line, the region,
the scrollback, the saved cursor — everything else — is as before -/
theorem row_formatted_draws (hW : WOk W) (p0 : Parser) (hr : Ready p0) (hcv : Canvas (rsOf p0.ws).g)
    (i : Nat) (hi : i < (rsOf p0.ws).g.size.rows) (sr : Row) (hlen : sr.cells.length = (rsOf p0.ws).g.size.cols)
    (hS : SrcOk W sr.cells) (Ri0 : Row) (hrow : (rsOf p0.ws).g.rows[i]? = some Ri0) (hblank : Line sr.cells 0 Ri0) :
    ∃ out np na, sr.writeContentsFormatted 0 sr.cells.length i false
        (some (rsOf p0.ws).g.pos) (some (rsOf p0.ws).pen) = .ok (out, np, na) ∧
      (∃ Ri, Emitted W cb p0 out (shape (rsOf p0.ws) i Ri np na) ∧ Line sr.cells sr.cells.length Ri) ∧
      (lastOcc sr.cells → np = ⟨i, sr.cells.length⟩) := by
  let K : Ctx W cb := ⟨p0, hr, rsOf p0.ws, hcv, i, hi, sr.cells, hlen⟩
  have hne : 0 < sr.cells.length := by rw [hlen]; exact hcv.cols_pos
  have hK : KeepsFlag W K.src (DCtx.blank K).prv (· = false) := KeepsFlag.of_clear (fun _ _ => rfl)
  have hJ0 : CellLoop K (DCtx.blank K) (· = false) 0 (start (rsOf p0.ws).g.pos (rsOf p0.ws).pen) :=
    CellLoop.enter K (DCtx.blank K) hne (fun k _ h => absurd h (Nat.not_lt_zero k)) (by rw [DCtx.blank_get K 0 hne]; rfl) hrow rfl
      (shows_blank hblank) hblank.unwrapped (lineWf_of_blank hblank)
  obtain ⟨st', e, hJ⟩ := fold_inv K (DCtx.blank K) hK hW hS (K.src.zip (DCtx.blank K).prv) 0 _ rfl (Nat.zero_le _) hJ0
  exact ⟨_, _, _, wcf_of_loop sr i false _ _ e, finish_blank K (fun _ h => h) hK hS hne hJ⟩

theorem line_of_mid {src : List Cell} {x : Nat} {Ri : Row} (h : Mid' src (List.replicate src.length Cell.new) x Ri)
    (hx : x ≤ src.length) (hu : Ri.wrapped = false) (h22 : ∀ c ∈ Ri.cells, c.contents.length = 22) : Line src x Ri := by
  refine ⟨hu, ?_, h22⟩
  show Ri.cells.map view = expect src x
  apply List.ext_getElem?
  intro k
  by_cases hk : k < src.length
  · rw [expect_get src x hx k hk, List.getElem?_map, List.getElem?_eq_getElem (by rw [h.len]; exact hk), Option.map_some]
    congr 1
    have hb : view ((List.replicate src.length Cell.new)[k]'(by simpa using hk)) = blankV := by
      rw [List.getElem_replicate, view_new]
    by_cases hkx : k < x
    · rw [if_pos hkx]; exact h.lo k hk hkx
    · rw [if_neg hkx]
      by_cases hgt : x < k
      · rw [h.hi k hk hgt]; exact hb
      · have : k = x := by omega
        subst this
        rcases h.mid hk with h1 | ⟨h2, _⟩
        · rw [h1]; exact hb
        · rw [List.getElem_replicate] at h2; cases h2
  · rw [List.getElem?_eq_none (by simp [h.len]; omega), List.getElem?_eq_none (by simp [expect, List.length_take]; omega)]

theorem Drawn.of_diff {K : Ctx W cb} {Q : Bool → Prop} (hQ : ∀ w, Q w → w = false) {x : Nat} {st : Row.FmtSt}
    (h : DiffAt K (DCtx.blank K).prv Q x st) (hx : x ≤ K.src.length) : Drawn K x st := by
  obtain ⟨Ri, hem, hmid, hq, hwf⟩ := h
  exact ⟨Ri, hem, line_of_mid hmid hx (hQ _ hq) hwf.len22⟩

theorem J.of_diff {K : Ctx W cb} {Q : Bool → Prop} (hQ : ∀ w, Q w → w = false) {w : Bool} {j : Nat} {st : Row.FmtSt}
    (hS : SrcOk W K.src) (hjl : j ≤ K.src.length) (h : CellLoop K (DCtx.blank K) Q j st) (hrow : w = true → st.prevPos.row = K.i) :
    J K w j st := by
  refine ⟨hrow, h.ww, h.w0, fun hpw => ?_, fun hpw => ?_, fun h0 hl hocc => ?_⟩
  · obtain ⟨he, hd⟩ := h.A hpw
    have hj0 : 0 < j := Nat.pos_of_ne_zero fun h0 => by have := h.w0 h0; rw [hpw] at this; cases this
    have hw := (h.ww hj0 hjl).symm.trans hpw
    obtain ⟨hj1, _⟩ := hS.wide_next (j - 1) (by omega) hw
    exact ⟨he, Drawn.of_diff hQ hd (by omega)⟩
  · have hB := h.B hpw
    refine ⟨Drawn.of_diff hQ hB.drawn ?_, fun e a hea => ?_⟩
    · cases he : st.erase with
      | none => simp only [esK, he]; exact hjl
      | some pa =>
        obtain ⟨e, a⟩ := pa
        simp only [esK, he]
        exact Nat.le_of_lt (hB.er e a he).2.1
    · obtain ⟨h1, h2, h3, h4⟩ := hB.er e a hea
      exact ⟨Nat.le_of_lt h1, h2, h3, h4⟩
  · exact h.pp h0 (typedAt_blank hS (by omega) hocc)

theorem pfacts_blank (K : Ctx W cb) (X : WCtx K) {pa : Attrs} {Ri0 : Row}
    (hem0 : Emitted W cb K.p0 [] (shape K.r0 K.i Ri0 ⟨K.i - 1, K.r0.g.size.cols⟩ pa)) (hl0 : Line K.src 0 Ri0) :
    ParkFacts K (DCtx.blank K) (FlagSpec.off _ _) X pa K.r0.g.size.cols Ri0 :=
  ⟨hem0, ⟨mid_zero (DCtx.blank K).hprv (shows_blank hl0), fun b hb => by cases hb; exact hl0.unwrapped⟩,
    lineWf_of_blank hl0, Or.inl rfl⟩

/-- `C02.parked_step` against a blank previous line, in terms of `Pend` / `J`.  `hfirst`: the first cell is not the blank default
cell, so that the emitter has not written its preamble -/
theorem pending_step (K : Ctx W cb) (hW : WOk W) (hS : SrcOk W K.src) (X : WCtx K) {pa : Attrs} {Ri0 : Row}
    (hem0 : Emitted W cb K.p0 [] (shape K.r0 K.i Ri0 ⟨K.i - 1, K.r0.g.size.cols⟩ pa)) (hl0 : Line K.src 0 Ri0)
    {j : Nat} (hj : j < K.src.length) {st : Row.FmtSt} (h : Pend K pa j st)
    (hfirst : j = 0 → (K.src[0]'(by omega)).eq Cell.new = false) :
    ∃ st', Row.fmtStep K.src.length K.i true st (j, K.src[j]) = .ok st' ∧
      (Pend K pa (j + 1) st' ∨ J (K.wrapped X) true (j + 1) st') := by
  have hne : 0 < K.src.length := by omega
  have hPb : ∀ k (hk : k < K.src.length), view ((DCtx.blank K).prv[k]'(by rw [(DCtx.blank K).hprv]; exact hk)) = blankV :=
    fun k hk => by rw [DCtx.blank_get K k hk, view_new]
  -- `Pend` is the pending phase against the blank line
  have hP : Parked K (DCtx.blank K) pa K.r0.g.size.cols j st := by
    refine ⟨h.out, h.pos, h.pen, fun h0 hl => ?_, fun _ => h.pww, ?_⟩
    · rcases h.er with ⟨h00, _⟩ | ⟨a, _, _, _, hvs⟩
      · omega
      · rw [h.pww]; exact (blankA_wide (hvs (j - 1) (by omega) (by omega))).symm
    · rcases h.er with ⟨h00, hn⟩ | ⟨a, hea, h1j, hwf, hvs⟩
      · exact Or.inl ⟨hn, fun k _ hk => by omega⟩
      · exact Or.inr ⟨a, hea, h.pww, h1j, hwf, rfl, hvs⟩
  -- after column 0 an erase run is pending, so `Quiet` is not asked for
  obtain ⟨st', e, hres⟩ := parked_step K (DCtx.blank K) (FlagSpec.off _ _) X hW hS (pfacts_blank K X hem0 hl0) hj hP
    (fun hn h0 => by
      rcases h.er with ⟨h00, _⟩ | ⟨a, hea, _⟩
      · omega
      · rw [hea] at hn; cases hn)
  rw [DCtx.blank_get K j hj] at e
  refine ⟨st', e, ?_⟩
  rcases hres with ⟨hP', hsome⟩ | ⟨hrow, hJ⟩
  · -- still nothing written: an erase run from column 0 ("every cell so far unchanged" is impossible: cell 0 is changed)
    left
    have hrun : ∃ a, st'.erase = some (0, a) ∧ st'.prevWasWide = false ∧ 1 ≤ j + 1 ∧ Attrs.wf a ∧
        ∀ k (hk : k < K.src.length), k < j + 1 → view K.src[k] = blankA a := by
      rcases hP'.er with ⟨hn, heq⟩ | ⟨a, hea, hpw, h1j, hwf, _, hvs⟩
      · exfalso
        rcases h.er with ⟨h00, _⟩ | ⟨a, hea, _⟩
        · have hv := heq 0 hne (by omega)
          rw [hPb 0 hne] at hv
          have := (eq_new_iff _).mpr hv
          rw [hfirst h00] at this; cases this
        · have := hsome (by rw [hea]; rfl)
          rw [hn] at this; cases this
      · exact ⟨a, hea, hpw, h1j, hwf, hvs⟩
    obtain ⟨a, hea, hpw, h1j, hwf, hvs⟩ := hrun
    exact ⟨hP'.out, hP'.pos, hP'.pen, hpw, Or.inr ⟨a, hea, h1j, hwf, hvs⟩⟩
  · right
    exact J.of_diff (K := K.wrapped X) (fun w hw => hw false rfl) hS (by show j + 1 ≤ K.src.length; omega) hJ (fun _ => hrow)

/-- the end of a wrapped-onto line for which something has been written: `wrapping` no longer matters -/
theorem finish_started (K : Ctx W cb) (X : WCtx K) (hS : SrcOk W K.src) (hne : 0 < K.src.length) {st : Row.FmtSt}
    (hA : Started K (DCtx.blank K) (FlagSpec.off _ _) X K.src.length st) :
    (∃ Ri, Emitted W cb K.p0 (Row.fmtFinish K.src.length K.i true st).out
        (shape (K.wrapped X).r0 K.i Ri (Row.fmtFinish K.src.length K.i true st).prevPos
          (Row.fmtFinish K.src.length K.i true st).prevAttrs) ∧ Line K.src K.src.length Ri) ∧
      (lastOcc K.src → (Row.fmtFinish K.src.length K.i true st).prevPos = ⟨K.i, K.src.length⟩) := by
  rw [fmtFinish_irrel K.src.length K.i st hA.1.notFull]
  exact finish_blank (K.wrapped X) (fun w hw => hw false rfl) ((FlagSpec.off _ _).keeps hS) hS hne hA.2

/-- **one line of a redraw, wrap-through** (`wrapping = true`): the line above is wrapped, its last column is
occupied and the receiver's cursor sits at its pending-wrap position.  Processing the bytes of
`write_contents_formatted` records the wrap on the line above (its wrap flag becomes true — by the
receiver's own autowrap), makes line `i` show the source line, and changes nothing else. -/
theorem row_formatted_draws_wrap (hW : WOk W) (p0 : Parser) (hr : Ready p0) (hcv : Canvas (rsOf p0.ws).g)
    (i : Nat) (hi1 : 1 ≤ i) (hi : i < (rsOf p0.ws).g.size.rows) (sr : Row)
    (hlen : sr.cells.length = (rsOf p0.ws).g.size.cols) (hS : SrcOk W sr.cells)
    (Ri0 : Row) (hrow : (rsOf p0.ws).g.rows[i]? = some Ri0) (hblank : Line sr.cells 0 Ri0)
    (Rp : Row) (hp : (rsOf p0.ws).g.rows[i - 1]? = some Rp) (last : Cell)
    (hlast : Rp.cells[(rsOf p0.ws).g.size.cols - 1]? = some last) (hocc : (last.hasContents || last.cont) = true)
    (hpos : (rsOf p0.ws).g.pos = ⟨i - 1, (rsOf p0.ws).g.size.cols⟩) :
    ∃ out np na, sr.writeContentsFormatted 0 sr.cells.length i true
        (some (rsOf p0.ws).g.pos) (some (rsOf p0.ws).pen) = .ok (out, np, na) ∧
      (∃ Ri, Emitted W cb p0 out (shape (wrapBase (rsOf p0.ws) i Rp) i Ri np na) ∧ Line sr.cells sr.cells.length Ri) ∧
      (lastOcc sr.cells → np = ⟨i, sr.cells.length⟩) := by
  let K : Ctx W cb := ⟨p0, hr, rsOf p0.ws, hcv, i, hi, sr.cells, hlen⟩
  let X : WCtx K := ⟨hi1, Rp, hp, last, hlast, hocc⟩
  let F : FlagSpec K.src (DCtx.blank K).prv := FlagSpec.off _ _
  have hne : 0 < sr.cells.length := by rw [hlen]; exact hcv.cols_pos
  have hem0 : Emitted W cb p0 [] (shape (rsOf p0.ws) i Ri0 ⟨i - 1, (rsOf p0.ws).g.size.cols⟩ (rsOf p0.ws).pen) := by
    rw [← hpos, shape_self _ _ _ hrow]
    exact emitted_nil W cb p0 hr
  have Q := pfacts_blank K X hem0 hblank
  by_cases hfd : sr.firstIsDefault 0 = true
  · -- the first cell is the blank default cell: pen := default, SP (the receiver wraps), BS, ECH 1 — what `diffStart` writes
    -- to repair an unchanged blank first cell
    have hv0 : view sr.cells[0] = blankV := by
      simp only [Row.firstIsDefault, List.getElem?_eq_getElem hne] at hfd
      exact (eq_new_iff _).mp hfd
    obtain ⟨R2, hem2, hmid2, hwf2⟩ := repair_blank K (DCtx.blank K) F X hW hS hne Q.hmid0 Q.lwf0 hem0
      (by rw [DCtx.blank_get K 0 hne, view_new]; exact hv0) (blank_not_occ hv0).1
    rw [show sr.cells[0].attrs = Attrs.default from blankA_attrs hv0] at hem2
    obtain ⟨st', e, hA⟩ := started_fold K (DCtx.blank K) F X hW hS (K.src.zip (DCtx.blank K).prv) 0 _ rfl (Nat.zero_le _)
      (Started.zero (out := (preamble i (rsOf p0.ws).pen).out) (by simpa [preamble, List.append_assoc] using hem2) hmid2 hwf2)
    exact ⟨_, _, _, wcf_of_loop sr i true _ _ (by rw [Bool.true_and, if_pos hfd]; exact e), finish_started K X hS hne hA⟩
  · -- otherwise the first thing written on this line forces the wrap: the pending phase
    have hfirst : sr.cells[0].eq Cell.new = false := by
      simpa [Row.firstIsDefault, List.getElem?_eq_getElem hne] using hfd
    have hv0 : view (K.src[0]'hne) ≠ view ((DCtx.blank K).prv[0]'(by rw [(DCtx.blank K).hprv]; exact hne)) := fun hv => by
      rw [DCtx.blank_get K 0 hne, view_new] at hv
      have := (eq_new_iff _).mpr hv
      rw [hfirst] at this; cases this
    have hq : Quiet K (DCtx.blank K) X :=
      ⟨Or.inr ⟨hne, hv0⟩, fun k hk hkP h0 heq _ => absurd (heq 0 h0) hv0⟩
    have hP0 : Parked K (DCtx.blank K) (rsOf p0.ws).pen K.r0.g.size.cols 0
        ⟨false, ⟨i - 1, K.r0.g.size.cols⟩, (rsOf p0.ws).pen, none, []⟩ :=
      ⟨rfl, rfl, rfl, fun h => absurd h (Nat.lt_irrefl 0), fun _ => rfl,
        Or.inl ⟨rfl, fun k _ hk => absurd hk (Nat.not_lt_zero k)⟩⟩
    obtain ⟨st', e, hend⟩ := parked_fold K (DCtx.blank K) F X hW hS Q hq (K.src.zip (DCtx.blank K).prv) 0 _ rfl
      (Nat.zero_le _) hP0
    refine ⟨_, _, _, wcf_of_loop sr i true _ _ (by rw [Bool.true_and, if_neg hfd, hpos]; exact e), ?_⟩
    rcases hend with hP' | hA
    · -- nothing was written in the loop: the whole line is one erase run from column 0: SP BS, pen, EL
      rcases hP'.er with ⟨hnone, heq⟩ | ⟨a, hea, hpw, _, hwfa, _, hrun⟩
      · exact absurd (heq 0 hne hne) hv0
      · obtain ⟨⟨Ri, hem, hmid, hq, hwf⟩, -⟩ := parked_run_finish K (DCtx.blank K) F X hW hS hne Q hP' hea hpw hwfa
          (fun k hk _ => hrun k hk hk)
        refine ⟨⟨Ri, hem, hq false rfl, (show _ = sr.cells.map view from hmid.full).trans (by simp), hwf.len22⟩, fun ⟨_, ho⟩ => ?_⟩
        have := blank_not_occ (hrun (sr.cells.length - 1) (Nat.sub_lt hne Nat.one_pos) (Nat.sub_lt hne Nat.one_pos))
        rw [this.1, this.2] at ho
        rcases ho with ho | ho <;> cases ho
    · exact finish_started K X hS hne hA

end Vt.RowDraw
