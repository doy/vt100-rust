/-
  C12 — scrollback: ordered bounded history, clamped stable view, view-only offset.
  `set_scrollback(k)` clamps `k` to the history length and changes nothing but the offset (`setScrollback_view_only`); the
  visible rows are the last `k` history lines (at most `rows` of them) followed by the first `rows - k` live lines
  (`visibleRows_spec`).  `lastN n l` is what a history of capacity `n` keeps of the lines `l` pushed to it (`push_back`,
  then `pop_front` while longer than `scrollback_len`: grid.rs:564-567).
-/
import Vt.Lemmas.Inv
import Vt.Lemmas.Lines
namespace Vt.C12
open Vt

theorem setScrollback_view_only (g : Grid) (k : Nat) :
    g.setScrollback k = { g with scrollbackOffset := min k g.scrollback.length } := rfl

theorem visibleRows_spec (g : Grid) (h : g.scrollbackOffset ≤ g.scrollback.length) :
    g.visibleRows = .ok
      (((g.scrollback.drop (g.scrollback.length - g.scrollbackOffset)).take g.rows.length)
        ++ g.rows.take (g.rows.length - g.scrollbackOffset)) := by
  simp [Grid.visibleRows, subM, h]

theorem visibleRows_length (g : Grid) (h : g.scrollbackOffset ≤ g.scrollback.length) :
    ∃ rs, g.visibleRows = .ok rs ∧ rs.length = g.rows.length := by
  refine ⟨_, visibleRows_spec g h, ?_⟩
  simp only [List.length_append, List.length_take, List.length_drop]
  omega

def lastN {α} (n : Nat) (l : List α) : List α := l.drop (l.length - n)

end Vt.C12
