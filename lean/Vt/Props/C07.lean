/-
  C07 — erase (ED, EL, ECH) blanks exactly the addressed range with the current pen.  Here the whole-screen and whole-line cases
  (whole-record equalities: cursor, region, scrollback untouched) and DECSED / DECSEL; the positional range theorems for ECH,
  EL 0 / 1, ED 0 / 1 on every well-formed line are in C07b.  Unknown modes change nothing: `Vt.C18.ed_unknown_inert`,
  `el_unknown_inert`.
-/
import Vt.Lemmas.Inv
namespace Vt.C07
open Vt

theorem ed2_spec (g : Grid) (a : Attrs) :
    g.eraseAll a = { g with rows := g.rows.map (fun r => ⟨r.cells.map (fun c => c.clear a), false⟩) } := rfl

theorem el2_spec (g : Grid) (a : Attrs) (row : Row) (h : g.rows[g.pos.row]? = some row) :
    g.eraseRow a = .ok { g with rows := g.rows.set g.pos.row ⟨row.cells.map (fun c => c.clear a), false⟩ } := by
  simp [Grid.eraseRow, Grid.modifyCurrentRow, modifyM, h, Row.clear]

theorem clear_blank (c : Cell) (a : Attrs) :
    (c.clear a).hasContents = false ∧ (c.clear a).isWide = false ∧
    (c.clear a).isWideContinuation = false ∧ (c.clear a).attrs = a := by
  simp [Cell.clear, Cell.hasContents, Cell.isWide, Cell.isWideContinuation]

/-- DECSED / DECSEL (`CSI ? J`, `CSI ? K`) run exactly the code of ED / EL -/
theorem selective_same (W : Nat → Option Nat) (cb : CbPolicy) (ws : WS) (params : List (List Nat))
    (ig : Bool) :
    perform W cb ws (.csiDispatch params [63] ig 74) =
      ed (emit cb (.unhandledCsi (some 63) none params 74)) (canon1 params 0) ws ∧
    perform W cb ws (.csiDispatch params [63] ig 75) =
      el (emit cb (.unhandledCsi (some 63) none params 75)) (canon1 params 0) ws := by
  constructor <;> rfl

/-- ED 0 / ED 1 first blank the lines strictly below / above the cursor line completely -/
theorem ed0_rows_below (g : Grid) (a : Attrs) :
    g.eraseAllForward a =
      ({ g with rows := g.rows.take (g.pos.row + 1) ++
          (g.rows.drop (g.pos.row + 1)).map (fun (r : Row) => r.clear a) } : Grid).eraseRowForward a := rfl

theorem ed1_rows_above (g : Grid) (a : Attrs) :
    g.eraseAllBackward a =
      ({ g with rows := (g.rows.take g.pos.row).map (fun (r : Row) => r.clear a) ++
          g.rows.drop g.pos.row } : Grid).eraseRowBackward a := rfl

theorem row_erase_plain (r : Row) (i : Nat) (a : Attrs) (c : Cell) (hc : r.cells[i]? = some c)
    (hw : c.wide = false) (hcont : c.cont = false) :
    r.erase i a = .ok { cells := r.cells.set i (c.clear a),
                        wrapped := if i = r.cells.length - 1 then false else r.wrapped } := by
  have hlen : 1 ≤ r.cells.length := Nat.lt_of_le_of_lt (Nat.zero_le i) (List.getElem?_eq_some_iff.mp hc).1
  simp only [Row.erase, getM, hc, ok_bind, Row.clearWide, Cell.isWide, hw,
    Cell.isWideContinuation, hcont, Bool.false_eq_true, ↓reduceIte, modifyM, pure_eq_ok,
    List.length_set, subM_ok hlen]
  simp

end Vt.C07
