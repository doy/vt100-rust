/-
  Vt.Props.CbProbe — the probing callback policy `cbProbe` (Vt/Model/Perform; in Rust the `Rec` callbacks of
  harness/src/lib.rs with `probe` set) satisfies every side condition the theorems about histories ask of a callback
  policy and that `cbResize` satisfies, because it is `cbResize` on a `resize` event and on every other event one `set_size`
  call that keeps the rows and asks for 1 to 9 columns (`cbProbe_eq`; so it is one of the policies that at most resize,
  `cbProbe_sizes`): `CbInv`, `CbX`, `CbF` (the hypotheses of `reachable_inv`, `reachable_emitInv`,
  `Reach.full_redraw_reachable`, `Reach.rows_protocol_reachable`, `C01.full_redraw_reachable_view`), `C13pend.CbNoPend`,
  `C12.CbKeeps`, `C10.CbModes`, and `C12.CbResp` (it reads the cursor and the size only).

  NOT satisfied by `cbProbe`, and not claimed: `C17any.CbQuiet` (a policy that acts on `resize` only — `cbProbe` acts
  on every event: `cbProbe_not_quiet`), and the two that `cbResize` fails as well (`C11.CbKeeps`, `C11.CbSaved`:
  `set_size` touches the inactive grid and clamps the saved positions).
-/
import Vt.Props.C15view
import Vt.Props.C12c
import Vt.Props.C13pend
import Vt.Props.C11more_c10
import Vt.Props.C17any
namespace Vt.CbProbe
open Vt Vt.C13 Vt.InvX Vt.InvF Vt.C12 Vt.Recv

variable {W : Nat → Option Nat}

/-- the width `cbProbe` asks for on every event other than `resize`; always in `1..9` -/
def probeCols (s : Screen) : Nat := 1 + (s.cur.pos.row + s.cur.pos.col + s.size.cols) % 9

theorem probeCols_pos (s : Screen) : 1 ≤ probeCols s := by unfold probeCols; omega

theorem probeCols_le (s : Screen) : probeCols s ≤ 9 := by unfold probeCols; omega

theorem cbProbe_eq (e : Event) :
    (∀ s, cbProbe e s = cbResize e s) ∨ ∀ s, cbProbe e s = s.setSize s.size.rows (probeCols s) := by
  cases e with
  | resize r c => exact .inl fun _ => rfl
  | _ => exact .inr fun _ => rfl

theorem cbProbe_sizes : CbSizes cbProbe := fun e s =>
  (cbProbe_eq e).elim (fun h => h s ▸ cbResize_sizes e s) fun h => .inr ⟨_, _, h s⟩

theorem cbProbe_inv : CbInv W cbProbe := fun e s hb hs =>
  (cbProbe_eq e).elim (fun h => h s ▸ cbResize_inv e s hb hs) fun h => h s ▸
    inv_setSize hs _ _ hs.cur.1.rows_pos (probeCols_pos s) hs.cur.1.rows_u16 (Nat.le_trans (probeCols_le s) (by decide))

theorem cbProbe_x : CbX W cbProbe := cbSizes_x cbProbe_sizes

theorem cbProbe_f : CbF W cbProbe := cbSizes_f cbProbe_sizes

/-- the three hypotheses of the reachability theorems -/
theorem cbProbe_all : CbInv W cbProbe ∧ CbX W cbProbe ∧ CbF W cbProbe := ⟨cbProbe_inv, cbProbe_x, cbProbe_f⟩

theorem cbProbe_noPend : C13pend.CbNoPend cbProbe := C13pend.cbSizes_noPend cbProbe_sizes

theorem cbProbe_ok (W : Nat → Option Nat) : CbInv W cbProbe ∧ C13pend.CbNoPend cbProbe :=
  ⟨cbProbe_inv, cbProbe_noPend⟩

theorem cbProbe_keeps : C12.CbKeeps cbProbe := C12.cbSizes_keeps cbProbe_sizes

theorem cbProbe_modes : C10.CbModes cbProbe := C10.cbSizes_modes cbProbe_sizes

theorem probe_forgetOff (s : Screen) :
    s.forgetOff.size.rows = s.size.rows ∧ probeCols s.forgetOff = probeCols s := by
  unfold probeCols Screen.size Screen.cur Screen.forgetOff Grid.forgetOff
  cases s.altScreen <;> exact ⟨rfl, rfl⟩

/-- **`cbProbe` cannot see the scrollback offsets**: on two screens equal up to the offsets it computes the same
size and so returns screens equal up to the offsets -/
theorem cbProbe_resp : C12.CbResp cbProbe := by
  intro e s1 s2 h
  rcases cbProbe_eq e with he | he <;> rw [he s1, he s2]
  · exact C12.cbResize_resp e s1 s2 h
  · have hf : s1.forgetOff = s2.forgetOff := h
    have e1 : s1.size.rows = s2.size.rows := by
      rw [← (probe_forgetOff s1).1, ← (probe_forgetOff s2).1, hf]
    have e2 : probeCols s1 = probeCols s2 := by
      rw [← (probe_forgetOff s1).2, ← (probe_forgetOff s2).2, hf]
    rw [e1, e2]
    exact C12.sSetSize_rel h _ _

/-- `cbProbe` is NOT quiet (it acts on every event, not on `resize` only): a bell on a 2x3 screen leaves it 2x4 -/
theorem cbProbe_not_quiet : ¬ C17any.CbQuiet cbProbe := by
  intro h
  have h1 := h .audibleBell (C13.newScreen 2 3 0) (fun r c => by intro hh; cases hh)
  have h2 : isOkTrue (do
      let s' ← cbProbe .audibleBell (C13.newScreen 2 3 0)
      pure (s'.size.cols == 4)) = true := by decide +kernel
  rw [h1] at h2
  revert h2
  decide +kernel

/-- non-vacuity: the hypotheses of the reachability theorems hold for `cbProbe` with the kernel-evaluation width
function -/
example : (CbInv W0 cbProbe ∧ CbX W0 cbProbe ∧ CbF W0 cbProbe) ∧ C13pend.CbNoPend cbProbe ∧ WOk W0 :=
  ⟨cbProbe_all, cbProbe_noPend, C01.wOk_W0⟩

/-- `reachable_inv` applies to `cbProbe`: every history of `process` / `set_size` / `set_scrollback` calls with the
probing callbacks is total and ends in a parser satisfying the invariant -/
theorem reachable_inv_probe (rows cols sb : Nat) (hr : 1 ≤ rows) (hc : 1 ≤ cols) (hr' : rows ≤ 65535)
    (hc' : cols ≤ 65535) (ops : List Op) (hv : ∀ op ∈ ops, op.Valid) (hW32 : W 32 = some 1) :
    ∃ p, (Parser.new rows cols sb >>= fun p0 => ops.foldlM (applyOp W cbProbe) p0) = .ok p ∧ ParserInv W p :=
  reachable_inv hW32 cbProbe_inv rows cols sb hr hc hr' hc' ops hv

/-- the probing callbacks do change what a history leaves behind: the bell (BEL) on a 2x3 parser makes the screen
`1 + (0 + 0 + 3) % 9 = 4` columns wide; with the cursor moved one to the right first it is 5 wide
(kernel-evaluated; a test) -/
example :
    isOkTrue (do
      let p0 ← Parser.new 2 3 0
      let p1 ← p0.process W0 cbProbe [7]
      let p2 ← p0.process W0 cbProbe [97, 7]
      pure (p1.ws.screen.size == ⟨2, 4⟩ && p2.ws.screen.size == ⟨2, 5⟩ && p1.ws.events == [.audibleBell])) = true := by
  decide +kernel

/-- **C15 for every history run with the probing callbacks** (`Reach.rows_protocol_reachable` at `cbProbe`) -/
theorem rows_protocol_reachable_probe (hW : WOk W) {cbR : CbPolicy}
    (rows cols sb : Nat) (hr : 1 ≤ rows) (hc : 1 ≤ cols) (hr' : rows ≤ 65535) (hc' : cols ≤ 65535)
    (ops : List Op) (hv : ∀ op ∈ ops, op.Valid) (sbR : Nat) :
    ∃ p, (Parser.new rows cols sb >>= fun p0 => ops.foldlM (applyOp W cbProbe) p0) = .ok p ∧
      (p.ws.screen.cur.scrollbackOffset = 0 →
        ∃ q rb cs q', Parser.new p.ws.screen.cur.size.rows p.ws.screen.cur.size.cols sbR = .ok q ∧
          p.ws.screen.rowsFormatted 0 p.ws.screen.cur.size.cols = .ok rb ∧
          p.ws.screen.cursorStateFormatted = .ok cs ∧
          q.process W cbR (C15.protocolStream p.ws.screen rb cs) = .ok q' ∧ C01.Shows q'.screen p.ws.screen) :=
  Reach.rows_protocol_reachable hW cbProbe_inv cbProbe_x cbProbe_f rows cols sb hr hc hr' hc' ops hv sbR

/-- **C01 for every history run with the probing callbacks** (`Reach.full_redraw_reachable` at `cbProbe`) -/
theorem full_redraw_reachable_probe (hW : WOk W) {cbR : CbPolicy}
    (rows cols sb : Nat) (hr : 1 ≤ rows) (hc : 1 ≤ cols) (hr' : rows ≤ 65535) (hc' : cols ≤ 65535)
    (ops : List Op) (hv : ∀ op ∈ ops, op.Valid) (sbR : Nat) :
    ∃ p, (Parser.new rows cols sb >>= fun p0 => ops.foldlM (applyOp W cbProbe) p0) = .ok p ∧
      (p.ws.screen.cur.scrollbackOffset = 0 →
        ∃ q bytes q', Parser.new p.ws.screen.cur.size.rows p.ws.screen.cur.size.cols sbR = .ok q ∧
          p.ws.screen.stateFormatted = .ok bytes ∧ q.process W cbR bytes = .ok q' ∧
          obs q'.screen = obs p.ws.screen ∧ q'.ws.events = [] ∧
          q'.screen.stateFormatted = .ok bytes ∧ q'.screen.contentsFormatted = p.ws.screen.contentsFormatted) :=
  Reach.full_redraw_reachable hW cbProbe_inv cbProbe_x cbProbe_f rows cols sb hr hc hr' hc' ops hv sbR

/-- a history in which the probing callback changes the width (BEL on a 3x3 screen at the origin: 4 columns), then
text that wraps and scrolls, then `set_scrollback(1)`: the view (history line "abcd", wrapped; live lines "e", "f")
meets the hypotheses of `C15.rows_protocol_view` (every visible row 4 wide, cursor inside its line), and the
protocol's bytes on a new 3x4 parser give `obsEq true` (kernel-evaluated; a test) -/
example :
    isOkTrue (do
      let p0 ← Parser.new 3 3 5
      let p1 ← p0.process W0 cbProbe [7, 97, 98, 99, 100, 101, 13, 10, 102, 13, 10, 103]
      let s ← p1.ws.screen.setScrollback 1
      let vis ← s.cur.visibleRows
      let rb ← s.rowsFormatted 0 s.cur.size.cols
      let cs ← s.cursorStateFormatted
      let q ← Parser.new 3 4 0
      let q' ← q.process W0 cbProbe (C15.protocolStreamVis s vis rb cs)
      let o1 ← obs q'.screen
      let o2 ← obs s
      pure (s.cur.size == ⟨3, 4⟩ && decide (s.cur.scrollbackOffset > 0) &&
            vis.all (fun r => r.cells.length == s.cur.size.cols) && decide (s.cur.pos.col < s.cur.size.cols) &&
            (vis.map (·.wrapped) == [true, false, false]) && obsEq true o1 o2)) = true := by
  decide +kernel

end Vt.CbProbe
