import Vt.Props.MiscC05
import Vt.Props.InvPerform
/-
  C13, the pending-wrap clause: "the cursor row is < rows and the cursor column is <= cols (== cols only as the
  pending-wrap position after printing in the last column)".

  `Inv` only says `pos.col ≤ cols`.  Here: a cursor column equal to `cols` can only be CREATED by `Screen::text` printing a
  character of non-zero width whose last cell is the last column; every other operation clamps below `cols`, keeps the
  column, or copies it between the live and the saved cursor of the same grid; `set_size` removes every pending position.
  The frame is proved from `SColsOk` alone (the fragment of `Inv` it needs) and preserves it.

  `perform_no_new_pend` is that frame: after an action that is not an effective print (`EffAction`), pending ⇒ pending
  before.  `print_pend_origin` says what an effective print that creates a pending cursor leaves, and
  `reachable_pend_has_print` carries both along histories.
  Not proved / remarks
   * `print_pend_origin` (which needs `W 32 = some 1`) does not restate the column BEFORE the print in terms of the input
     state (it is `cols - effWidth` after `col_wrap`; the closed forms of `col_wrap` are in C05b/MiscC05).
   * The theorems along action lists and histories use `C13.inv_perform` to carry `Inv` across effective prints, hence
     the hypotheses `W 32 = some 1`, `CbInv W cb` and valid operations; the frame and the theorems about `new`, `set_size`
     and `set_scrollback` need none of these.
   * `EffAction` is the exact condition under which `performPrint` reaches the cell writes of `text` (`textWide`); an
     effective print need not create a pending cursor.
-/
namespace Vt.C13pend
open Vt Vt.C12

/-- some cursor of this grid, live or saved, is in the pending-wrap column `cols` -/
def _root_.Vt.Grid.pend (g : Grid) : Prop := g.pos.col = g.size.cols ∨ g.savedPos.col = g.size.cols

instance (g : Grid) : Decidable g.pend := by unfold Grid.pend; infer_instance

/-- some cursor of the screen (live or saved, primary or alternate grid) is in the pending-wrap
column.  A not-yet-allocated alternate grid already carries its size and the cursors (0,0), so no
special case is needed — only `1 ≤ cols`, which `Inv` provides. -/
def _root_.Vt.Screen.pend (s : Screen) : Prop := s.grid.pend ∨ s.altGrid.pend

instance (s : Screen) : Decidable s.pend := by unfold Screen.pend; infer_instance

/-- the part of `Inv` this file needs of one grid -/
def ColsOk (g : Grid) : Prop := 1 ≤ g.size.cols ∧ g.pos.col ≤ g.size.cols ∧ g.savedPos.col ≤ g.size.cols

def SColsOk (s : Screen) : Prop := ColsOk s.grid ∧ ColsOk s.altGrid

theorem sColsOk_of_inv {W : Nat → Option Nat} {s : Screen} (h : Inv W s) : SColsOk s := by
  have h := (inv_iff W s).mp h
  exact ⟨⟨h.grid.cols_pos, h.grid.pos_col, h.grid.spos_col⟩, ⟨h.alt.cols_pos, h.alt.pos_col, h.alt.spos_col⟩⟩

/-- what the frame carries through an action, for one grid: `g0` at the start, `g` now.  A cursor of `g` in column
`cols` has one of `g0` behind it. -/
def GP (g0 g : Grid) : Prop := ColsOk g ∧ (g.pend → g0.pend)

/-- `GP` for a grid whose LIVE cursor column is arbitrary (about to be clamped): only the saved cursor is spoken of -/
def GQ (g0 g : Grid) : Prop :=
  1 ≤ g.size.cols ∧ g.savedPos.col ≤ g.size.cols ∧ (g.savedPos.col = g.size.cols → g0.pend)

theorem GP.refl {g : Grid} (h : ColsOk g) : GP g g := ⟨h, id⟩

theorem GP.toGQ {g0 g : Grid} (h : GP g0 g) : GQ g0 g := ⟨h.1.1, h.1.2.2, fun e => h.2 (Or.inr e)⟩

/-- `GP` and `GQ` read the size, the cursor column and the saved cursor of the grid: an operation that
leaves the cursor in its column keeps them -/
theorem GP.of_row {g0 g g' : Grid} (d : g.DrawsRow g') (hg : GP g0 g) : GP g0 g' := by
  rw [d]; exact hg

theorem GQ.of_row {g0 g g' : Grid} (d : g.DrawsRow g') (hg : GQ g0 g) : GQ g0 g' := by
  rw [d]; exact hg

/-- … and so does one that keeps the width and leaves in each cursor column a value below the width or
one of the two columns it found -/
theorem GP.of_cols {g0 g g' : Grid} (hg : GP g0 g) (hw : g'.size.cols = g.size.cols)
    (hp : g'.pos.col < g.size.cols ∨ g'.pos.col = g.pos.col ∨ g'.pos.col = g.savedPos.col)
    (hs : g'.savedPos.col < g.size.cols ∨ g'.savedPos.col = g.pos.col ∨ g'.savedPos.col = g.savedPos.col) :
    GP g0 g' := by
  obtain ⟨⟨h1, h2, h3⟩, h4⟩ := hg
  refine ⟨?_, fun h => h4 ?_⟩
  · unfold ColsOk; omega
  · unfold Grid.pend at h ⊢; omega

section gp
variable {g0 g : Grid}

theorem colClamp_gq (hg : GQ g0 g) : MPred (GP g0) g.colClamp := by
  obtain ⟨h1, h2, h3⟩ := hg
  rw [colClamp_spec g h1]
  refine MPred.ok ⟨⟨h1, ?_, h2⟩, fun h => h3 ?_⟩
  · show min g.pos.col (g.size.cols - 1) ≤ g.size.cols; omega
  · have h : min g.pos.col (g.size.cols - 1) = g.size.cols ∨ g.savedPos.col = g.size.cols := h
    omega

theorem colClamp_gp (hg : GP g0 g) : MPred (GP g0) g.colClamp := colClamp_gq hg.toGQ

theorem setPos_gp (hg : GP g0 g) (pos : Pos) : MPred (GP g0) (g.setPos pos) := by
  unfold Grid.setPos
  have hq : GQ g0 { g with pos := if g.originMode then ⟨satAddU16 pos.row g.scrollTop, pos.col⟩ else pos } := hg.toGQ
  exact MPred.bind ((rowClampBottom_passes _).footprint _) fun p hp =>
    colClamp_gq (.of_row ((rowClampTop_passes _ 0 _).2.trans hp).drawsRow hq)

theorem scrollUpStep_gp (hg : GP g0 g) : MPred (GP g0) (scrollUpStep g) := by
  unfold scrollUpStep
  refine MPred.bind_any _ fun _ => MPred.bind_any _ fun _ => MPred.ite (fun _ => ?_) (fun _ => MPred.pure hg)
  exact MPred.bind_any _ fun _ => MPred.ite (fun _ => MPred.pure hg) (fun _ => MPred.pure hg)

theorem scrollUp_gp (hg : GP g0 g) (n : Nat) : MPred (GP g0) (g.scrollUp n) := by
  rw [scrollUp_eq_iterate]
  exact MPred.bind_any _ fun _ => iterateM_pred (fun _ h => scrollUpStep_gp h) _ _ hg

theorem rowIncScroll_gp (hg : GP g0 g) (n : Nat) : MPred (fun p => GP g0 p.1) (g.rowIncScroll n) := by
  unfold Grid.rowIncScroll
  refine MPred.bind ((rowClampBottom_passes _).footprint { g with pos := _ }) fun p hp => ?_
  have hp : GP g0 p.1 := .of_row ((Grid.DrawsRow.setRow g _).trans hp.drawsRow) hg
  exact MPred.ite (fun _ => MPred.bind (scrollUp_gp hp _) fun _ h => MPred.pure h) (fun _ => MPred.pure hp)

theorem restoreCursor_gp (hg : GP g0 g) : GP g0 g.restoreCursor :=
  hg.of_cols rfl (.inr (.inr rfl)) (.inr (.inr rfl))

theorem saveCursor_gp (hg : GP g0 g) : GP g0 g.saveCursor :=
  hg.of_cols rfl (.inr (.inl rfl)) (.inr (.inl rfl))

theorem setOriginMode_gp (hg : GP g0 g) (m : Bool) : MPred (GP g0) (g.setOriginMode m) :=
  setPos_gp (g := { g with originMode := m }) hg _

/-- moving left: the column can reach `cols` only by staying there (`col ≤ cols` is used here) -/
theorem colDec_gp (hg : GP g0 g) (n : Nat) : GP g0 (g.colDec n) := by
  have h2 : g.pos.col ≤ g.size.cols := hg.1.2.1
  exact hg.of_cols rfl (by show g.pos.col - n < _ ∨ g.pos.col - n = _ ∨ _; omega) (.inr (.inr rfl))

/-- `col_set` (CHA, CR; also TAB and CUF): whatever column is asked for, it is clamped -/
theorem colSet_gp (hg : GP g0 g) (col : Nat) : MPred (GP g0) ({ g with pos := { g.pos with col := col } }).colClamp :=
  colClamp_gq (g := { g with pos := _ }) hg.toGQ

theorem appendToPrev_gp (hg : GP g0 g) (row col c : Nat) : MPred (GP g0) (g.appendToPrev row col c) :=
  ((appendToPrev_passes row col c).footprint g).mono fun _ d => .of_row d hg

theorem col0_gp (hg : GP g0 g) (row : Nat) : GP g0 { g with pos := ⟨row, 0⟩ } :=
  hg.of_cols rfl (.inl hg.1.1) (.inr (.inr rfl))

theorem setScrollRegion_gp (hg : GP g0 g) (t b : Nat) : MPred (GP g0) (g.setScrollRegion t b) :=
  ((setScrollRegion_passes t b).footprint g).mono fun _ e => by rw [e]; exact col0_gp hg _

theorem colWrap_gp (hg : GP g0 g) (w : Nat) (wr : Bool) : MPred (GP g0) (g.colWrap w wr) := by
  unfold Grid.colWrap
  refine MPred.bind_any _ fun _ => MPred.ite (fun _ => ?_) (fun _ => MPred.pure hg)
  refine MPred.bind (rowIncScroll_gp (col0_gp hg _) 1) fun p hp => ?_
  exact MPred.ite (fun _ => MPred.pure hp) fun _ => MPred.bind_any _ fun _ => MPred.bind_any _ fun _ => MPred.pure hp

theorem clear_gp (hg : GP g0 g) : MPred (GP g0) g.clear :=
  MPred.bind_any _ fun _ => MPred.pure (hg.of_cols rfl (.inl hg.1.1) (.inl hg.1.1))

theorem drawOp_gp {p : Attrs} {f : Grid → M Grid} (hf : DrawOp p f) (hg : GP g0 g) : MPred (GP g0) (f g) := by
  cases hf with
  | row h => exact (h.drawsRow g).mono fun _ d => .of_row d hg
  | colDec n => exact MPred.pure (colDec_gp hg n)
  | colTab => exact colSet_gp hg _
  | colSet i => exact colSet_gp hg i
  | colIncClamp n => exact colSet_gp hg _
  | setPos pos => exact setPos_gp hg pos
  | cnl n => exact MPred.bind (colSet_gp hg 0) fun g1 h1 => ((rowIncClamp_passes n).footprint g1).mono fun _ d => .of_row d.drawsRow h1
  | cpl n => exact MPred.bind (colSet_gp hg 0) fun g1 h1 => MPred.pure (.of_row (Grid.MovesRow.drawsRow ((rowDecClamp_passes n).footprint g1)) h1)

end gp

open Vt.C05 in
/-- `Screen::text` reaches the cell writes and `col_inc` with `c` on a grid of `cols` columns: `c` is
not dropped as a control character (`width() = None` below U+0100), its clamped width
(`effWidth W c = min (width.unwrap_or(1)) 2`) is 1 or 2, and it is not dropped as too wide for the screen -/
def EffText (W : Nat → Option Nat) (cols c : Nat) : Prop :=
  ¬ (W c = none ∧ c < 256) ∧ 1 ≤ effWidth W c ∧ effWidth W c ≤ cols

instance (W : Nat → Option Nat) (cols c : Nat) : Decidable (EffText W cols c) := by
  unfold EffText; infer_instance

open Vt.C05 in
theorem text_gp (W : Nat → Option Nat) {g0 g : Grid} (hg : GP g0 g) (a : Attrs) (c : Nat)
    (hne : ¬ EffText W g.size.cols c) : MPred (GP g0) (g.text W a c) := by
  rw [text_eq_steps]
  refine MPred.ite (fun _ => MPred.ok hg) fun h1 => MPred.bind_any _ fun wr => MPred.bind (colWrap_gp hg _ _) fun a' ha => ?_
  refine MPred.ite (fun _ => ((textZero_passes c).footprint a').mono fun _ d => .of_row d ha) fun h3 => ?_
  -- not dropped and not of width 0: the print is effective
  simp only [beq_iff_eq] at h3
  exact absurd ⟨fun e => h1 (.inl e), by unfold effWidth; omega, by unfold effWidth; omega⟩ hne

/-- `GP` for a screen: both grids -/
def SP (s0 s : Screen) : Prop := SColsOk s ∧ (s.pend → s0.pend)

theorem SP.refl {s : Screen} (h : SColsOk s) : SP s s := ⟨h, id⟩

theorem SP.step {s0 s s' : Screen} (hs : SP s0 s) (h1 : GP s.grid s'.grid) (h2 : GP s.altGrid s'.altGrid) :
    SP s0 s' :=
  ⟨⟨h1.1, h2.1⟩, fun hp => hs.2 (hp.elim (fun x => Or.inl (h1.2 x)) (fun x => Or.inr (h2.2 x)))⟩

section sp
variable {s0 s : Screen}

theorem cur_colsOk (h : SColsOk s) : ColsOk s.cur := by
  unfold Screen.cur
  split
  · exact h.2
  · exact h.1

theorem SP.setCur (hs : SP s0 s) {g : Grid} (hg : GP s.cur g) : SP s0 (s.setCur g) := by
  unfold Screen.setCur; unfold Screen.cur at hg
  split <;> rename_i ha <;> simp only [ha, ↓reduceIte, Bool.false_eq_true] at hg
  · exact hs.step (GP.refl hs.1.1) hg
  · exact hs.step hg (GP.refl hs.1.2)

theorem modifyGrid_sp {f : Grid → M Grid} (hs : SP s0 s) (hf : GP s.cur s.cur → MPred (GP s.cur) (f s.cur)) :
    MPred (SP s0) (s.modifyGrid f) :=
  MPred.modifyGrid (hf (GP.refl (cur_colsOk hs.1))) fun _ => hs.setCur

theorem enterAlternateGrid_sp (hs : SP s0 s) : MPred (SP s0) s.enterAlternateGrid :=
  MPred.bind (modifyGrid_sp hs (fun hk => MPred.pure hk)) fun _ h' =>
    MPred.pure (SP.step h' (GP.refl h'.1.1) (.of_row (allocateRows_passes.footprint _) (GP.refl h'.1.2)))

theorem sSaveCursor_sp (hs : SP s0 s) : MPred (SP s0) s.saveCursor :=
  MPred.bind (modifyGrid_sp hs (fun hk => MPred.pure (saveCursor_gp hk))) fun _ h' => MPred.pure h'

theorem sRestoreCursor_sp (hs : SP s0 s) : MPred (SP s0) s.restoreCursor :=
  MPred.bind (modifyGrid_sp hs (fun hk => MPred.pure (restoreCursor_gp hk))) fun _ h' => MPred.pure h'

theorem new_colsOk_not_pend {size : Size} {sb : Nat} {s : Screen} (hc : 1 ≤ size.cols)
    (h : Screen.new size sb = .ok s) : SColsOk s ∧ ¬ s.pend := by
  rw [(C13.new_of_ok h).2]
  unfold SColsOk ColsOk Screen.pend Grid.pend
  simp only [C13.newScreen, C13.newGrid]
  omega

theorem ris_sp (hs : SP s0 s) : MPred (SP s0) s.ris := by
  rw [MPred.iff]
  intro s' h
  obtain ⟨h1, h2⟩ := new_colsOk_not_pend hs.1.1.1 h
  exact ⟨h1, fun hp => absurd hp h2⟩

end sp

theorem gridSetSize_cols (g : Grid) (size : Size) :
    MPred (fun g' => g'.size = size ∧ 1 ≤ size.cols ∧ g'.pos.col < size.cols ∧ g'.savedPos.col < size.cols)
      (g.setSize size) :=
  MPred.iff.mpr fun _ e => by
    obtain ⟨_, hr, hc, rfl⟩ := C16.setSize_iff.mp e
    obtain ⟨p1, _, _, _, _, _, p7, _, p9, _⟩ := C16.setSizeSpec_props g size hr hc
    exact ⟨p1, hc, p7, p9⟩

/-- **`set_size` clears every pending position**, live and saved, on both grids.  No hypothesis
is needed: `set_size` panics (model: `.error`) unless `rows, cols ≥ 1`. -/
theorem setSize_colsOk_not_pend {s s' : Screen} {r c : Nat} (h : s.setSize r c = .ok s') :
    SColsOk s' ∧ ¬ s'.pend := by
  obtain ⟨g, ag, hg, hag, rfl⟩ := C16.screen_setSize_of_ok h
  obtain ⟨a1, a2, a3, a4⟩ := MPred.iff.mp (gridSetSize_cols s.grid ⟨r, c⟩) g hg
  obtain ⟨b1, b2, b3, b4⟩ := MPred.iff.mp (gridSetSize_cols s.altGrid ⟨r, c⟩) ag hag
  show (ColsOk g ∧ ColsOk ag) ∧ ¬ (g.pend ∨ ag.pend)
  unfold ColsOk Grid.pend
  rw [a1, b1]
  simp only at a2 a3 a4 b2 b3 b4 ⊢
  omega

set_option linter.unusedVariables false in
/-- `setSize_colsOk_not_pend` with the hypotheses of the property's wording (`Inv`, `1 ≤ r`, `1 ≤ c`), none of which is needed -/
theorem setSize_not_pend (W : Nat → Option Nat) {s s' : Screen} {r c : Nat} (hi : Inv W s) (hr : 1 ≤ r) (hc : 1 ≤ c)
    (h : s.setSize r c = .ok s') : ¬ s'.pend :=
  (setSize_colsOk_not_pend h).2

set_option linter.unusedVariables false in
/-- **a new screen has no pending cursor** (`1 ≤ rows` is not needed) -/
theorem new_not_pend {rows cols sb : Nat} {s : Screen} (hr : 1 ≤ rows) (hc : 1 ≤ cols)
    (h : Screen.new ⟨rows, cols⟩ sb = .ok s) : ¬ s.pend :=
  (new_colsOk_not_pend hc h).2

/-- **`set_scrollback` does not change `pend`** (nor any cursor or size) -/
theorem setScrollback_pend {s s' : Screen} {k : Nat} (h : s.setScrollback k = .ok s') :
    (s'.pend ↔ s.pend) ∧ (SColsOk s' ↔ SColsOk s) := by
  cases (C13.setScrollback_total s k).symm.trans h
  unfold Screen.setCur Screen.cur
  cases s.altScreen <;> exact ⟨Iff.rfl, Iff.rfl⟩

/-- a callback policy that itself creates no pending position (on screens with `SColsOk`, which it keeps) -/
def CbNoPend (cb : CbPolicy) : Prop :=
  ∀ e s s', SColsOk s → cb e s = .ok s' → SColsOk s' ∧ (s'.pend → s.pend)

theorem cbSizes_noPend {cb : CbPolicy} (h : CbSizes cb) : CbNoPend cb := fun e s s' hs =>
  h.elim (P := fun m => m = .ok s' → _) e s (fun h => by cases h; exact ⟨hs, id⟩) fun _ _ h =>
    have ⟨h1, h2⟩ := setSize_colsOk_not_pend h
    ⟨h1, fun hp => absurd hp h2⟩

theorem cbNone_noPend : CbNoPend cbNone := cbSizes_noPend cbNone_sizes

theorem cbResize_noPend : CbNoPend cbResize := cbSizes_noPend cbResize_sizes

theorem CbNoPend.sp {cb : CbPolicy} (hcb : CbNoPend cb) (e : Event) {s0 s : Screen} (hs : SP s0 s) :
    MPred (SP s0) (cb e s) := by
  rw [MPred.iff]
  intro s' h
  obtain ⟨h1, h2⟩ := hcb e s s' hs.1 h
  exact ⟨h1, fun hp => hs.2 (h2 hp)⟩

open Vt.C05 in
/-- **an effective print**: `Perform::print(c)` reaches `Screen::text` (`c` is not in the C1 range,
which is routed to `execute`, and is not U+FFFD), and `text` writes it with non-zero width on the
active grid (`EffText`) -/
def EffPrint (W : Nat → Option Nat) (s : Screen) (c : Nat) : Prop :=
  ¬ (0x80 ≤ c ∧ c < 0xA0) ∧ c ≠ 0xFFFD ∧ EffText W s.cur.size.cols c

instance (W : Nat → Option Nat) (s : Screen) (c : Nat) : Decidable (EffPrint W s c) := by
  unfold EffPrint; infer_instance

def EffAction (W : Nat → Option Nat) (s : Screen) : Action → Prop
  | .print c => EffPrint W s c
  | _ => False

instance (W : Nat → Option Nat) (s : Screen) (a : Action) : Decidable (EffAction W s a) := by
  cases a <;> simp only [EffAction] <;> infer_instance

/-- The motive is stated screen by screen because the arm for `text` reads the screen it meets (whether a print is
effective depends on its width); every other arm keeps `SP s0` on all screens (`any`). -/
theorem perform_sp (W : Nat → Option Nat) {cb : CbPolicy} (hcb : CbNoPend cb) (a : Action) (s0 : Screen) (ws : WS)
    (hs : SP s0 ws.screen) (hne : ¬ EffAction W ws.screen a) :
    MPred (fun ws' => SP s0 ws'.screen) (perform W cb ws a) :=
  have hemit (e : Event) : WPred (SP s0) (emit cb e) := .emit (fun e _ h => hcb.sp e h) e
  have hgrid {f : Screen → Grid → M Grid} (hf : ∀ s g0 g, GP g0 g → MPred (GP g0) (f s g)) :
      WPred (SP s0) (fun ws => ws.onScreen fun s => s.modifyGrid (f s)) :=
    .onScreen fun s h => modifyGrid_sp h (hf s _ _)
  have any {a : Action} {F : WS → M WS} (h : WPred (SP s0) F) (ws : WS) (_ : ¬ EffAction W ws.screen a) :
      SP s0 ws.screen → MPred (fun ws' => SP s0 ws'.screen) (F ws) := h ws
  perform_cases W
    (C := fun a F => ∀ ws : WS, ¬ EffAction W ws.screen a → SP s0 ws.screen →
      MPred (fun ws' : WS => SP s0 ws'.screen) (F cb ws))
    (nop := fun _ => any .pure)
    (emit := fun _ e _ => any (hemit e))
    (emit2 := fun _ e1 e2 _ _ => any (.bind (hemit e1) (hemit e2)))
    (draw := fun _ _ hf => any (hgrid fun s _ _ hg => drawOp_gp (hf s.attrs) hg))
    (deckpam := fun _ _ _ h => MPred.pure h)
    (deckpnm := fun _ _ _ h => MPred.pure h)
    (lf := fun _ _ => any (hgrid fun _ _ _ hg => MPred.bind (rowIncScroll_gp hg 1) fun _ hp => MPred.pure hp))
    (text := fun c h1 h2 ws hne hs => MPred.bind (m := ws.screen.text W c)
      (modifyGrid_sp hs fun hk => text_gp W hk _ c fun he => hne ⟨h1, h2, he⟩) fun _ h' => MPred.pure h')
    (su := fun _ _ => any (hgrid fun _ _ _ hg => scrollUp_gp hg _))
    (decsc := fun _ => any (.onScreen fun _ h => sSaveCursor_sp h))
    (decrc := fun _ => any (.onScreen fun _ h => sRestoreCursor_sp h))
    (ris := fun _ => any (.onScreen fun _ h => ris_sp h))
    (decstbm := fun _ _ => any (.onScreen fun _ h => MPred.bind_any _ fun _ => MPred.bind_any _ fun _ =>
      modifyGrid_sp h (fun hg => setScrollRegion_gp hg _ _)))
    (resize := fun _ _ ws _ h => hemit _ ws h)
    -- the three loops are not prints
    (seq := fun _ hl _ _ hst => any (.steps fun st hm ws h => hst st hm ws (by cases hl <;> exact id) h))
    (pen := fun _ _ _ _ _ _ h => MPred.pure h)
    (mode := fun _ _ _ _ _ _ _ _ h => MPred.pure h)
    (origin := fun _ _ _ _ _ _ => any (hgrid fun _ _ _ hg => setOriginMode_gp hg _))
    (enter := fun _ _ _ => any (.onScreen fun _ h => enterAlternateGrid_sp h))
    (save1049 := fun _ _ _ _ => any (.onScreen fun _ h => sSaveCursor_sp h))
    -- `Grid::clear` homes both cursors of the alternate grid
    (clear1049 := fun _ _ _ _ => any (.onScreen fun s h => MPred.bind (clear_gp (GP.refl h.1.2)) fun ag hag =>
      MPred.pure (SP.step (s' := { s with altGrid := ag }) h (GP.refl h.1.1) hag)))
    (exit := fun _ _ _ _ _ _ h => MPred.pure h)
    (restore1049 := fun _ _ _ _ => any (.onScreen fun _ h => sRestoreCursor_sp h))
    a ws hne hs

/-- **the frame theorem: no action other than an effective print creates a pending cursor.**
For every `Action` with any parameters — DECSC / DECRC, `?47` / `?1049` both ways, RIS, the resize request
`CSI 8 ; r ; c t` with a callback that calls `set_size`, and `print c` when it is not an effective print (C1 range,
U+FFFD, control characters, zero-width characters, characters too wide for the screen) included — and every callback
policy that itself creates no pending position: if some cursor (live or saved, primary or alternate grid) is in column
`cols` afterwards, one already was before. -/
theorem perform_no_new_pend (W : Nat → Option Nat) {cb : CbPolicy} (hcb : CbNoPend cb) (ws ws' : WS) (a : Action)
    (hne : ¬ EffAction W ws.screen a) (hinv : Inv W ws.screen) (h : perform W cb ws a = .ok ws') :
    ws'.screen.pend → ws.screen.pend :=
  (MPred.iff.mp (perform_sp W hcb a _ ws (SP.refl (sColsOk_of_inv hinv)) hne) ws' h).2

/-- the same from the weaker hypothesis `SColsOk` (no assumption on rows, cells, regions), with the
preservation of `SColsOk` -/
theorem perform_no_new_pend' (W : Nat → Option Nat) {cb : CbPolicy} (hcb : CbNoPend cb) (ws ws' : WS) (a : Action)
    (hne : ¬ EffAction W ws.screen a) (hok : SColsOk ws.screen) (h : perform W cb ws a = .ok ws') :
    SColsOk ws'.screen ∧ (ws'.screen.pend → ws.screen.pend) :=
  MPred.iff.mp (perform_sp W hcb a _ ws (SP.refl hok) hne) ws' h

theorem perform_not_pend (W : Nat → Option Nat) {cb : CbPolicy} (hcb : CbNoPend cb) (ws ws' : WS) (a : Action)
    (hinv : Inv W ws.screen) (hnp : ¬ ws.screen.pend) (h : perform W cb ws a = .ok ws')
    (hp : ws'.screen.pend) : EffAction W ws.screen a :=
  Decidable.byContradiction (fun hne => hnp (perform_no_new_pend W hcb ws ws' a hne hinv h hp))

def _root_.Vt.Screen.other (s : Screen) : Grid := if s.altScreen then s.grid else s.altGrid

theorem pend_iff_cur_other (s : Screen) : s.pend ↔ s.cur.pend ∨ s.other.pend := by
  unfold Screen.pend Screen.cur Screen.other
  cases s.altScreen
  · simp only [Bool.false_eq_true, ↓reduceIte]
  · simp only [↓reduceIte]; exact Or.comm

theorem withCur_other (s : Screen) (g : Grid) : (MiscC05.withCur s g).other = s.other := by
  unfold MiscC05.withCur Screen.other
  cases s.altScreen <;> simp

open Vt.C05 in
theorem printedCell_last (W : Nat → Option Nat) (old : List Cell) (col : Nat) (a : Attrs) (c : Nat) (x : Cell)
    {w : Nat} (hw1 : 1 ≤ w) (hw2 : w ≤ 2) :
    if w = 1 then (printedCell W old col a c (decide (w > 1)) (col + w - 1) x).hasContents = true
    else (printedCell W old col a c (decide (w > 1)) (col + w - 1) x).isWideContinuation = true := by
  obtain rfl | rfl : w = 1 ∨ w = 2 := by omega
  · simp only [↓reduceIte, Nat.add_sub_cancel, printedCell, setCell, Cell.hasContents, decide_eq_true_eq]
    exact (Utf8.encode_length_bounds c).1
  · show (printedCell W old col a c true (col + 1) x).isWideContinuation = true
    simp only [printedCell, show ¬ (col + 1 = col) by omega,
      show ¬ (col + 1 + 1 = col ∧ flagAt old col (·.cont) = true) by omega, ↓reduceIte, contOf,
      Cell.isWideContinuation, Cell.setWideContinuation]

open Vt.C05 Vt.MiscC05 in
/-- **an effective print that creates a pending cursor**: from a screen with no pending cursor,
if one exists after `print c` then it is the LIVE cursor of the ACTIVE grid (its saved cursor and both
cursors of the other grid are not pending), and the last column (`cols - 1`) of the cursor's line has
just been printed into: it holds the character (width 1: the cell has contents) or is the second half of
the wide character (width 2: a continuation cell). -/
theorem print_pend_origin (W : Nat → Option Nat) (cb : CbPolicy) (ws ws' : WS) (c : Nat)
    (hinv : Inv W ws.screen) (hW32 : W 32 = some 1) (heff : EffPrint W ws.screen c)
    (h : perform W cb ws (.print c) = .ok ws') (hnp : ¬ ws.screen.pend) (hp : ws'.screen.pend) :
    ws'.screen.cur.pos.col = ws'.screen.cur.size.cols ∧
    ws'.screen.cur.savedPos.col < ws'.screen.cur.size.cols ∧
    ¬ ws'.screen.other.pend ∧
    ∃ r x, ws'.screen.cur.rows[ws'.screen.cur.pos.row]? = some r ∧
      r.cells[ws'.screen.cur.size.cols - 1]? = some x ∧
      (if effWidth W c = 1 then x.hasContents = true else x.isWideContinuation = true) := by
  obtain ⟨hc1, hrep, hnc, hw1, hwc⟩ := heff
  have hsi := (inv_iff W _).mp hinv
  obtain ⟨hg, hl⟩ := hsi.cur
  obtain ⟨r, g1, r1, hr, hcw, hs, hr1, ht⟩ := text_via_colWrap hg hl hW32 ws.screen.attrs c hnc hw1 hwc
  rw [perform_print_eq cb ws c hc1 hrep ht] at h
  cases h
  -- `col_wrap` creates no pending cursor, so `g1` has none; the one pending after the print is then the live cursor
  -- that the print advanced: `col + w = cols`
  have hgp : GP ws.screen.cur g1 :=
    MPred.iff.mp (colWrap_gp (GP.refl (cur_colsOk (sColsOk_of_inv hinv))) _ _) g1 hcw
  have hnc1 : ¬ g1.pend := fun hx => hnp ((pend_iff_cur_other _).mpr (Or.inl (hgp.2 hx)))
  have hno : ¬ ws.screen.other.pend := fun hx => hnp ((pend_iff_cur_other _).mpr (Or.inr hx))
  rw [pend_iff_cur_other] at hp
  simp only [setScreen] at hp ⊢
  rw [withCur_cur, withCur_other] at hp ⊢
  have hsz : g1.size = ws.screen.cur.size := hs.size
  have hcolv : g1.pos.col + effWidth W c = g1.size.cols := by
    rcases hp with hp | hp
    · have hp : g1.pos.col + effWidth W c = g1.size.cols ∨ g1.savedPos.col = g1.size.cols := hp
      rcases hp with hp | hp
      · exact hp
      · exact absurd (Or.inr hp) hnc1
    · exact absurd hp hno
  have hsv : g1.savedPos.col < g1.size.cols := by
    have h1 : g1.savedPos.col ≤ g1.size.cols := hgp.1.2.2
    have h2 : g1.savedPos.col ≠ g1.size.cols := fun e => hnc1 (Or.inr e)
    omega
  refine ⟨hcolv, hsv, hno, ?_⟩
  have hlt : g1.pos.row < g1.rows.length := (List.getElem?_eq_some_iff.mp hr1).1
  have hlen : r1.cells.length = g1.size.cols := (hs.inv.row_ok r1 (List.mem_of_getElem? hr1)).1
  have hcp : 1 ≤ g1.size.cols := hs.inv.cols_pos
  have hw2 : effWidth W c ≤ 2 := by unfold effWidth; omega
  obtain ⟨x0, hx0⟩ : ∃ x0, r1.cells[g1.size.cols - 1]? = some x0 :=
    ⟨_, List.getElem?_eq_getElem (show g1.size.cols - 1 < r1.cells.length by omega)⟩
  refine ⟨printedRow W r1 g1.pos.col ws.screen.cur.size.cols ws.screen.attrs c (decide (effWidth W c > 1)),
    printedCell W r1.cells g1.pos.col ws.screen.attrs c (decide (effWidth W c > 1)) (g1.size.cols - 1) x0,
    ?_, ?_, ?_⟩
  · show (g1.rows.set g1.pos.row _)[g1.pos.row]? = some _
    rw [List.getElem?_set_self hlt]
  · show (printedRow W r1 g1.pos.col ws.screen.cur.size.cols ws.screen.attrs c (decide (effWidth W c > 1))).cells[
      g1.size.cols - 1]? = some _
    simp only [printedRow, List.getElem?_mapIdx, hx0, Option.map_some]
  · rw [← hcolv]
    exact printedCell_last W r1.cells g1.pos.col ws.screen.attrs c x0 hw1 hw2

open Vt.C13 in
/-- **any list of actions.**  If a cursor is pending after performing `acts`, then one was pending
before, or the list contains a `print c` that was an EFFECTIVE print on the screen it was applied to
(`ws1` = the state after the actions before it). -/
theorem actions_pend_origin {W : Nat → Option Nat} (hW32 : W 32 = some 1) {cb : CbPolicy} (hci : CbInv W cb)
    (hcb : CbNoPend cb) :
    ∀ (acts : List Action) (ws ws' : WS), Inv W ws.screen → (∀ a ∈ acts, ActionOk a) →
      acts.foldlM (perform W cb) ws = .ok ws' → ws'.screen.pend →
      ws.screen.pend ∨ ∃ acts1 c acts2 ws1, acts = acts1 ++ Action.print c :: acts2 ∧
        acts1.foldlM (perform W cb) ws = .ok ws1 ∧ EffPrint W ws1.screen c := by
  intro acts ws ws' hinv hok h hp
  rcases foldlM_origin (f := perform W cb) (I := fun ws => Inv W ws.screen) (P := fun ws => ws.screen.pend)
      (E := fun ws a => EffAction W ws.screen a) (K := fun _ => False) (ok := ActionOk)
      (fun ws a ws' ha hi e => by
        obtain ⟨w, e', i⟩ := inv_perform hW32 hci ws ((inv_iff W _).mp hi) a ha
        cases e'.symm.trans e; exact (inv_iff W _).mpr i)
      (fun ws a ws' _ hi e hp => by
        by_cases he : EffAction W ws.screen a
        · exact Or.inr he
        · exact Or.inl ⟨id, perform_no_new_pend W hcb ws ws' a he hi e hp⟩)
      acts ws ws' hok hinv h hp with ⟨h1, -⟩ | ⟨l1, a, l2, ws1, e, -, hf, hE⟩
  · exact Or.inl h1
  · cases a with
    | print c => exact Or.inr ⟨l1, c, l2, ws1, e, hf, hE⟩
    | _ => exact absurd hE (by simp [EffAction])

open Vt.C13 in
theorem actions_no_new_pend {W : Nat → Option Nat} (hW32 : W 32 = some 1) {cb : CbPolicy} (hci : CbInv W cb)
    (hcb : CbNoPend cb) (acts : List Action) (ws ws' : WS) (hinv : Inv W ws.screen)
    (hok : ∀ a ∈ acts, ActionOk a) (hq : ∀ a ∈ acts, ∀ s, ¬ EffAction W s a)
    (h : acts.foldlM (perform W cb) ws = .ok ws') : ws'.screen.pend → ws.screen.pend := by
  intro hp
  rcases actions_pend_origin hW32 hci hcb acts ws ws' hinv hok h hp with h1 | ⟨acts1, c, acts2, ws1, e, _, hE⟩
  · exact h1
  · exact absurd hE (hq (.print c) (by rw [e]; simp) ws1.screen)

/-- `process(bytes)` from parser state `p` performs an effective print: one of the actions vte
produces for `bytes` is a `print c` that is effective on the screen it meets -/
def ProcessPrints (W : Nat → Option Nat) (cb : CbPolicy) (p : Parser) (bytes : List Nat) : Prop :=
  ∃ acts1 c acts2 ws1, (p.vte.advance bytes).2 = acts1 ++ Action.print c :: acts2 ∧
    acts1.foldlM (perform W cb) p.ws = .ok ws1 ∧ EffPrint W ws1.screen c

open Vt.C13 in
/-- **one call of the public API.**  `set_size` leaves no pending cursor; `set_scrollback` keeps
what there is; `process` has one afterwards only if there was one before or it printed effectively. -/
theorem applyOp_pend_origin {W : Nat → Option Nat} (hW32 : W 32 = some 1) {cb : CbPolicy} (hci : CbInv W cb)
    (hcb : CbNoPend cb) (p p' : Parser) (hp : ParserInv W p) (op : Op) (hv : op.Valid)
    (h : applyOp W cb p op = .ok p') (hpend : p'.ws.screen.pend) :
    match op with
    | .process bytes => p.ws.screen.pend ∨ ProcessPrints W cb p bytes
    | .setSize _ _ => False
    | .setScrollback _ => p.ws.screen.pend := by
  cases op with
  | process bytes =>
    obtain ⟨ws', h1, rfl⟩ := C18.process_eq_ok.mp h
    exact actions_pend_origin hW32 hci hcb _ p.ws ws' ((inv_iff W _).mpr hp.screen)
      (good_advance p.vte bytes hp.vte).2 h1 hpend
  | setSize r c =>
    simp only [applyOp] at h
    obtain ⟨s', h1, h2⟩ := bind_eq_ok.mp h
    simp only [pure_eq_ok, Except.ok.injEq] at h2
    subst h2
    exact (setSize_colsOk_not_pend h1).2 hpend
  | setScrollback k =>
    simp only [applyOp] at h
    obtain ⟨s', h1, h2⟩ := bind_eq_ok.mp h
    simp only [pure_eq_ok, Except.ok.injEq] at h2
    subst h2
    exact (setScrollback_pend h1).1.mp hpend

/-- a history of public API calls from `Parser::new(rows, cols, sb)` (the expression of
`C13.reachable_inv`) -/
def run (W : Nat → Option Nat) (cb : CbPolicy) (rows cols sb : Nat) (ops : List C13.Op) : M Parser :=
  Parser.new rows cols sb >>= fun p0 => ops.foldlM (C13.applyOp W cb) p0

def isSetSize : C13.Op → Bool
  | .setSize _ _ => true
  | _ => false

open Vt.C13 in
/-- **reachable states: a pending cursor has a print behind it.**  Along every history of valid
`process` / `set_size` / `set_scrollback` calls from `Parser::new` (callbacks: any policy that keeps `Inv`
and creates no pending position): if some cursor of the final screen is in
the pending-wrap column, then the history contains a `process(bytes)` call with NO `set_size` call after
it, during which an effective print was performed (`ProcessPrints` at the parser state `p1` that call
started from). -/
theorem reachable_pend_has_print {W : Nat → Option Nat} (hW32 : W 32 = some 1) {cb : CbPolicy}
    (hci : CbInv W cb) (hcb : CbNoPend cb)
    (rows cols sb : Nat) (hr : 1 ≤ rows) (hc : 1 ≤ cols) (hr' : rows ≤ 65535) (hc' : cols ≤ 65535)
    (ops : List Op) (hv : ∀ op ∈ ops, op.Valid) (p : Parser)
    (h : run W cb rows cols sb ops = .ok p) (hpend : p.ws.screen.pend) :
    ∃ pre bytes post p1, ops = pre ++ Op.process bytes :: post ∧ (∀ op ∈ post, isSetSize op = false) ∧
      run W cb rows cols sb pre = .ok p1 ∧ ProcessPrints W cb p1 bytes := by
  obtain ⟨p0, e0, i0⟩ := new_parserInv (W := W) rows cols sb hr hc hr' hc'
  have hnew : ¬ p0.ws.screen.pend := by
    obtain ⟨s, hs, e⟩ := bind_eq_ok.mp e0
    cases e; exact new_not_pend hr hc hs
  have hrun : ∀ l, run W cb rows cols sb l = l.foldlM (applyOp W cb) p0 := fun l => by unfold run; rw [e0]; rfl
  rw [hrun] at h
  -- a pending cursor at the end was brought by a `process` call after which no `set_size` came
  rcases foldlM_origin (f := applyOp W cb) (I := ParserInv W) (P := fun p => p.ws.screen.pend)
      (E := fun p op => ∃ bytes, op = .process bytes ∧ ProcessPrints W cb p bytes)
      (K := fun op => isSetSize op = true) (ok := Op.Valid)
      (fun p op p' hv hi e => by
        obtain ⟨q, e', i⟩ := applyOp_total hW32 hci p hi op hv
        cases e'.symm.trans e; exact i)
      (fun p op p' hv hi e hp => by
        have := applyOp_pend_origin hW32 hci hcb p p' hi op hv e hp
        cases op with
        | process bytes => exact this.elim (fun h => Or.inl ⟨by simp [isSetSize], h⟩) fun h => Or.inr ⟨bytes, rfl, h⟩
        | setSize r c => exact this.elim
        | setScrollback k => exact Or.inl ⟨by simp [isSetSize], this⟩)
      ops p0 p hv i0 h hpend with ⟨h1, -⟩ | ⟨pre, op, post, p1, e, hpost, hf, bytes, rfl, hE⟩
  · exact absurd h1 hnew
  · exact ⟨pre, bytes, post, p1, e, fun o ho => by simpa using hpost o ho, (hrun pre).trans hf, hE⟩

open Vt.C13 in
/-- corollary (the simple form): a history in which no `process` call comes after the last `set_size`
— in particular one without any `process` call — ends with no pending cursor -/
theorem no_process_after_setSize_not_pend {W : Nat → Option Nat} (hW32 : W 32 = some 1) {cb : CbPolicy}
    (hci : CbInv W cb) (hcb : CbNoPend cb)
    (rows cols sb : Nat) (hr : 1 ≤ rows) (hc : 1 ≤ cols) (hr' : rows ≤ 65535) (hc' : cols ≤ 65535)
    (ops : List Op) (hv : ∀ op ∈ ops, op.Valid) (p : Parser) (h : run W cb rows cols sb ops = .ok p)
    (hno : ∀ pre bytes post, ops = pre ++ Op.process bytes :: post → ∃ op ∈ post, isSetSize op = true) :
    ¬ p.ws.screen.pend := by
  intro hpend
  obtain ⟨pre, bytes, post, p1, e, hpost, _, _⟩ :=
    reachable_pend_has_print hW32 hci hcb rows cols sb hr hc hr' hc' ops hv p h hpend
  obtain ⟨op, ho, hs⟩ := hno pre bytes post e
  rw [hpost op ho] at hs
  exact Bool.noConfusion hs

section tests
open Vt.C13 Vt.MiscC05

def okSat {α} (m : M α) (P : α → Bool) : Bool :=
  match m with
  | .ok a => P a
  | .error _ => false

def hist (cb : CbPolicy) (rows cols sb : Nat) (ops : List Op) : Option Parser :=
  (run W0 cb rows cols sb ops).toOption

/-- 2x3 screen, "abc": the live cursor of the primary grid is in column 3 = `cols` — `pend` -/
example : ∃ p, MiscC05.run 2 3 0 [97, 98, 99] = some p ∧
    (p.ws.screen.pend ∧ p.ws.screen.grid.pos = ⟨0, 3⟩ ∧ ¬ p.ws.screen.altGrid.pend) :=
  exists_of_run (by decide +kernel)

/-- the same through `hist`; with `ESC 7` the SAVED cursor is in column 3 too, and stays there when the
live cursor leaves (CR) -/
example : ∃ p, hist cbNone 2 3 0 [.process [97, 98, 99, 0x1B, 55, 13]] = some p ∧
    (p.ws.screen.pend ∧ p.ws.screen.grid.pos = ⟨0, 0⟩ ∧ p.ws.screen.grid.savedPos = ⟨0, 3⟩) :=
  exists_of_run (by decide +kernel)

/-- … and `set_size` (here to the same size) removes it: both cursors are clamped to column 2
(`setSize_not_pend`) -/
example : ∃ p, hist cbNone 2 3 0 [.process [97, 98, 99, 0x1B, 55], .setSize 2 3] = some p ∧
    (¬ p.ws.screen.pend ∧ p.ws.screen.grid.pos = ⟨0, 2⟩ ∧ p.ws.screen.grid.savedPos = ⟨0, 2⟩) :=
  exists_of_run (by decide +kernel)

/-- … also when it is the resize callback that calls `set_size` (`CSI 8 ; 2 ; 3 t`, `cbResize_noPend`) -/
example : ∃ p, hist cbResize 2 3 0 [.process [97, 98, 99, 0x1B, 55, 0x1B, 0x5B, 56, 0x3B, 50, 0x3B, 51, 116]]
    = some p ∧ ¬ p.ws.screen.pend :=
  exists_of_run (by decide +kernel)

example : ∃ p, hist cbNone 2 3 0 [] = some p ∧ ¬ p.ws.screen.pend :=
  exists_of_run (by decide +kernel)

/-- hypotheses of `perform_no_new_pend` on a non-trivial state: 2x3 screen after "ab" (cursor in
column 2, not pending, `Inv`), action CUF 5 (`CSI 5 C`): not an effective print, runs, and the cursor is
clamped to column 2 — no pending cursor -/
example : ∃ p, MiscC05.run 2 3 0 [97, 98] = some p ∧
    (Inv W0 p.ws.screen ∧ ¬ p.ws.screen.pend ∧
     ¬ EffAction W0 p.ws.screen (.csiDispatch [[5]] [] false 67) ∧
     okSat (perform W0 cbNone p.ws (.csiDispatch [[5]] [] false 67)) (fun ws' => decide (ws'.screen.grid.pos = ⟨0, 2⟩ ∧ ¬ ws'.screen.pend)) = true) :=
  exists_of_run (by decide +kernel)

/-- a print that is NOT effective, on the same state: a zero-width character (U+0301), a control
character below U+0100 (U+0085 is routed to `execute`; U+00AD has width 1 in `W0`, so U+007F is used),
U+FFFD; and a wide character on a 1-column screen (dropped by `text`) -/
example : ∃ p, MiscC05.run 2 3 0 [97, 98] = some p ∧
    (¬ EffAction W0 p.ws.screen (.print 0x301) ∧ ¬ EffAction W0 p.ws.screen (.print 0x85) ∧
     ¬ EffAction W0 p.ws.screen (.print 0x7F) ∧ ¬ EffAction W0 p.ws.screen (.print 0xFFFD) ∧
     EffAction W0 p.ws.screen (.print 99) ∧ EffAction W0 p.ws.screen (.print 0x4E00)) :=
  exists_of_run (by decide +kernel)

example : ∃ p, MiscC05.run 2 1 0 [] = some p ∧
    (¬ EffAction W0 p.ws.screen (.print 0x4E00) ∧ EffAction W0 p.ws.screen (.print 99)) :=
  exists_of_run (by decide +kernel)

/-- hypotheses and conclusion of `print_pend_origin`, width 1: 2x3 after "ab", print "c" -/
example : ∃ p, MiscC05.run 2 3 0 [97, 98] = some p ∧
    (Inv W0 p.ws.screen ∧ EffPrint W0 p.ws.screen 99 ∧ ¬ p.ws.screen.pend ∧
     okSat (perform W0 cbNone p.ws (.print 99)) (fun ws' => decide (ws'.screen.pend ∧ ws'.screen.cur.pos = ⟨0, 3⟩ ∧
          ((ws'.screen.cur.rows[0]?.bind (fun r => r.cells[2]?)).map (·.hasContents)) = some true)) = true) :=
  exists_of_run (by decide +kernel)

/-- … width 2: 2x4 after "ab", print U+4E00: cursor in column 4, column 3 is the continuation half -/
example : ∃ p, MiscC05.run 2 4 0 [97, 98] = some p ∧
    (Inv W0 p.ws.screen ∧ EffPrint W0 p.ws.screen 0x4E00 ∧ ¬ p.ws.screen.pend ∧
     okSat (perform W0 cbNone p.ws (.print 0x4E00)) (fun ws' => decide (ws'.screen.pend ∧ ws'.screen.cur.pos = ⟨0, 4⟩ ∧
          ((ws'.screen.cur.rows[0]?.bind (fun r => r.cells[3]?)).map (·.isWideContinuation)) = some true)) = true) :=
  exists_of_run (by decide +kernel)

/-- an effective print need not create a pending cursor (the converse of theorem 4 is not claimed) -/
example : ∃ p, MiscC05.run 2 3 0 [97] = some p ∧
    (EffPrint W0 p.ws.screen 98 ∧
     okSat (perform W0 cbNone p.ws (.print 98)) (fun ws' => decide (¬ ws'.screen.pend)) = true) :=
  exists_of_run (by decide +kernel)

/-- the pending column is carried to the alternate grid's cursors only by printing there: `?1049h`
after "abc" saves column 3 on the PRIMARY grid (DECSC) and homes the alternate grid's cursors -/
example : ∃ p, hist cbNone 2 3 0 [.process [97, 98, 99, 0x1B, 0x5B, 0x3F, 49, 48, 52, 57, 104]] = some p ∧
    (p.ws.screen.altScreen = true ∧ p.ws.screen.grid.savedPos = ⟨0, 3⟩ ∧ ¬ p.ws.screen.altGrid.pend) :=
  exists_of_run (by decide +kernel)

/-- `reachable_pend_has_print`: hypotheses hold for a concrete history whose final state is pending
(the `process` call after the `set_size` is the one that printed) -/
example : (∀ op ∈ [Op.process [97, 98, 99], .setSize 2 2, .setScrollback 0, .process [120]], op.Valid) ∧
    ∃ p, hist cbNone 2 3 0 [.process [97, 98, 99], .setSize 2 2, .setScrollback 0, .process [120]] = some p ∧
      p.ws.screen.pend :=
  ⟨by intro op h; simp only [List.mem_cons, List.mem_nil_iff, or_false] at h
      rcases h with rfl | rfl | rfl | rfl <;> simp [Op.Valid],
   exists_of_run (by decide +kernel)⟩

end tests

/-! `cbNone` and `cbResize` satisfy both callback hypotheses of `actions_pend_origin` … `reachable_pend_has_print`
(the third policy of the model, `cbProbe`: Props/CbProbe.lean) -/
theorem cbNone_ok (W : Nat → Option Nat) : C13.CbInv W cbNone ∧ CbNoPend cbNone := ⟨C13.cbNone_inv, cbNone_noPend⟩
theorem cbResize_ok (W : Nat → Option Nat) : C13.CbInv W cbResize ∧ CbNoPend cbResize :=
  ⟨C13.cbResize_inv, cbResize_noPend⟩

end Vt.C13pend

