/-
  C15, the `rows_diff` clause for full-width windows: for two screens of the same size, not scrolled back, and a line
  `i` that is soft-wrapped in neither, the `i`-th element of `S.rows_diff(P, 0, cols)` processed by a receiver whose
  line `i` shows `P`'s line `i` (cursor at `(i, 0)`, default pen — what the drawing protocol sets up) makes line `i`
  show `S`'s line `i`, cell for cell, and leaves everything else as it was.
-/
import Vt.Props.DiffLine
import Vt.Props.C01full
namespace Vt.C15
open Vt Vt.Recv Vt.C19 Vt.C09 Vt.RowDraw Vt.GridDraw Vt.C03 Vt.C01 Vt.Bytes Vt.DiffRow

variable {W : Nat → Option Nat} {cb : CbPolicy}

theorem rowsDiffLoop_get (start width : Nat) : ∀ (l : List (Row × Row)) (i0 : Nat) (res : List (List Nat)),
    Screen.rowsDiffLoop start width l i0 = .ok res →
    ∀ k (hk : k < l.length), ∃ bs np na,
      (l[k].1).writeContentsDiff l[k].2 start width (i0 + k) false false ⟨i0 + k, start⟩ Attrs.default = .ok (bs, np, na) ∧
      res[k]? = some bs
  | [], _, _, _, k, hk => absurd hk (Nat.not_lt_zero _)
  | (r, pr) :: rest, i0, res, e, k, hk => by
    rw [Screen.rowsDiffLoop] at e
    obtain ⟨⟨bs, np, na⟩, e1, e⟩ := bind_eq_ok.mp e
    obtain ⟨tl, e2, e⟩ := bind_eq_ok.mp e
    simp only [pure_eq_ok, Except.ok.injEq] at e
    subst e
    cases k with
    | zero => exact ⟨bs, np, na, by simpa using e1, rfl⟩
    | succ k =>
      obtain ⟨bs', np', na', e', hr⟩ := rowsDiffLoop_get start width rest (i0 + 1) tl e2 k (by simpa using hk)
      refine ⟨bs', np', na', ?_, by simpa using hr⟩
      have : i0 + (k + 1) = i0 + 1 + k := by omega
      rw [this]
      simpa using e'

theorem rows_diff_get {S P : Screen} (hS : SrcScreen W S) (hP : SrcScreen W P) (hIS : Inv W S) (hIP : Inv W P)
    (hsz : S.cur.size = P.cur.size) (i : Nat) (hi : i < S.cur.size.rows) (start width : Nat) :
    ∃ res bs np na, S.rowsDiff P start width = .ok res ∧ res[i]? = some bs ∧
      (S.cur.rows[i]'(by rw [hS.alloc]; exact hi)).writeContentsDiff (P.cur.rows[i]'(by rw [hP.alloc, ← hsz]; exact hi))
        start width i false false ⟨i, start⟩ Attrs.default = .ok (bs, np, na) := by
  have hiS : i < S.cur.rows.length := by rw [hS.alloc]; exact hi
  have hiP : i < P.cur.rows.length := by rw [hP.alloc, ← hsz]; exact hi
  obtain ⟨res, eres⟩ := C03.rows_diff_total hIS hIP start width
  have eloop : Screen.rowsDiffLoop start width (S.cur.rows.zip P.cur.rows) 0 = .ok res := by
    have := eres
    simp only [Screen.rowsDiff, C19.visibleRows_offset0 S.cur hS.off, C19.visibleRows_offset0 P.cur hP.off, ok_bind] at this
    exact this
  have hiz : i < (S.cur.rows.zip P.cur.rows).length := by
    simp only [List.length_zip]; omega
  obtain ⟨bs, np, na, ebs, hget⟩ := rowsDiffLoop_get start width _ 0 res eloop i hiz
  simp only [List.getElem_zip, Nat.zero_add] at ebs
  exact ⟨res, bs, np, na, eres, hget, ebs⟩

/-- **C15, `rows_diff`, one line, full width** -/
theorem rows_diff_line_draws (hW : WOk W) (hcb : C13.CbInv W cb) (S P : Screen) (hS : SrcScreen W S) (hP : SrcScreen W P)
    (hIS : Inv W S) (hIP : Inv W P) (hsz : S.cur.size = P.cur.size) (i : Nat) (hi : i < S.cur.size.rows)
    (hsu : (S.cur.rows[i]'(by rw [hS.alloc]; exact hi)).wrapped = false)
    (hpu : (P.cur.rows[i]'(by rw [hP.alloc, ← hsz]; exact hi)).wrapped = false)
    (p0 : Parser) (hr : Ready p0) (hpi : C13.ParserInv W p0) (hcv : Canvas (rsOf p0.ws).g)
    (hqsz : (rsOf p0.ws).g.size = S.cur.size) (hpos : (rsOf p0.ws).g.pos = ⟨i, 0⟩) (hpen : (rsOf p0.ws).pen = Attrs.default)
    (Ri0 : Row) (hrow : (rsOf p0.ws).g.rows[i]? = some Ri0)
    (hshow : Ri0.cells.map view = (P.cur.rows[i]'(by rw [hP.alloc, ← hsz]; exact hi)).cells.map view) (hRu : Ri0.wrapped = false) :
    ∃ res bs, S.rowsDiff P 0 S.cur.size.cols = .ok res ∧ res[i]? = some bs ∧
      ∃ Ri np na, Emitted W cb p0 bs (shape (rsOf p0.ws) i Ri np na) ∧
        Ri.cells.map view = (S.cur.rows[i]'(by rw [hS.alloc]; exact hi)).cells.map view ∧ Ri.wrapped = false := by
  have hiS : i < S.cur.rows.length := by rw [hS.alloc]; exact hi
  have hiP : i < P.cur.rows.length := by rw [hP.alloc, ← hsz]; exact hi
  obtain ⟨res, bs, np, na, eres, hget, ebs⟩ := rows_diff_get hS hP hIS hIP hsz i hi 0 S.cur.size.cols
  have hwS := hS.rows.width _ (List.getElem_mem hiS)
  have hwP := hP.rows.width _ (List.getElem_mem hiP)
  have hrd := row_diff_draws (cb := cb) hW hcb p0 hr hpi hcv i (by rw [hqsz]; exact hi) S.cur.rows[i] P.cur.rows[i]
    (by rw [hqsz]; exact hwS) (by rw [hqsz, hsz]; exact hwP) (hS.rows.ok _ (List.getElem_mem hiS))
    (hP.rows.ok _ (List.getElem_mem hiP)) hsu hpu Ri0 hrow hshow hRu (by rw [hpos]; exact Nat.zero_le _) false
  rw [hpos, hpen, hwS] at hrd
  obtain ⟨out, np', na', e', ⟨Ri, hem, hv, hu⟩, _, _, _⟩ := hrd
  cases ebs.symm.trans e'
  exact ⟨res, bs, eres, hget, Ri, np, na, hem, hv, hu⟩

end Vt.C15
