/-
  C14 (continued) — `Row::write_contents` *is* the row projection `rowText` (`row_writeContents_eq`), and `rows`,
  `contents`, `contents_between` are assembled from it (`rows_eq`, `contents_eq`, `contents_between_eq`).
-/
import Vt.Props.C14
import Vt.Lemmas.Window
namespace Vt.C14
open Vt Vt.C03

theorem writeContentsStep_skip (st : Row.WcSt) (k : Nat) (c : Cell) (hw : st.prevWasWide = true) :
    Row.writeContentsStep st (k, c) = .ok { st with prevWasWide := false } := by
  simp [Row.writeContentsStep, hw]

theorem writeContentsStep_emit (st : Row.WcSt) (k : Nat) (c : Cell) (hw : st.prevWasWide = false) (hh : c.hasContents = true)
    (hc : CellFine c) (hp : st.prevCol ≤ k) :
    Row.writeContentsStep st (k, c) = .ok
      { prevWasWide := c.isWide, prevCol := st.prevCol + (k - st.prevCol) + (if c.isWide then 2 else 1),
        out := st.out ++ List.replicate (k - st.prevCol) 32 ++ c.contents.take c.len } := by
  simp [Row.writeContentsStep, hw, hh, subM_ok hp, contentsBytes_ok hc]

theorem writeContentsStep_blank (st : Row.WcSt) (k : Nat) (c : Cell) (hw : st.prevWasWide = false) (hh : c.hasContents = false) :
    Row.writeContentsStep st (k, c) = .ok { st with prevWasWide := c.isWide } := by
  simp [Row.writeContentsStep, hw, hh]

/-- the cell loop of `write_contents` computes `rowTextAux` -/
theorem writeContentsStep_fold : ∀ (cs : List Cell) (k : Nat) (st : Row.WcSt),
    (∀ c ∈ cs, CellFine c ∧ (c.hasContents = false → c.isWide = false)) →
    st.prevCol ≤ k + (if st.prevWasWide then 1 else 0) →
    ∃ st', (enumFrom k cs).foldlM Row.writeContentsStep st = .ok st' ∧
      st'.out = st.out ++ rowTextAux cs st.prevWasWide (k + (if st.prevWasWide then 1 else 0) - st.prevCol) ∧
      st.prevCol ≤ st'.prevCol ∧
      (st'.prevCol = st.prevCol ↔ (cs.drop (if st.prevWasWide then 1 else 0)).any (·.hasContents) = false)
  | [], k, st, _, _ => ⟨st, rfl, by simp [rowTextAux], Nat.le_refl _, by simp only [List.drop_nil, List.any_nil]⟩
  | c :: cs, k, st, hf, hp => by
    have hc := (hf c (List.mem_cons_self ..)).1
    have hcs := fun c' hc' => hf c' (List.mem_cons_of_mem _ hc')
    have e : enumFrom k (c :: cs) = (k, c) :: enumFrom (k + 1) cs := by simp [enumFrom, List.zipIdx_cons]
    rw [e, List.foldlM_cons]
    by_cases hw : st.prevWasWide = true
    · rw [writeContentsStep_skip st k c hw]
      simp only [hw, ↓reduceIte, ok_bind] at hp ⊢
      obtain ⟨st', e', o', l', q'⟩ := writeContentsStep_fold cs (k + 1) { st with prevWasWide := false } hcs (by simp; omega)
      refine ⟨st', e', ?_, l', ?_⟩
      · rw [o']; simp [rowTextAux]
      · simpa only [Bool.false_eq_true, ↓reduceIte, List.drop_zero, List.drop_succ_cons] using q'
    · have hw' : st.prevWasWide = false := Bool.not_eq_true _ ▸ hw
      simp only [hw', Bool.false_eq_true, ↓reduceIte, Nat.add_zero] at hp ⊢
      by_cases hh : c.hasContents = true
      · rw [writeContentsStep_emit st k c hw' hh hc hp, Nat.add_sub_cancel' hp, ok_bind]
        -- the column after the cell is exactly the next index (one further for a wide cell): no gap to fill
        have hnext : k + 1 + (if c.isWide = true then 1 else 0) = k + if c.isWide = true then 2 else 1 := by
          cases c.isWide <;> rfl
        obtain ⟨st', e', o', l', _⟩ := writeContentsStep_fold cs (k + 1)
          { prevWasWide := c.isWide, prevCol := k + (if c.isWide then 2 else 1),
            out := st.out ++ List.replicate (k - st.prevCol) 32 ++ c.contents.take c.len } hcs (Nat.le_of_eq hnext.symm)
        have hlt : st.prevCol < st'.prevCol :=
          Nat.lt_of_lt_of_le (Nat.lt_of_le_of_lt hp (by cases c.isWide <;> exact Nat.lt_add_of_pos_right (by decide))) l'
        refine ⟨st', e', ?_, Nat.le_of_lt hlt, ?_⟩
        · rw [o']
          simp only [rowTextAux, Bool.false_eq_true, ↓reduceIte, hh, List.append_assoc, hnext, Nat.sub_self]
        · simp only [List.drop_zero, List.any_cons, hh, Bool.true_or]
          exact ⟨fun h => absurd h (Nat.ne_of_gt hlt), fun h => Bool.noConfusion h⟩
      · have hh' : c.hasContents = false := Bool.not_eq_true _ ▸ hh
        have hwd' : c.isWide = false := (hf c (List.mem_cons_self ..)).2 hh'
        rw [writeContentsStep_blank st k c hw' hh']
        simp only [ok_bind]
        obtain ⟨st', e', o', l', q'⟩ := writeContentsStep_fold cs (k + 1) { st with prevWasWide := c.isWide } hcs
          (by dsimp only; split <;> omega)
        refine ⟨st', e', ?_, l', ?_⟩
        · rw [o']
          simp only [rowTextAux, Bool.false_eq_true, ↓reduceIte, hh', hwd']
          congr 2
          omega
        · simpa only [hwd', Bool.false_eq_true, ↓reduceIte, List.drop_zero, List.any_cons, hh', Bool.false_or] using q'

/-- what the plain-text emitters need of a row's cells (both follow from `cellOk`) -/
def RowTidy (r : Row) : Prop := ∀ c ∈ r.cells, CellFine c ∧ (c.hasContents = false → c.isWide = false)

theorem rowTidy_of_ok {W : Nat → Option Nat} {r : Row} (h : rowOk W r = true) : RowTidy r := by
  intro c hc
  have hok := ((rowOk_iff W r).mp h).2.cells_ok c hc
  exact ⟨cellFine_of_ok hok, blank_narrow_of_ok hok⟩

def blankWindow (r : Row) (start width : Nat) : Bool := !((r.cells.drop start).take width).any (·.hasContents)

/-- **C14** `Row::write_contents(start, width, wrapping)` is the row projection, plus the newline a wrap
onto an empty row swallowed -/
theorem row_writeContents_eq (r : Row) (hr : RowTidy r) (start width : Nat) (w : Bool) :
    r.writeContents start width w =
      .ok (rowText r start width ++ if w && blankWindow r start width then [10] else []) := by
  unfold Row.writeContents
  rw [window_enum]
  obtain ⟨st', e, o, _, q⟩ := writeContentsStep_fold ((r.cells.drop start).take width) start
    { prevWasWide := false, prevCol := start, out := [] }
    (fun c hc => hr c (List.mem_of_mem_drop (List.mem_of_mem_take hc))) (by simp)
  rw [e]
  simp only [ok_bind, pure_eq_ok, Except.ok.injEq]
  simp only [Bool.false_eq_true, ↓reduceIte, Nat.add_zero, Nat.sub_self, List.nil_append, List.drop_zero] at o q
  rw [o]
  unfold rowText blankWindow
  by_cases hb : ((r.cells.drop start).take width).any (·.hasContents) = true
  · have : ¬ st'.prevCol = start := fun h => by rw [q.mp h] at hb; exact absurd hb (by simp)
    simp [hb, this]
  · have hb' : ((r.cells.drop start).take width).any (·.hasContents) = false := by simpa using hb
    have : st'.prevCol = start := q.mpr hb'
    simp only [this, beq_self_eq_true, Bool.true_and, hb', Bool.not_false, Bool.and_true]
    cases w <;> simp

theorem mapM_eq_map {α β} (f : α → M β) (g : α → β) : ∀ (l : List α), (∀ x ∈ l, f x = .ok (g x)) →
    l.mapM f = .ok (l.map g)
  | [], _ => rfl
  | x :: xs, h => by
    simp [List.mapM_cons, h x (List.mem_cons_self ..),
      mapM_eq_map f g xs (fun z hz => h z (List.mem_cons_of_mem _ hz)), pure, Except.pure, bind, Except.bind]

/-- **C14** `rows(start, width)` is the projection of every visible row onto `[start, start+width)` -/
theorem rows_eq {W : Nat → Option Nat} {s : Screen} (h : Inv W s) (start width : Nat) :
    ∃ v, s.cur.visibleRows = .ok v ∧ s.rows start width = .ok (v.map (fun r => rowText r start width)) := by
  obtain ⟨v, e, hv⟩ := visibleRows_good (live_cur h).inv
  refine ⟨v, e, ?_⟩
  simp only [Screen.rows, e, ok_bind]
  apply mapM_eq_map
  intro r hr
  rw [row_writeContents_eq r (rowTidy_of_ok (hv r hr)) start width false]
  simp

/-- the text `contents()` assembles before stripping: each row's projection, a newline after every
row that is not wrapped, and, for an empty row that the previous row wrapped onto, the newline that the
wrap swallowed -/
def contentsSpec (cols : Nat) : List Row → Bool → List Nat
  | [], _ => []
  | r :: rs, w =>
    rowText r 0 cols ++ (if w && blankWindow r 0 cols then [10] else []) ++ (if !r.wrapped then [10] else [])
      ++ contentsSpec cols rs r.wrapped

theorem writeContentsLoop_eq (cols : Nat) : ∀ (rs : List Row) (w : Bool) (out : List Nat),
    (∀ r ∈ rs, RowTidy r) → Grid.writeContentsLoop cols rs w out = .ok (out ++ contentsSpec cols rs w)
  | [], _, out, _ => by simp [Grid.writeContentsLoop, contentsSpec]
  | r :: rs, w, out, h => by
    simp only [Grid.writeContentsLoop, row_writeContents_eq r (h r (List.mem_cons_self ..)) 0 cols w, ok_bind]
    rw [writeContentsLoop_eq cols rs r.wrapped _ (fun r' hr' => h r' (List.mem_cons_of_mem _ hr'))]
    simp [contentsSpec, List.append_assoc]

/-- **C14** `contents()` is `contentsSpec` of the visible rows with the trailing newlines stripped -/
theorem contents_eq {W : Nat → Option Nat} {s : Screen} (h : Inv W s) :
    ∃ v, s.cur.visibleRows = .ok v ∧
      s.contents = .ok (Grid.stripTrailingNewlines (contentsSpec s.cur.size.cols v false)) := by
  obtain ⟨v, e, hv⟩ := visibleRows_good (live_cur h).inv
  refine ⟨v, e, ?_⟩
  simp only [Screen.contents, Grid.writeContents, e, ok_bind,
    writeContentsLoop_eq s.cur.size.cols v false [] (fun r hr => rowTidy_of_ok (hv r hr)), List.nil_append]
  rfl

/-- multi-row `contents_between`: the first row from `c1`, whole rows in between, the last row up to
`c2`; a newline after every row but the last unless it is wrapped -/
def betweenSpec (cols sr sc er ec : Nat) : List (Nat × Row) → List Nat
  | [] => []
  | (i, row) :: rest =>
    (if i == sr then rowText row sc (cols - sc) ++ (if !row.wrapped then [10] else [])
     else if i == er then rowText row 0 ec
     else rowText row 0 cols ++ (if !row.wrapped then [10] else []))
    ++ betweenSpec cols sr sc er ec rest

theorem contentsBetweenLoop_eq (cols sr sc er ec : Nat) : ∀ (l : List (Nat × Row)) (out : List Nat),
    (∀ p ∈ l, RowTidy p.2) →
    Screen.contentsBetweenLoop cols sr sc er ec l out = .ok (out ++ betweenSpec cols sr sc er ec l)
  | [], out, _ => by simp [Screen.contentsBetweenLoop, betweenSpec]
  | (i, row) :: rest, out, h => by
    have ht := h (i, row) (List.mem_cons_self ..)
    have hrest := fun p hp => h p (List.mem_cons_of_mem _ hp)
    unfold Screen.contentsBetweenLoop
    simp only [row_writeContents_eq row ht, Bool.false_and, Bool.false_eq_true, ↓reduceIte, List.append_nil]
    by_cases h1 : (i == sr) = true
    · simp only [h1, ↓reduceIte, ok_bind, pure_bind']
      rw [contentsBetweenLoop_eq cols sr sc er ec rest _ hrest]
      simp [betweenSpec, h1, List.append_assoc]
    · by_cases h2 : (i == er) = true
      · simp only [h1, h2, Bool.false_eq_true, ↓reduceIte, ok_bind, pure_bind']
        rw [contentsBetweenLoop_eq cols sr sc er ec rest _ hrest]
        simp [betweenSpec, h1, h2, List.append_assoc]
      · simp only [h1, h2, Bool.false_eq_true, ↓reduceIte, ok_bind, pure_bind']
        rw [contentsBetweenLoop_eq cols sr sc er ec rest _ hrest]
        simp [betweenSpec, h1, h2, List.append_assoc]

/-- **C14** `contents_between(r1, c1, r2, c2)` with `r1 < r2` is `betweenSpec` of the visible rows
`r1 ..= r2` -/
theorem contents_between_eq {W : Nat → Option Nat} {s : Screen} (h : Inv W s) (sr sc er ec : Nat) (hlt : sr < er) :
    ∃ v, s.cur.visibleRows = .ok v ∧
      s.contentsBetween sr sc er ec =
        .ok (betweenSpec s.size.cols sr sc er ec (Row.window v sr (er - sr + 1))) := by
  obtain ⟨v, e, hv⟩ := visibleRows_good (live_cur h).inv
  refine ⟨v, e, ?_⟩
  simp only [Screen.contentsBetween, hlt, ↓reduceIte, e, ok_bind]
  rw [contentsBetweenLoop_eq]
  · simp
  · intro p hp
    exact rowTidy_of_ok (hv _ (List.mem_of_getElem? (mem_window hp)))

end Vt.C14
