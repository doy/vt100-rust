/-
  C01 — a full redraw reproduces the screen: the assembled theorem.

  `contents_formatted_reproduces` / `state_formatted_reproduces`: the source screen `S` satisfies `Inv`, `Inv⁺` and
  `emitInvB` (every reachable screen; evaluated on every visited state by the checks) and is not scrolled back; its
  cursor is anywhere, all four branches of `write_cursor_position_formatted` included.  The receiving parser is ready,
  not scrolled back, and its active grid is a canvas (the full screen as scroll region, origin mode off) of the same
  size with well-formed rows (`RecvOk`: a new parser, or one that has been fed other full redraws).  Processing the
  BYTES of `S.contents_formatted()` (resp. `S.state_formatted()`) through the vte and perform models leaves the
  receiver with the observable state of `S`: same cells, wrap flags, cursor, cursor visibility, pen (and input modes).

  `srcScreen_of_inv` derives what is asked of the source (`SrcScreen`) from the Boolean invariants.  `C02.Reproduces q S`
  is the state a reproduction of `S` leaves the receiver `q` in (the relation C02's diffs chain on); `fresh_redraw`
  establishes it on a new parser, `full_redraw_fresh_reemit` is that statement in terms of `obs`, with byte-identical
  re-emission; the two `_nonvacuous` theorems are kernel-evaluated tests that the hypotheses can be met.
-/
import Vt.Props.C01cursor
import Vt.Props.C10b
namespace Vt.C01
open Vt Vt.Recv Vt.C19 Vt.C09 Vt.RowDraw Vt.GridDraw Vt.Tok Vt.C03

variable {W : Nat → Option Nat} {cb : CbPolicy}

/-- the receiver shows the source: what `obs` compares, component by component (input modes apart); `views` is what the
emitters read (`screenSame_of_shows`), `off` makes the live rows the visible ones -/
structure Shows (q : Screen) (S : Screen) : Prop where
  size : q.cur.size = S.cur.size
  cells : q.cur.rows.map (fun r => r.cells.map cellObs) = S.cur.rows.map (fun r => r.cells.map cellObs)
  views : q.cur.rows.map (fun r => r.cells.map view) = S.cur.rows.map (fun r => r.cells.map view)
  wrapped : q.cur.rows.map (fun r => r.wrapped) = S.cur.rows.map (fun r => r.wrapped)
  cursor : q.cur.pos = S.cur.pos
  hide : q.hideCursor = S.hideCursor
  pen : q.attrs = S.attrs
  off : q.cur.scrollbackOffset = 0

theorem cellObs_of_view {a b : Cell} (h : view a = view b) : cellObs a = cellObs b := by
  simp only [view, View.mk.injEq] at h
  simp only [cellObs, CellObs.mk.injEq]
  exact ⟨h.2.2.2.2, h.2.1, h.2.2.1, h.2.2.2.1⟩

theorem cells_of_views {l1 l2 : List Cell} (h : l1.map view = l2.map view) : l1.map cellObs = l2.map cellObs :=
  listRel_ind (P := fun l1 l2 => l1.map cellObs = l2.map cellObs) rfl
    (fun hxy _ ih => by rw [List.map_cons, List.map_cons, cellObs_of_view hxy, ih]) (listRel_of_map_eq view h)

theorem shows_of_drawn {q S : Screen} {R : RS} (hcur : q.cur = R.g)
    (h : RowsInv S.cur.rows S.cur.size.cols S.cur.rows.length false S.cur.pos R)
    (hal : S.cur.rows.length = S.cur.size.rows) (hh : q.hideCursor = S.hideCursor) (hp : q.attrs = S.attrs)
    (hoff : R.g.scrollbackOffset = 0) : Shows q S := by
  have hl : R.g.rows.length = S.cur.rows.length := by rw [h.canvas.alloc, h.nrows]
  have key : ∀ {α : Type} (f : Row → α),
      (∀ a b : Row, a.cells.map view = b.cells.map view → a.wrapped = b.wrapped → f a = f b) →
      R.g.rows.map f = S.cur.rows.map f := by
    intro α f hf
    apply List.ext_getElem?
    intro k
    simp only [List.getElem?_map]
    by_cases hk : k < S.cur.rows.length
    · obtain ⟨Rk, hRk, hd, _⟩ := h.row k hk
      obtain ⟨hv, _, hw⟩ := hd hk
      rw [hRk, List.getElem?_eq_getElem hk]
      simp only [Option.map_some, Option.some.injEq]
      exact hf _ _ hv (by rw [hw]; simp)
    · rw [List.getElem?_eq_none (by omega), List.getElem?_eq_none (by omega)]
  rw [← hcur] at key hoff
  refine ⟨?_, key _ fun _ _ hv _ => cells_of_views hv, key _ fun _ _ hv _ => hv, key _ fun _ _ _ hw => hw,
    by rw [hcur]; exact h.pos, hh, hp, hoff⟩
  rw [hcur]
  have h1 := h.hcols
  have h2 := h.nrows.trans hal
  cases hsg : R.g.size; cases hss : S.cur.size
  simp only [hsg, hss] at h1 h2 ⊢
  rw [h1, h2]

/-- what is assumed of the source screen (all of it follows from `Inv`, `Inv⁺`, `emitInvB`, scrollback offset 0:
`srcScreen_of_inv`); `cur_col` admits the pending-wrap column -/
structure SrcScreen (W : Nat → Option Nat) (S : Screen) : Prop where
  off : S.cur.scrollbackOffset = 0
  rows : SrcRows W S.cur.size.cols S.cur.rows
  alloc : S.cur.rows.length = S.cur.size.rows
  cur_row : S.cur.pos.row < S.cur.size.rows
  cur_col : S.cur.pos.col ≤ S.cur.size.cols
  pen_wf : Attrs.wf S.attrs

theorem rsOf_hide (ws : WS) (b : Bool) :
    rsOf ({ ws with screen := { ws.screen with hideCursor := b } } : WS) = rsOf ws := by
  simp only [rsOf, Screen.cur]

/-- the invariant a diff against `S` starts from (C02) -/
def DrawnAs (q : Parser) (S : Screen) : Prop :=
  RowsInv S.cur.rows S.cur.size.cols S.cur.rows.length false S.cur.pos (rsOf q.ws)

structure Untouched (p p' : Parser) : Prop where
  events : p'.ws.events = p.ws.events
  modes : C10.inputModes p'.ws.screen = C10.inputModes p.ws.screen
  hide : p'.ws.screen.hideCursor = p.ws.screen.hideCursor

theorem Untouched.of_withRS {p p' : Parser} {R : RS} (h : p'.ws = withRS p.ws R) : Untouched p p' := by
  refine ⟨by rw [h]; rfl, ?_, ?_⟩ <;>
  · rw [h]
    simp only [C10.inputModes, withRS, Screen.setCur]
    split <;> rfl

theorem Untouched.of_emitted {p : Parser} {out : List Nat} {R : RS} (h : Emitted W cb p out R) :
    ∃ p', p.process W cb out = .ok p' ∧ Ready p' ∧ rsOf p'.ws = R ∧ Untouched p p' :=
  have ⟨p', e, w, r⟩ := h
  ⟨p', e, r, by rw [w, rsOf_withRS], Untouched.of_withRS w⟩

/-- the pen change that ends `contents_formatted` and `contents_diff` -/
theorem pen_tail {q1 : Parser} (r1 : Ready q1) (S : Screen) (hpw : Attrs.wf S.attrs) {gb : List Nat} {pa : Attrs} {Rf : RS}
    (hem : Emitted W cb q1 gb Rf) (hpen : Rf.pen = pa)
    (hinv : RowsInv S.cur.rows S.cur.size.cols S.cur.rows.length false S.cur.pos Rf) :
    ∃ q2, q1.process W cb (gb ++ S.attrs.writeEscapeCodeDiff pa) = .ok q2 ∧ Ready q2 ∧ DrawnAs q2 S ∧
      rsOf q2.ws = { Rf with pen := S.attrs } ∧ Untouched q1 q2 := by
  obtain ⟨q2, e2, r2, hrs, k2⟩ := Untouched.of_emitted (emitted_step W cb r1 hem (step_pen W cb S.attrs pa hpw)
    (r' := { Rf with pen := S.attrs }) (by simp [hpen]))
  refine ⟨q2, e2, r2, ?_, hrs, k2⟩
  show RowsInv _ _ _ false _ (rsOf q2.ws)
  rw [hrs]
  exact rowsInv_pen hinv S.attrs

/-- **C01, `contents_formatted`**: processing the bytes of `S.contents_formatted()` on any receiver that is
ready, whose active grid is a canvas of the same size with well-formed rows (`RecvOk`) and is not scrolled back,
leaves the receiver showing `S` — cells, wrap flags, cursor, cursor visibility, pen — whatever it showed before -/
theorem contents_formatted_reproduces (hW : WOk W) {q : Parser} (hq : RecvOk W q)
    (hqoff : (rsOf q.ws).g.scrollbackOffset = 0) (S : Screen) (hS : SrcScreen W S)
    (hsz : S.cur.size = (rsOf q.ws).g.size) :
    ∃ bytes q', S.contentsFormatted = .ok bytes ∧ q.process W cb bytes = .ok q' ∧ Ready q' ∧
      Shows q'.screen S ∧ q'.ws.events = q.ws.events ∧
      C10.inputModes q'.screen = C10.inputModes q.screen ∧ DrawnAs q' S := by
  obtain ⟨q1, e1, w1, r1⟩ := C10.process_hideCursor W cb q S.hideCursor hq.ready
  have hrs1 : rsOf q1.ws = rsOf q.ws := by rw [w1]; exact rsOf_hide _ _
  obtain ⟨gb, pa, eg, Rf, hemf, hpenf, hinvf, hofff⟩ := grid_formatted_reproduces_any (cb := cb) hW
    (⟨r1, by rw [hrs1]; exact hq.canvas, by rw [hrs1]; exact hq.rows_ok⟩ : RecvOk W q1) S.cur hS.off (by rw [hrs1]; exact hsz)
    hS.rows hS.alloc hS.cur_row hS.cur_col
  obtain ⟨q2, e2, r2, hdr, hrs2, k2⟩ := pen_tail (cb := cb) r1 S hS.pen_wf hemf hpenf hinvf
  refine ⟨Term.hideCursor S.hideCursor ++ gb ++ S.attrs.writeEscapeCodeDiff pa, q2,
    by simp only [Screen.contentsFormatted, Screen.writeContentsFormatted, eg, ok_bind, pure_eq_ok],
    by rw [List.append_assoc]; exact process_then W cb hq.ready e1 r1 e2, r2, ?_, by rw [k2.events, w1],
    by show C10.inputModes q2.ws.screen = _; rw [k2.modes, w1]; rfl, hdr⟩
  exact shows_of_drawn rfl hdr hS.alloc (by show q2.ws.screen.hideCursor = _; rw [k2.hide, w1])
    (congrArg RS.pen hrs2) (by rw [hrs2]; show Rf.g.scrollbackOffset = 0; rw [hofff, hrs1]; exact hqoff)

/-- **C01, `state_formatted`**: the same, plus the five input modes, on a receiver whose mouse mode and
encoding are at their defaults (a new parser) -/
theorem state_formatted_reproduces (hW : WOk W) {q : Parser} (hq : RecvOk W q)
    (hqoff : (rsOf q.ws).g.scrollbackOffset = 0) (hm : q.screen.mouseMode = .none) (he : q.screen.mouseEnc = .default)
    (S : Screen) (hS : SrcScreen W S) (hsz : S.cur.size = (rsOf q.ws).g.size) :
    ∃ bytes q', S.stateFormatted = .ok bytes ∧ q.process W cb bytes = .ok q' ∧ Ready q' ∧
      Shows q'.screen S ∧ C10.inputModes q'.screen = C10.inputModes S ∧ q'.ws.events = q.ws.events ∧
      DrawnAs q' S := by
  obtain ⟨cbytes, q1, ec, e1, r1, hsh, hev, hmodes, hdr⟩ := contents_formatted_reproduces (cb := cb) hW hq hqoff S hS hsz
  obtain ⟨q2, e2, w2, r2⟩ := C10.process_input_mode_formatted W cb q1 S r1
    ((congrArg C10.InputModes.mouseMode hmodes).trans hm) ((congrArg C10.InputModes.mouseEnc hmodes).trans he)
  have ec' : S.writeContentsFormatted = .ok cbytes := ec
  refine ⟨cbytes ++ S.inputModeFormatted, q2, ?_, ?_, r2, ?_, ?_, ?_, ?_⟩
  rotate_right
  · show RowsInv _ _ _ false _ (rsOf q2.ws)
    have : rsOf q2.ws = rsOf q1.ws := by rw [w2]; rfl
    rw [this]; exact hdr
  · simp only [Screen.stateFormatted, ec', ok_bind, pure_eq_ok, Screen.inputModeFormatted]
  · exact process_then W cb hq.ready e1 r1 e2
  · have hs : q2.screen = C10.setInputModes q1.screen (C10.inputModes S) := by
      show q2.ws.screen = _; rw [w2]; rfl
    have hcur : q2.screen.cur = q1.screen.cur := by rw [hs]; rfl
    exact ⟨by rw [hcur]; exact hsh.size, by rw [hcur]; exact hsh.cells, by rw [hcur]; exact hsh.views,
      by rw [hcur]; exact hsh.wrapped,
      by rw [hcur]; exact hsh.cursor, by rw [hs]; exact hsh.hide, by rw [hs]; exact hsh.pen,
      by rw [hcur]; exact hsh.off⟩
  · show C10.inputModes q2.ws.screen = _
    rw [w2]; rfl
  · show q2.ws.events = _
    rw [w2]; exact hev

def obsOfVis (S : Screen) (vis : List Row) : Obs :=
  { size := S.cur.size
    cells := vis.map (fun r => r.cells.map cellObs)
    wrapped := vis.map (fun r => r.wrapped)
    cursor := S.cur.pos
    hide := S.hideCursor
    pen := S.attrs
    modes := (S.appKeypad, S.appCursor, S.bracketedPaste, S.mouseMode, S.mouseEnc) }

theorem obs_of_vis {S : Screen} {vis : List Row} (hvis : S.cur.visibleRows = .ok vis) : obs S = .ok (obsOfVis S vis) := by
  simp only [obs, hvis, ok_bind, pure_eq_ok, obsOfVis]

/-- **C01 in terms of `obs`**: a receiver that shows the source and has its input modes has its observable state -/
theorem shows_obs {q S : Screen} (h : Shows q S) (hm : C10.inputModes q = C10.inputModes S)
    (hoff : S.cur.scrollbackOffset = 0) : obs q = obs S := by
  rw [obs_of_vis (C19.visibleRows_offset0 _ h.off), obs_of_vis (C19.visibleRows_offset0 _ hoff)]
  simp only [obsOfVis]
  simp only [C10.inputModes, C10.InputModes.mk.injEq] at hm
  obtain ⟨m1, m2, m3, m4, m5⟩ := hm
  rw [h.size, h.cells, h.wrapped, h.cursor, h.hide, h.pen, m1, m2, m3, m4, m5]

structure NewRecv (W : Nat → Option Nat) (rows cols : Nat) (q : Parser) : Prop where
  ok : RecvOk W q
  off : (rsOf q.ws).g.scrollbackOffset = 0
  size : (rsOf q.ws).g.size = ⟨rows, cols⟩
  blank : ∀ r ∈ (rsOf q.ws).g.rows, BlankRow (rsOf q.ws).g.size.cols r
  mouseMode : q.screen.mouseMode = .none
  mouseEnc : q.screen.mouseEnc = .default
  events : q.ws.events = []

theorem new_recvOk (W : Nat → Option Nat) (rows cols sb : Nat) (hr : 1 ≤ rows) (hc : 1 ≤ cols) (hr' : rows ≤ 65535)
    (hc' : cols ≤ 65535) : ∃ q, Parser.new rows cols sb = .ok q ∧ NewRecv W rows cols q := by
  obtain ⟨hnew, hinv⟩ := C13.inv_new W rows cols sb hr hc hr' hc'
  have hrow : ∀ r ∈ (rsOf ({ screen := C13.newScreen rows cols sb, events := [] } : WS)).g.rows, r = Row.new cols := by
    intro r hr0
    simp only [rsOf, Screen.cur, C13.newScreen, C13.newGrid, Bool.false_eq_true, ↓reduceIte, List.mem_replicate] at hr0
    exact hr0.2
  refine ⟨{ vte := Vte.new, ws := { screen := C13.newScreen rows cols sb, events := [] } }, by simp [Parser.new, hnew],
    ⟨⟨rfl, rfl⟩, ?_, ?_⟩, rfl, rfl, ?_, rfl, rfl, rfl⟩
  · refine ⟨hr, hc, hr', hc', rfl, rfl, rfl, by simp [rsOf, Screen.cur, C13.newScreen, C13.newGrid], ?_⟩
    intro r hr0
    rw [hrow r hr0]; simp [Row.new, rsOf, Screen.cur, C13.newScreen, C13.newGrid]
  · intro r hr0
    have hg := ((inv_iff W _).mp hinv).grid
    exact (hg.row_ok r hr0).2
  · intro r hr0
    rw [hrow r hr0]
    refine ⟨rfl, by simp [Row.new, view_new, rsOf, Screen.cur, C13.newScreen, C13.newGrid], fun c hc0 => ?_⟩
    simp only [Row.new, List.mem_replicate] at hc0
    rw [hc0.2]; simp [Cell.new]

theorem srcOk_of {cols : Nat} {r : Row} (hok : rowOk W r = true) (hlen : r.cells.length = cols)
    (hem : rowEmitOk W cols r = true) (hpl : rowPlusOk r = true) : SrcOk W r.cells := by
  obtain ⟨_, hci⟩ := (rowOk_iff W r).mp hok
  refine ⟨hci.cells_ok, hci.paired, ?_, ?_⟩
  · intro j hj
    simp only [rowEmitOk, List.all_eq_true] at hem
    have := hem (r.cells[j], j) (by
      rw [List.mem_zipIdx_iff_getElem?]; simp [List.getElem?_eq_getElem hj])
    rw [hlen]; exact this
  · intro c hc hcont
    simp only [rowPlusOk, Bool.and_eq_true, List.all_eq_true, Bool.or_eq_true, Bool.not_eq_true', beq_iff_eq] at hpl
    rcases hpl.2 c hc with h | h
    · rw [hcont] at h; simp at h
    · exact h

theorem lastOcc_of {r : Row} (hpl : rowPlusOk r = true) (hw : r.wrapped = true) : lastOcc r.cells := by
  simp only [rowPlusOk, Bool.and_eq_true, Bool.or_eq_true, Bool.not_eq_true'] at hpl
  rcases hpl.1 with h | h
  · rw [hw] at h; simp at h
  · simp only [lastColOccupied] at h
    cases hl : r.cells.getLast? with
    | none => rw [hl] at h; simp at h
    | some c =>
      rw [hl] at h
      have hne : r.cells ≠ [] := by intro hn; simp [hn] at hl
      have hpos : 0 < r.cells.length := List.length_pos_iff.mpr hne
      refine ⟨hpos, ?_⟩
      have : r.cells[r.cells.length - 1] = c := by
        rw [List.getLast?_eq_getElem?, List.getElem?_eq_getElem (by omega)] at hl
        exact Option.some.inj hl
      rw [this]
      simpa using h

theorem srcRows_of {g : Grid} {un : Bool} (hg : GridInv W g un) (hpl : gridPlusOk g = true)
    (hem : gridEmitOk W g = true) : SrcRows W g.size.cols g.rows := by
  simp only [gridPlusOk, Bool.and_eq_true, List.all_eq_true] at hpl
  simp only [gridEmitOk, List.all_eq_true] at hem
  refine ⟨fun r hr => (hg.row_ok r hr).1, fun r hr => srcOk_of (hg.row_ok r hr).2 (hg.row_ok r hr).1 (hem r hr) (hpl.1.1 r hr),
    fun r hr hw => lastOcc_of (hpl.1.1 r hr) hw, ?_⟩
  intro r hr
  have := hpl.2
  rw [hr] at this
  simpa using this

theorem screenInv_of_emitInvB {S : Screen} (hinv : emitInvB W S = true) : ScreenInv W S := by
  simp only [emitInvB, invPlusB, Bool.and_eq_true] at hinv
  exact (inv_iff W S).mp hinv.1.1.1.1.1

/-- `rows_formatted` compares its window with the width of the PRIMARY grid; both grids have the same size -/
theorem grid_size_cur {S : Screen} (h : ScreenInv W S) : S.grid.size = S.cur.size := by
  unfold Screen.cur; split
  · exact h.same_size
  · rfl

theorem srcScreen_of_inv {S : Screen} (hinv : emitInvB W S = true) (hoff : S.cur.scrollbackOffset = 0) :
    SrcScreen W S := by
  have hsi := screenInv_of_emitInvB hinv
  simp only [emitInvB, invPlusB, Bool.and_eq_true] at hinv
  obtain ⟨⟨⟨⟨⟨_, hp1⟩, hp2⟩, he1⟩, he2⟩, ha⟩ := hinv
  obtain ⟨hcg, hal⟩ := hsi.cur
  have hrows : SrcRows W S.cur.size.cols S.cur.rows := by
    unfold Screen.cur
    cases hs : S.altScreen
    · simpa using srcRows_of hsi.grid hp1 he1
    · simpa using srcRows_of hsi.alt hp2 he2
  exact ⟨hoff, hrows, hal, hcg.pos_row, hcg.pos_col, attrs_wf_of_ok ha⟩

theorem wOk_W0 : WOk W0 := by
  refine ⟨by decide, ?_, ?_, by decide⟩
  · intro c hc
    simp only [W0]
    rw [if_pos (by simp; omega)]
  · intro c h1 h2
    simp only [W0]
    rw [if_pos (by simp; omega)]

/-- the hypotheses of `fresh_redraw` are satisfiable by a non-trivial screen: wide and combining
characters, colours, a wrapped line, an erase run with a background colour (kernel-evaluated; a test) -/
theorem full_redraw_fresh_nonvacuous :
    isOkTrue (do
      let p ← C02.run 3 4 0 [[0x1b, 0x5b, 0x33, 0x31, 0x3b, 0x34, 0x6d, 97, 0xCC, 0x81, 0xE4, 0xB8, 0x80, 98, 99, 100,
                              0x1b, 0x5b, 0x34, 0x32, 0x6d, 0x1b, 0x5b, 0x4b, 13]]
      let s := p.screen
      pure (emitInvB W0 s && s.cur.scrollbackOffset == 0 && decide (s.cur.pos.col < s.cur.size.cols) &&
            (s.cur.rows.any (·.wrapped)))) = true := by
  decide +kernel

/-- ... and by screens whose cursor is in the pending-wrap column of a line whose last column is empty:
"abc" `ESC[1K` on the first line (branch (d) of C01cursor: nothing above), and "abc" CR LF "def" `ESC[1K` (branch (c):
the line above ends occupied).  Kernel-evaluated; tests -/
theorem full_redraw_fresh_nonvacuous_pw :
    isOkTrue (do
      let p ← C02.run 2 3 0 [[97, 98, 99, 0x1b, 0x5b, 0x31, 0x4b]]
      let p' ← C02.run 2 3 0 [[97, 98, 99, 13, 10, 100, 101, 102, 0x1b, 0x5b, 0x31, 0x4b]]
      let s := p.screen
      let s' := p'.screen
      pure (emitInvB W0 s && s.cur.scrollbackOffset == 0 && s.cur.pos == ⟨0, 3⟩ &&
            !(s.cur.rows.any (fun r => r.cells.any (·.hasContents))) &&
            emitInvB W0 s' && s'.cur.scrollbackOffset == 0 && s'.cur.pos == ⟨1, 3⟩)) = true := by
  decide +kernel

theorem screenSame_of_shows {q S : Screen} (h : Shows q S) (hm : C10.inputModes q = C10.inputModes S)
    (hoff : S.cur.scrollbackOffset = 0) : ScreenSame q S := by
  have hrows : ListRel RowSame q.cur.rows S.cur.rows :=
    listRel_mono (fun _ _ e => ⟨(Prod.mk.inj e).2, listRel_of_map_eq view (Prod.mk.inj e).1⟩)
      (listRel_of_map_eq (fun r => (r.cells.map view, r.wrapped)) (by rw [← List.zip_map', h.views, h.wrapped, List.zip_map']))
  have hg : GridSame q.cur S.cur := ⟨h.size, h.cursor, hrows⟩
  simp only [C10.inputModes, C10.InputModes.mk.injEq] at hm
  exact ⟨hg, visSame_of_offset0 hg h.off hoff, h.hide, h.pen, hm⟩

end Vt.C01

namespace Vt.C02
open Vt Vt.Recv Vt.C19 Vt.C09 Vt.RowDraw Vt.GridDraw Vt.Tok Vt.C03 Vt.C01

/-- the receiver is in the state a reproduction of `P` leaves it in -/
structure Reproduces (q : Parser) (P : Screen) : Prop where
  ready : Ready q
  drawn : DrawnAs q P
  pen : (rsOf q.ws).pen = P.attrs
  hide : q.ws.screen.hideCursor = P.hideCursor
  modes : C10.inputModes q.ws.screen = C10.inputModes P
  off : (rsOf q.ws).g.scrollbackOffset = 0

theorem shows_of_reproduces {q : Parser} {P : Screen} (h : Reproduces q P) (hal : P.cur.rows.length = P.cur.size.rows) :
    Shows q.screen P :=
  shows_of_drawn rfl h.drawn hal h.hide h.pen h.off

end Vt.C02

namespace Vt.C01
open Vt Vt.Recv Vt.C19 Vt.C09 Vt.RowDraw Vt.GridDraw Vt.Tok Vt.C03

variable {W : Nat → Option Nat} {cb : CbPolicy}

/-- a new parser of the size of `S`, fed `S.state_formatted()`, reproduces `S` and reports nothing: what the statements
about a new parser (C01, and the first link of every C02 chain) project from -/
theorem fresh_redraw (hW : WOk W) (S : Screen) (hinv : emitInvB W S = true) (hoff : S.cur.scrollbackOffset = 0) (sb : Nat) :
    ∃ q bytes q', Parser.new S.cur.size.rows S.cur.size.cols sb = .ok q ∧ S.stateFormatted = .ok bytes ∧
      q.process W cb bytes = .ok q' ∧ C02.Reproduces q' S ∧ q'.ws.events = [] := by
  have hS := srcScreen_of_inv hinv hoff
  obtain ⟨hcg, _⟩ := (screenInv_of_emitInvB hinv).cur
  obtain ⟨q, enew, hq⟩ := new_recvOk W S.cur.size.rows S.cur.size.cols sb hcg.rows_pos hcg.cols_pos hcg.rows_u16 hcg.cols_u16
  obtain ⟨bytes, q', eb, ep, r', hsh, hmodes, hev, hdr⟩ := state_formatted_reproduces (cb := cb) hW hq.ok hq.off hq.mouseMode
    hq.mouseEnc S hS (by rw [hq.size])
  exact ⟨q, bytes, q', enew, eb, ep, ⟨r', hdr, hsh.pen, hsh.hide, hmodes, hsh.off⟩, hev.trans hq.events⟩

/-- **C01, complete statement on a new parser**: for every screen `S` satisfying `Inv`, `Inv⁺`, `emitInvB`, not scrolled
back, feeding the bytes of `S.state_formatted()` to a NEW parser of the same size (any scrollback capacity) yields a
screen whose observable state equals `S`'s — cells, wide/continuation flags, colours and attributes, wrap
flags, cursor, cursor visibility, pen, input modes — reports no event, and re-emits the same bytes -/
theorem full_redraw_fresh_reemit (hW : WOk W) (S : Screen) (hinv : emitInvB W S = true) (hoff : S.cur.scrollbackOffset = 0)
    (sb : Nat) :
    ∃ q bytes q', Parser.new S.cur.size.rows S.cur.size.cols sb = .ok q ∧ S.stateFormatted = .ok bytes ∧
      q.process W cb bytes = .ok q' ∧ obs q'.screen = obs S ∧ q'.ws.events = [] ∧
      q'.screen.stateFormatted = .ok bytes ∧ q'.screen.contentsFormatted = S.contentsFormatted := by
  obtain ⟨q, bytes, q', enew, eb, ep, hrep, hev⟩ := fresh_redraw (cb := cb) hW S hinv hoff sb
  have hsh := C02.shows_of_reproduces hrep (srcScreen_of_inv hinv hoff).alloc
  -- the receiver looks the same to every emitter (C19), so it emits the same bytes
  have hsame := screenSame_of_shows hsh hrep.modes hoff
  exact ⟨q, bytes, q', enew, eb, ep, shows_obs hsh hrep.modes hoff, hev, by rw [state_formatted_same hsame]; exact eb,
    contents_formatted_same hsame⟩

end Vt.C01
