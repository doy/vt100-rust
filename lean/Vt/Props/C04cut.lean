/-
  C04cut — C04 (chunk independence) for a cut INSIDE a multi-byte UTF-8 character, and the exact shape of
  finding F10 (vte 0.14.1 `advance_partial_utf8`).

  `C04.process_append` / `process_chunks` (C04b.lean) cover every cut after which the carry buffer (`partial_utf8`) is
  empty.  Here the cut falls inside a character in Ground: the carry is non-empty and the next call goes
  through `advancePartialUtf8`.

  Positive half (carry empty before the first chunk; any automaton state): unless the carry left by `a` and the
  next chunk `b` are in the F10 situation (`WindowLoses`, a `Bool` function of the 4-byte window
  `advance_partial_utf8` looks at, Lemmas/VteFeed), the split run ends in the same automaton with the same actions up
  to `normC1` — "C2 | 85" gives `print 0x85` for `execute 0x85`, which `perform` does not see — hence in the same
  parser (`advance_append_cut`, `process_append_cut`, `process_chunks_cut`; `foldlM_vte` ties the hypothesis of the
  last to the actual run).

  Negative half: on the excluded cuts the split run skips input.  `windowLoses_iff` gives their shape,
  `cut_loses_exact` / `cut_loses_esc` both runs in that shape, `cut_loses_actions` / `cut_loses_count` the two action
  lists for an ESC-free window, where they DIFFER (with a lost ESC they can coincide, see below).  (Whether the
  PARSERS differ depends on the lost byte: SI is lost without trace.)

  The idea (Lemmas/VteFeed): the carry is pending input.  `Vte.run_pending` says what a chunk `a` leaves pending (a
  truncated character `k`) and that the unsplit run goes on as `feed`, the loop on `k ++ b`; `Vte.advance_pending`
  compares what `advance` does on `b` with that loop, by the first token of `k ++ b`.  `pfeed` (`process` on `feed`)
  is an action of byte strings on parsers, which gives `chunks_pfeed` from any parser between two calls.

  NOT proved here:
  * `process_append_cut` for a parser whose carry is ALREADY non-empty before `a` is not stated; `chunks_pfeed` covers it
    in terms of `pfeed` (the window of the unsplit call must then not lose either).
  * for a lost ESC (`cut_loses_esc`) the two runs are computed, but that their results differ for EVERY
    continuation `x :: rest` is not proved (for `rest = []`, `x = C3` the action lists coincide and only the
    automaton state differs).
-/
import Vt.Props.MiscC04
namespace Vt.C04cut
open Vt Vt.C04 Vt.MiscC04 Vt.Utf8

/-- `g` is a non-empty strict prefix of one multi-byte character: `from_utf8(g)` = "unexpected end of
input" with nothing valid before it.  This is what the carry buffer (`partial_utf8`) holds. -/
def Incomplete (g : List Nat) : Prop := fromUtf8 g = Res.stop none

/-- `print c` for a C1 control is what vt100's `print` forwards to `execute`: normal form of an action -/
def normC1 : Action → Action
  | .print c => if 0x80 ≤ c && c < 0xA0 then .execute c else .print c
  | a => a

theorem windowLoses_complete (k b enc : List Nat) (c : Nat) (s' : List Nat) (hk : Trunc k)
    (e : k ++ b = enc ++ s') (he : Enc enc c) :
    WindowLoses k b = ((fromUtf8 (s'.take (4 - enc.length))).err.isSome &&
      decide (0 < (fromUtf8 (s'.take (4 - enc.length))).validUpTo)) := by
  rw [windowLoses_eq hk b, e, window_char he]
  simp [Res.cons, he.lenUtf8]

theorem windowLoses_nil (b : List Nat) : WindowLoses [] b = false := rfl

theorem normC1_dispatch (c : Nat) (h : 0x80 ≤ c) :
    (Vte.groundDispatch [c]).map normC1 = [normC1 (.print c)] := by
  have h1 : ¬ c ≤ 0x1f := by omega
  by_cases h2 : c ≤ 0x9f
  · have h3 : c < 0xA0 := by omega
    simp [Vte.groundDispatch, normC1, h, h1, h2, h3]
  · have h3 : ¬ c < 0xA0 := by omega
    simp [Vte.groundDispatch, normC1, h, h1, h2, h3]

/-- **`advance` is `feed`** — the same final automaton, the same actions up to `print(C1) ~ execute(C1)` (which `vt100`
identifies) — unless the pending bytes and the chunk are the F10 situation -/
theorem advance_feed {v : Vte} (h : v.PendOk) {b : List Nat} (hw : WindowLoses v.carry b = false) :
    (v.advance b).1 = (v.feed b).1 ∧ (v.advance b).2.map normC1 = (v.feed b).2.map normC1 := by
  rcases h with hc | ⟨hg, ht⟩
  · rw [Vte.advance_eq_run hc, Vte.feed_of_carry hc]
    exact ⟨rfl, rfl⟩
  · have hP := Vte.advance_pending ht b
    have hg : v.clear.state = .ground := hg
    rw [Vte.feed]
    rcases ht.first_token b with hkb | ⟨enc, c, s', e, hl, he⟩ | ⟨g, y, s'', e, hgi, hl, hbad⟩
    · rw [hP.more hkb, Vte.run_trunc hg hkb]
      exact ⟨rfl, rfl⟩
    · have hc80 := high_of_lt he ht hl
      rw [hP.char e hl he, hw, e, Vte.run_char hg he (by omega)]
      refine ⟨rfl, ?_⟩
      simp only [List.map_cons, List.map_append, normC1_dispatch c hc80]
      rfl
    · rw [hP.invalid e hgi hl hbad, e, Vte.run_invalid_trunc hg hgi hbad]
      exact ⟨rfl, rfl⟩

/-- **C04, automaton level, cut inside a multi-byte character.**  The carry is empty before `a`; after `a` it may
hold a truncated character `k`.  Unless `(k, b)` is the F10 situation, `advance(a ++ b)` and `advance(a)` then
`advance(b)` end in the same automaton and give the same actions up to `print(C1) ~ execute(C1)`.
(With `k = []`: `C04.advance_append`, which gives the action lists themselves equal.) -/
theorem advance_append_cut (v : Vte) (a b : List Nat) (hc : v.carry = [])
    (hw : WindowLoses (v.advance a).1.carry b = false) :
    (v.advance (a ++ b)).1 = ((v.advance a).1.advance b).1 ∧
    (v.advance (a ++ b)).2.map normC1 = ((v.advance a).2 ++ ((v.advance a).1.advance b).2).map normC1 := by
  rw [Vte.advance_eq_run hc a] at hw ⊢
  obtain ⟨h1, h2⟩ := advance_feed (Vte.run_pending hc a).pendOk hw
  rw [Vte.advance_eq_run hc, (Vte.run_pending hc a).append b]
  exact ⟨h1.symm, by simp only [List.map_append, h2]⟩

/-- `vt100`'s `print` forwards C1 controls to `execute`: `perform` does not see `normC1` -/
theorem perform_normC1 (W : Nat → Option Nat) (cb : CbPolicy) (ws : WS) (a : Action) :
    perform W cb ws (normC1 a) = perform W cb ws a := by
  cases a with
  | print c =>
    simp only [normC1]
    split
    · rename_i h; simp only [perform, performPrint, h, ↓reduceIte]
    · rfl
  | _ => rfl

theorem foldlM_normC1 (W : Nat → Option Nat) (cb : CbPolicy) : ∀ (acts : List Action) (ws : WS),
    (acts.map normC1).foldlM (perform W cb) ws = acts.foldlM (perform W cb) ws
  | [], _ => rfl
  | a :: acts, ws => by
    simp only [List.map_cons, List.foldlM_cons, perform_normC1]
    cases perform W cb ws a with
    | error e => rfl
    | ok ws' => simp only [ok_bind]; exact foldlM_normC1 W cb acts ws'

/-- **C04 (screen and events), cut inside a multi-byte character**: `process(a ++ b)` = `process(a)` then
`process(b)` for every cut except the F10 situation `WindowLoses`.  The carry must be empty before `a` (true of a
new parser); after `a` it may hold a truncated character. -/
theorem process_append_cut (W : Nat → Option Nat) (cb : CbPolicy) (p : Parser) (a b : List Nat)
    (hc : p.vte.carry = []) (hw : WindowLoses (p.vte.advance a).1.carry b = false) :
    p.process W cb (a ++ b) = (p.process W cb a >>= fun p1 => p1.process W cb b) := by
  obtain ⟨h1, h2⟩ := advance_append_cut p.vte a b hc hw
  simp only [process_eq]
  rw [← foldlM_normC1 W cb (p.vte.advance (a ++ b)).2, h2, foldlM_normC1, h1, List.foldlM_append]
  cases (p.vte.advance a).2.foldlM (perform W cb) p.ws with
  | error e => rfl
  | ok ws => rfl

def runVte (v : Vte) (chunks : List (List Nat)) : Vte := chunks.foldl (fun v c => (v.advance c).1) v

/-- `process` with the pending bytes read as input: what `process` is meant to do -/
def pfeed (W : Nat → Option Nat) (cb : CbPolicy) (p : Parser) (bs : List Nat) : M Parser :=
  (p.vte.feed bs).2.foldlM (perform W cb) p.ws >>= fun ws => pure { vte := (p.vte.feed bs).1, ws := ws }

theorem pfeed_append (W : Nat → Option Nat) (cb : CbPolicy) (p : Parser) (a b : List Nat) :
    pfeed W cb p (a ++ b) = (pfeed W cb p a >>= fun p1 => pfeed W cb p1 b) := by
  simp only [pfeed, Vte.feed_append p.vte a b, List.foldlM_append]
  cases (p.vte.feed a).2.foldlM (perform W cb) p.ws with
  | error e => rfl
  | ok ws => rfl

theorem process_eq_pfeed (W : Nat → Option Nat) (cb : CbPolicy) {p : Parser} (h : p.vte.PendOk) {b : List Nat}
    (hw : WindowLoses p.vte.carry b = false) : p.process W cb b = pfeed W cb p b := by
  obtain ⟨h1, h2⟩ := advance_feed h hw
  rw [process_eq, pfeed, ← foldlM_normC1, h2, foldlM_normC1, h1]

theorem pfeed_vte {W : Nat → Option Nat} {cb : CbPolicy} {p p' : Parser} {c : List Nat}
    (e : pfeed W cb p c = .ok p') : p'.vte = (p.vte.feed c).1 := by
  obtain ⟨ws, _, e⟩ := bind_eq_ok.mp e
  cases e
  rfl

/-- **any chunking none of whose cuts is a losing one, from any parser between two calls** (bytes may be pending at the
start): feeding the chunks one by one is `pfeed` of their concatenation -/
theorem chunks_pfeed (W : Nat → Option Nat) (cb : CbPolicy) : ∀ (chunks : List (List Nat)) (p : Parser), p.vte.PendOk →
    (∀ i (hi : i < chunks.length), WindowLoses (runVte p.vte (chunks.take i)).carry chunks[i] = false) →
    chunks.foldlM (fun p c => p.process W cb c) p = pfeed W cb p chunks.flatten
  | [], p, hp, _ => by
    simp only [List.foldlM_nil, List.flatten_nil, pfeed, Vte.feed_nil hp]
    rfl
  | c :: cs, p, hp, h => by
    have h0 : WindowLoses p.vte.carry c = false := h 0 (Nat.succ_pos _)
    simp only [List.foldlM_cons, List.flatten_cons]
    rw [process_eq_pfeed W cb hp h0, pfeed_append]
    cases e : pfeed W cb p c with
    | error _ => rfl
    | ok p1 =>
      have hv : p1.vte = (p.vte.advance c).1 := (pfeed_vte e).trans (advance_feed hp h0).1.symm
      exact chunks_pfeed W cb cs p1 (pfeed_vte e ▸ Vte.pendOk_feed _ _) fun i hi => by
        have := h (i + 1) (Nat.succ_lt_succ hi)
        rwa [hv]

/-- **C04 for ANY chunking none of whose cuts is a losing one.**  The parser starts with an empty carry.  At each
cut, the carry buffer the automaton holds at that moment (empty, or a truncated character) together with the next
chunk must not be the F10 situation `WindowLoses` (chunks too short to complete the character are fine: the bytes
stay in the carry).  Then feeding the chunks one by one equals feeding their concatenation. -/
theorem process_chunks_cut (W : Nat → Option Nat) (cb : CbPolicy) (chunks : List (List Nat)) (p : Parser)
    (hc : p.vte.carry = [])
    (h : ∀ i (hi : i < chunks.length), WindowLoses (runVte p.vte (chunks.take i)).carry chunks[i] = false) :
    chunks.foldlM (fun p c => p.process W cb c) p = p.process W cb chunks.flatten := by
  rw [chunks_pfeed W cb chunks p (.inl hc) h, process_eq_pfeed W cb (.inl hc) (by rw [hc, windowLoses_nil])]

theorem foldlM_vte (W : Nat → Option Nat) (cb : CbPolicy) : ∀ (chunks : List (List Nat)) (p p' : Parser),
    chunks.foldlM (fun p c => p.process W cb c) p = .ok p' → p'.vte = runVte p.vte chunks
  | [], p, p', e => by simp only [List.foldlM_nil, pure_eq_ok, Except.ok.injEq] at e; rw [← e]; rfl
  | c :: cs, p, p', e => by
    simp only [List.foldlM_cons] at e
    cases hp : p.process W cb c with
    | error e' => rw [hp] at e; simp at e
    | ok p1 =>
      rw [hp] at e
      simp only [ok_bind] at e
      rw [foldlM_vte W cb cs p1 p' e, process_vte W cb p p1 c hp]
      rfl

theorem losing_form (k b : List Nat) (hk : Trunc k) (hw : WindowLoses k b = true) :
    ∃ enc c s', k ++ b = enc ++ s' ∧ k.length < enc.length ∧ Enc enc c ∧
      (fromUtf8 (s'.take (4 - enc.length))).err ≠ none ∧ 0 < (fromUtf8 (s'.take (4 - enc.length))).validUpTo := by
  rcases hk.first_token b with hkb | ⟨enc, c, s', e, hl, he⟩ | ⟨g, y, s'', e, hgi, hl, hbad⟩
  · exfalso
    have h3' := hkb.props.2.1
    rw [windowLoses_eq hk b, List.take_of_length_le (by omega), hkb.stop] at hw
    simp [Res.stop] at hw
  · have hwl := windowLoses_complete k b enc c s' hk e he
    rw [hw, eq_comm, Bool.and_eq_true, decide_eq_true_eq, Option.isSome_iff_ne_none] at hwl
    exact ⟨enc, c, s', e, hl, he, hwl.1, hwl.2⟩
  · exfalso
    rw [windowLoses_eq hk b, e, window_invalid hgi hbad] at hw
    simp [Res.stop] at hw

theorem fromUtf8_high {b0 : Nat} (h : 0x80 ≤ b0) (rest : List Nat) :
    (∃ e, fromUtf8 (b0 :: rest) = Res.stop e) ∨ 2 ≤ (fromUtf8 (b0 :: rest)).validUpTo := by
  rcases fromUtf8_head (b0 :: rest) with h0 | ⟨enc, c, r, e, he⟩ | ht | ⟨n, _, _, hn⟩
  · cases h0
  · rcases he.bytes with ⟨hc, rfl⟩ | ⟨_, h2, _⟩
    · cases e; omega
    · rw [e, he.decode]
      exact .inr (Nat.le_trans h2 (Nat.le_add_right ..))
  · exact .inl ⟨_, ht.stop⟩
  · exact .inl ⟨_, List.append_nil (b0 :: rest) ▸ hn []⟩

theorem single_high (x : Nat) (h : 0x80 ≤ x) :
    (fromUtf8 [x]).validUpTo = 0 ∧ (fromUtf8 [x]).err ≠ none := by
  rcases fromUtf8_high h [] with ⟨e, he⟩ | h2
  · rw [he]; exact ⟨rfl, nofun⟩
  · exact absurd (Nat.le_trans h2 (validUpTo_le [x])) (Nat.not_succ_le_self 1)

theorem two_validUpTo (c1 x : Nat) (h : (fromUtf8 [c1, x]).validUpTo = 1) : c1 < 0x80 := by
  refine Nat.lt_of_not_le fun hc => ?_
  rcases fromUtf8_high hc [x] with ⟨e, he⟩ | h2
  · rw [he] at h; cases h
  · omega

/-- **the exact shape of finding F10.**  With a truncated character `k` in the carry, the pair `(k, b)` is the
losing situation exactly when: `k` is the lead byte of a 2-byte character, `b` starts with its continuation byte
`t`, then ONE 7-bit byte `c1` (the character that is lost — a letter, a control, possibly ESC), then a byte
`x ≥ 0x80` (the start of another multi-byte character, or an invalid byte).  Carries of 3- and 4-byte
characters, and carries of two or three bytes, never lose anything. -/
theorem windowLoses_iff (k b : List Nat) (hk : Incomplete k) :
    WindowLoses k b = true ↔
      ∃ l t c1 x rest, k = [l] ∧ b = t :: c1 :: x :: rest ∧ 0xC2 ≤ l ∧ l ≤ 0xDF ∧ isCont t = true ∧
        c1 < 0x80 ∧ 0x80 ≤ x := by
  have hk := trunc_of_stop hk
  constructor
  · intro hw
    obtain ⟨enc, c, s', e, hl, he, hsome, hpos⟩ := losing_form k b hk hw
    -- the valid prefix of the rest of the window is non-empty and not all of it: only 2 + 1 + 1 bytes fit
    have hlt := validUpTo_lt_of_err _ hsome
    have hk1 := hk.props.1
    rw [List.length_take] at hlt
    have henc2 : enc.length = 2 := by omega
    have hkl : k.length = 1 := by omega
    have hs2 : 2 ≤ s'.length := by omega
    rw [henc2] at hlt hpos hsome
    have hv1 : (fromUtf8 (s'.take (4 - 2))).validUpTo = 1 := by omega
    obtain ⟨l, rfl⟩ := List.length_eq_one_iff.mp hkl
    rcases s' with _ | ⟨c1, _ | ⟨x, rest⟩⟩
    · cases hs2
    · exact absurd hs2 (Nat.not_succ_le_self 1)
    cases he with
    | one | three | four => cases henc2
    | @two p q hp hq =>
      cases e
      have hc1 : c1 < 0x80 := two_validUpTo c1 x hv1
      refine ⟨_, _, c1, x, rest, rfl, rfl, by omega, by omega, isCont_group hq, hc1, Nat.le_of_not_lt fun hx => ?_⟩
      exact hsome (fromUtf8_ascii [c1, x] (by intro y hy; simp at hy; omega))
  · rintro ⟨l, t, c1, x, rest, rfl, rfl, hl1, hl2, ht, hc1, hx⟩
    obtain ⟨hx0, hxe⟩ := single_high x hx
    rw [windowLoses_complete [l] (t :: c1 :: x :: rest) [l, t] _ (c1 :: x :: rest) hk rfl (Enc.two' ⟨hl1, hl2⟩ ht)]
    show ((fromUtf8 [c1, x]).err.isSome && decide (0 < (fromUtf8 [c1, x]).validUpTo)) = true
    rw [fromUtf8_lead1 hc1]
    cases hs : (fromUtf8 [x]).err with
    | none => exact absurd hs hxe
    | some e' => simp [Res.cons, hs, hx0]

/-- **F10 in its exact shape, both runs computed.**  The carry left by `a` is the lead byte `l` of a 2-byte
character `c`; `b = t :: c1 :: x :: rest` with `t` its continuation byte, `c1 < 0x80`, `x ≥ 0x80`.  Then for a
carry-free Ground automaton `v0` and common actions `A`: the unsplit run is `A`, the dispatch of `c`, then `v0`'s
loop on `c1 :: x :: rest`; the split run is `A`, `print c`, then `v0`'s loop on `x :: rest`: the byte `c1` is
never seen by the automaton. -/
theorem cut_loses_exact (v : Vte) (a : List Nat) (l t c1 x : Nat) (rest : List Nat) (hc : v.carry = [])
    (hk : (v.advance a).1.carry = [l]) (hl1 : 0xC2 ≤ l) (hl2 : l ≤ 0xDF) (ht : isCont t = true)
    (hc1 : c1 < 0x80) (hx : 0x80 ≤ x) :
    ∃ (v0 : Vte) (A : List Action) (F : Nat), v0.state = .ground ∧ v0.carry = [] ∧
      (c1 :: x :: rest).length < F ∧
      v.advance (a ++ t :: c1 :: x :: rest) =
        ((Vte.advanceLoop F v0 (c1 :: x :: rest)).1,
          A ++ Vte.groundDispatch [(l - 0xC0) * 64 + (t - 0x80)] ++ (Vte.advanceLoop F v0 (c1 :: x :: rest)).2) ∧
      ((v.advance a).1.advance (t :: c1 :: x :: rest)).1 = (Vte.advanceLoop F v0 (x :: rest)).1 ∧
      (v.advance a).2 ++ ((v.advance a).1.advance (t :: c1 :: x :: rest)).2 =
        A ++ .print ((l - 0xC0) * 64 + (t - 0x80)) :: (Vte.advanceLoop F v0 (x :: rest)).2 := by
  rw [Vte.advance_eq_run hc] at hk ⊢
  have hA := Vte.run_pending hc a
  obtain ⟨hg, hk3⟩ : (v.run a).1.state = .ground ∧ Trunc [l] := by
    rcases hA.pendOk with h | ⟨g, tr⟩
    · rw [hk] at h; cases h
    · exact ⟨g, hk ▸ tr⟩
  have hw : WindowLoses [l] (t :: c1 :: x :: rest) = true :=
    (windowLoses_iff _ _ hk3.stop).2 ⟨l, t, c1, x, rest, rfl, rfl, hl1, hl2, ht, hc1, hx⟩
  have hP := Vte.advance_pending (hk ▸ hk3) (t :: c1 :: x :: rest)
  rw [hk] at hP
  have he := Enc.two' ⟨hl1, hl2⟩ ht
  have hF {s : List Nat} (hs : s.length < (c1 :: x :: rest).length + 1) :
      Vte.advanceLoop ((c1 :: x :: rest).length + 1) (v.run a).1.clear s = (v.run a).1.clear.run s :=
    Vte.advanceLoop_eq_run hs _
  refine ⟨(v.run a).1.clear, (v.run a).2, (c1 :: x :: rest).length + 1, hg, rfl, Nat.lt_succ_self _, ?_⟩
  rw [Vte.advance_eq_run hc, hA.append, Vte.feed, hk, hF (Nat.lt_succ_self _), hF (by simp),
    hP.char (enc := [l, t]) rfl (Nat.lt_succ_self 1) he, hw, if_pos rfl,
    show ([l] ++ t :: c1 :: x :: rest) = [l, t] ++ c1 :: x :: rest from rfl,
    Vte.run_char (v := (v.run a).1.clear) hg he (by have := high_of_lt he hk3 (Nat.lt_succ_self 1); omega),
    show fromUtf8 ((c1 :: x :: rest).take (4 - [l, t].length)) = (fromUtf8 [x]).cons c1 1 from fromUtf8_lead1 hc1 [x]]
  simp only [Res.cons, (single_high x hx).1, List.append_assoc, true_and]
  exact ⟨rfl, rfl⟩

/-- **On the excluded cuts input is lost** (finding F10), stated without the shape of the cut: the unsplit run is
`A`, dispatch of `c`, then `v0`'s loop on `s'`, while the split run is `A`, `print c`, then `v0`'s loop on `s'`
WITHOUT its first `n ≥ 1` bytes — valid UTF-8 holding the characters `lost ≠ []`, all of them bytes of the window. -/
theorem cut_loses (v : Vte) (a b : List Nat) (hc : v.carry = [])
    (hw : WindowLoses (v.advance a).1.carry b = true) :
    ∃ (v0 : Vte) (A : List Action) (c : Nat) (s' : List Nat) (n : Nat) (lost : List Nat) (F : Nat),
      v0.state = .ground ∧ v0.carry = [] ∧ 0x80 ≤ c ∧ 0 < n ∧ n ≤ s'.length ∧ s'.length < F ∧ lost ≠ [] ∧
      fromUtf8 (s'.take n) = { chars := lost, validUpTo := n, err := none } ∧
      (∀ x ∈ s'.take n, x ∈ b.take (4 - (v.advance a).1.carry.length)) ∧
      v.advance (a ++ b) =
        ((Vte.advanceLoop F v0 s').1, A ++ Vte.groundDispatch [c] ++ (Vte.advanceLoop F v0 s').2) ∧
      ((v.advance a).1.advance b).1 = (Vte.advanceLoop F v0 (s'.drop n)).1 ∧
      (v.advance a).2 ++ ((v.advance a).1.advance b).2 =
        A ++ .print c :: (Vte.advanceLoop F v0 (s'.drop n)).2 := by
  have hk : Incomplete (v.advance a).1.carry := by
    rw [Vte.advance_eq_run hc] at hw ⊢
    rcases (Vte.run_pending hc a).pendOk with h | ⟨_, ht⟩
    · rw [h] at hw; cases hw
    · exact ht.stop
  -- a losing cut has one shape (`windowLoses_iff`): one byte is lost
  obtain ⟨l, t, c1, x, rest, hl, rfl, hl1, hl2, ht, hc1, hx⟩ := (windowLoses_iff _ _ hk).mp hw
  obtain ⟨v0, A, F, hg0, hc0, hF, h4, h5, h6⟩ := cut_loses_exact v a l t c1 x rest hc hl hl1 hl2 ht hc1 hx
  refine ⟨v0, A, _, c1 :: x :: rest, 1, [c1], F, hg0, hc0, by omega, Nat.one_pos, Nat.le_add_left .., hF, nofun,
    fromUtf8_lead1 hc1 [], fun y hy => ?_, h4, h5, h6⟩
  rw [hl]
  exact List.mem_cons_of_mem _ (List.mem_cons.mpr (.inl (List.mem_singleton.mp hy)))

/-- `print` and `execute`: the actions by which the automaton hands a character to the terminal -/
def isText : Action → Bool
  | .print _ => true
  | .execute _ => true
  | _ => false

theorem countP_dispatch (l : List Nat) : (Vte.groundDispatch l).countP isText = l.length := by
  induction l with
  | nil => rfl
  | cons x l ih =>
    simp only [Vte.groundDispatch, List.map_cons, List.length_cons] at ih ⊢
    rw [List.countP_cons, ih]
    split <;> simp [isText]

/-- **F10, action lists** (window free of ESC): the unsplit run dispatches the characters `c :: lost`, the split
run only prints `c`; before (`A`) and after (`L`) the two action lists are the same, and the automaton ends in
the same state: the characters `lost` (at least one) are dropped. -/
theorem cut_loses_actions (v : Vte) (a b : List Nat) (hc : v.carry = [])
    (hw : WindowLoses (v.advance a).1.carry b = true)
    (hE : ∀ x ∈ b.take (4 - (v.advance a).1.carry.length), x ≠ 0x1B) :
    ∃ (A : List Action) (c : Nat) (lost : List Nat) (L : List Action), 0x80 ≤ c ∧ lost ≠ [] ∧
      (v.advance (a ++ b)).2 = A ++ Vte.groundDispatch (c :: lost) ++ L ∧
      (v.advance a).2 ++ ((v.advance a).1.advance b).2 = A ++ .print c :: L ∧
      (v.advance (a ++ b)).1 = ((v.advance a).1.advance b).1 := by
  obtain ⟨v0, A, c, s', n, lost, F, hg0, hc0, h1, h2, h3, h4, h5, h6, h7, h8, h9, h10⟩ := cut_loses v a b hc hw
  have hF : Vte.advanceLoop F v0 (s'.drop n) = v0.run (s'.drop n) :=
    Vte.advanceLoop_eq_run (by simp only [List.length_drop]; omega) v0
  have hsplit := Vte.run_valid hg0 (fun x hx => hE x (h7 x hx)) (by rw [h6]) (s'.drop n)
  rw [List.take_append_drop, h6] at hsplit
  rw [Vte.advanceLoop_eq_run h4, hsplit] at h8
  rw [hF] at h9 h10
  refine ⟨A, c, lost, (v0.run (s'.drop n)).2, h1, h5, ?_, h10, ?_⟩
  · rw [h8]
    simp [Vte.groundDispatch]
  · rw [h8, h9]

/-- **F10, counted**: with an ESC-free window, the split run hands strictly fewer characters to the terminal
(`print`/`execute` actions) than the unsplit run -/
theorem cut_loses_count (v : Vte) (a b : List Nat) (hc : v.carry = [])
    (hw : WindowLoses (v.advance a).1.carry b = true)
    (hE : ∀ x ∈ b.take (4 - (v.advance a).1.carry.length), x ≠ 0x1B) :
    ((v.advance a).2 ++ ((v.advance a).1.advance b).2).countP isText < (v.advance (a ++ b)).2.countP isText ∧
    ((v.advance a).2 ++ ((v.advance a).1.advance b).2).length < (v.advance (a ++ b)).2.length := by
  obtain ⟨A, c, lost, L, _, hl, h1, h2, _⟩ := cut_loses_actions v a b hc hw hE
  have hpos : 0 < lost.length := by cases lost with | nil => exact absurd rfl hl | cons _ _ => simp
  rw [h1, h2]
  refine ⟨?_, ?_⟩
  · simp only [List.countP_append, List.countP_cons, countP_dispatch, List.length_cons, isText]
    simp; omega
  · simp only [List.length_append, List.length_cons, Vte.groundDispatch, List.length_map]
    omega

/-- **F10 when the lost byte is ESC**: the unsplit run enters the Escape state and parses `x :: rest` as the body
of an escape sequence; the split run never sees the ESC and parses the same bytes as Ground text. -/
theorem cut_loses_esc (v : Vte) (a : List Nat) (l t x : Nat) (rest : List Nat) (hc : v.carry = [])
    (hk : (v.advance a).1.carry = [l]) (hl1 : 0xC2 ≤ l) (hl2 : l ≤ 0xDF) (ht : isCont t = true) (hx : 0x80 ≤ x) :
    ∃ (v0 : Vte) (A : List Action) (F : Nat), v0.state = .ground ∧ v0.carry = [] ∧ (x :: rest).length < F ∧
      v.advance (a ++ t :: 0x1B :: x :: rest) =
        ((Vte.advanceLoop F ({ v0.resetParams with state := .escape }) (x :: rest)).1,
          A ++ Vte.groundDispatch [(l - 0xC0) * 64 + (t - 0x80)] ++
            (Vte.advanceLoop F ({ v0.resetParams with state := .escape }) (x :: rest)).2) ∧
      ((v.advance a).1.advance (t :: 0x1B :: x :: rest)).1 = (Vte.advanceLoop F v0 (x :: rest)).1 ∧
      (v.advance a).2 ++ ((v.advance a).1.advance (t :: 0x1B :: x :: rest)).2 =
        A ++ .print ((l - 0xC0) * 64 + (t - 0x80)) :: (Vte.advanceLoop F v0 (x :: rest)).2 := by
  obtain ⟨v0, A, F, h1, h2, h3, h4, h5, h6⟩ := cut_loses_exact v a l t 0x1B x rest hc hk hl1 hl2 ht (by omega) hx
  have h3' : (x :: rest).length < F := Nat.lt_of_succ_lt h3
  refine ⟨v0, A, F, h1, h2, h3', ?_, h5, h6⟩
  rw [h4, Vte.advanceLoop_eq_run h3, Vte.run_esc h1, Vte.advanceLoop_eq_run h3']

/-- a non-losing cut inside a 3-byte character ("a一A" cut after E4, and after E4 B8): the carry is non-empty
and `WindowLoses` is false, so `process_append_cut` applies -/
example :
    ((Vte.new.advance [0x61, 0xE4]).1.carry = [0xE4] ∧ WindowLoses [0xE4] [0xB8, 0x80, 0x41] = false) ∧
    ((Vte.new.advance [0x61, 0xE4, 0xB8]).1.carry = [0xE4, 0xB8] ∧ WindowLoses [0xE4, 0xB8] [0x80, 0x41] = false) := by
  decide +kernel

/-- non-losing cuts inside a 4-byte character (U+1F600 = F0 9F 98 80), after 1, 2 and 3 bytes; the last with a
following incomplete lead byte in the window (window not valid as a whole, valid prefix = first character) -/
example :
    ((Vte.new.advance [0xF0]).1.carry = [0xF0] ∧ WindowLoses [0xF0] [0x9F, 0x98, 0x80, 0x41] = false) ∧
    ((Vte.new.advance [0xF0, 0x9F]).1.carry = [0xF0, 0x9F] ∧ WindowLoses [0xF0, 0x9F] [0x98, 0x80, 0x41] = false) ∧
    ((Vte.new.advance [0xF0, 0x9F, 0x98]).1.carry = [0xF0, 0x9F, 0x98] ∧
      WindowLoses [0xF0, 0x9F, 0x98] [0x80, 0xC3] = false) := by
  decide +kernel

/-- "C3 | A9 41 41" is FINE: the window `C3 A9 41 41` holds a second and a third complete character but is valid
as a whole (vte then consumes only the first character); likewise a 3-byte character followed by a truncated
one ("E4 | B8 80 C3": valid prefix = the first character) and a too-short chunk ("E4 | B8") -/
example :
    WindowLoses [0xC3] [0xA9, 0x41, 0x41] = false ∧ WindowLoses [0xE4] [0xB8, 0x80, 0xC3] = false ∧
    WindowLoses [0xE4] [0xB8] = false ∧ WindowLoses [0xC3] [0x41] = false := by
  decide +kernel

/-- the F10 witnesses are losing cuts: "C3 | A9 41 C3 A9" (no invalid byte needed) and "C2 | 85 7A 8D" -/
example :
    ((Vte.new.advance [0xC3]).1.carry = [0xC3] ∧ WindowLoses [0xC3] [0xA9, 0x41, 0xC3, 0xA9] = true) ∧
    WindowLoses [0xC2] [0x85, 0x7A, 0x8D] = true ∧
    (∀ x ∈ [0xA9, 0x41, 0xC3, 0xA9].take (4 - 1), x ≠ 0x1B) ∧
    -- also with ESC as the lost byte
    WindowLoses [0xC3] [0xA9, 0x1B, 0xC3] = true := by
  decide +kernel

/-- the hypotheses of `process_chunks_cut` hold for "a一😀A" cut inside both multi-byte characters, one of the
chunks too short to complete the character; three of the four cuts leave a non-empty carry -/
example :
    (∀ i (hi : i < 5), WindowLoses
      (runVte Vte.new ([[0x61, 0xE4], [0xB8], [0x80, 0xF0, 0x9F], [0x98], [0x80, 0x41]].take i)).carry
      ([[0x61, 0xE4], [0xB8], [0x80, 0xF0, 0x9F], [0x98], [0x80, 0x41]][i]'hi) = false) ∧
    (runVte Vte.new [[0x61, 0xE4]]).carry ≠ [] ∧ (runVte Vte.new [[0x61, 0xE4], [0xB8]]).carry ≠ [] ∧
    (runVte Vte.new [[0x61, 0xE4], [0xB8], [0x80, 0xF0, 0x9F]]).carry ≠ [] := by
  decide +kernel

/-- test of the model at the `process` level: "C2 | 85" (action lists differ: `print` vs `execute`) and
"E4 | B8 | 80" give the same screen and events split or not, whereas the F10 witness "C3 | A9 41 C3 A9" does not -/
theorem process_cut_examples : isOkTrue (do
    let p ← Parser.new 2 10 0
    let a1 ← p.process W0 cbNone [0xC2, 0x85]
    let b1 ← p.process W0 cbNone [0xC2]
    let b1 ← b1.process W0 cbNone [0x85]
    let a2 ← p.process W0 cbNone [0xE4, 0xB8, 0x80]
    let b2 ← p.process W0 cbNone [0xE4]
    let b2 ← b2.process W0 cbNone [0xB8]
    let b2 ← b2.process W0 cbNone [0x80]
    let a3 ← p.process W0 cbNone [0xC3, 0xA9, 0x41, 0xC3, 0xA9]
    let b3 ← p.process W0 cbNone [0xC3]
    let b3 ← b3.process W0 cbNone [0xA9, 0x41, 0xC3, 0xA9]
    pure (decide (a1 = b1) && decide (a2 = b2) && !decide (a3.ws = b3.ws))) = true := by
  decide +kernel
end Vt.C04cut
