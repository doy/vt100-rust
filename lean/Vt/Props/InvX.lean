/-
  Vt.Props.InvX — the per-cell conditions of `Inv⁺` / `emitInv` (`cx`: colours are bytes, a continuation
  cell has default attributes, no cell starts with U+FFFD, combining characters were appended below the
  18-byte stop) hold of every cell of every line — live and in the scrollback — after every operation of
  `grid.rs`, if they held before (`opsKeep_x`); with byte-sized colours of the pen and the saved pen they are a
  condition on the screen (`ScreenX`) that `InvPerform` carries through `perform`, `process` and the public API to
  every reachable screen (`reachable_x`).

  Partial-correctness form on top of `Inv`: whenever an operation returns (it always does, `reachable_inv`),
  the cells of the result are cells of the argument or were built one of the admissible ways.
-/
import Vt.Props.InvPerform
import Vt.Lemmas.CellX
import Vt.Props.C16cells
namespace Vt.InvX
open Vt

variable {W : Nat → Option Nat}

def RX (r : Row) : Prop := AllX r.cells

theorem rx_pred : RowPred RX := ⟨fun n => allX_new n, fun _ h => h⟩

def GridX (g : Grid) : Prop := GridP RX g

variable {g g' : Grid} {a : Attrs}

theorem rx_map_clear (ha : attrsOk a = true) {l : List Row} : ∀ r ∈ l.map (fun (r : Row) => r.clear a), RX r := by
  intro r hr
  obtain ⟨r0, _, rfl⟩ := List.mem_map.mp hr
  exact allX_clear ha

theorem allX_eraseRange {cs : List Cell} (h : AllX cs) {a : Attrs} (ha : attrsOk a = true) (lo hi : Nat) :
    AllX (C07.eraseRange cs lo hi a) := by
  intro x hx
  obtain ⟨c, hc, e | e | e⟩ := C07.mem_eraseRange hx <;> rw [e]
  · exact h c hc
  · exact cx_clear c ha
  · exact cx_clear_self (h c hc)

theorem gridX_eraseRange (hrows : ∀ r ∈ g.rows, RowGood W g.size.cols r) (h : GridX g) (ha : attrsOk a = true)
    {lo hi : Nat} (hhi : hi ≤ g.size.cols)
    (e : g.modifyCurrentRow (fun row => forRange lo hi (fun col r => r.erase col a) row) = .ok g') : GridX g' := by
  refine gridP_modifyCurrentRow h (fun r r' hr hrr => ?_) e
  have hg := hrows r hr
  cases (C07.erase_row_eq (rowGood_cells W hg) lo hi a (hg.1 ▸ hhi)).1.symm.trans hrr
  exact allX_eraseRange (h.1 r hr) ha lo hi

theorem gridX_insertCells (hinv : GridInv W g true) (hl : g.rows.length = g.size.rows) (h : GridX g) (n : Nat)
    (e : g.insertCells n = .ok g') : GridX g' := by
  obtain ⟨r, L, hr, -, hL, e'⟩ := C08.insertCells_eq hinv hl n
  cases e'.symm.trans e
  have hx := h.1 r (List.mem_of_getElem? hr)
  refine gridP_set h _ fun x hx' => ?_
  -- a cell of `L` is a cell of the line or a blank (`ichAt`), the flag of a split wide character handed over; the last
  -- one possibly blanked
  obtain ⟨j, hj⟩ := List.getElem?_of_mem hx'
  rw [hL] at hj
  split at hj
  · obtain ⟨y, hy, rfl⟩ := Option.map_eq_some_iff.mp hj
    have hcy : cx y = true := by
      rcases C08.mem_ichAt hy with ⟨c, hc, e | e⟩ | e | e <;> rw [e]
      · exact hx c hc
      · exact cx_uncont (hx c hc)
      · exact cx_new
      · exact cx_new_cont true
    split
    · exact cx_clear_self hcy
    · exact hcy
  · cases hj

theorem gridX_deleteCells (hinv : GridInv W g true) (hl : g.rows.length = g.size.rows) (h : GridX g) (n : Nat)
    (e : g.deleteCells n = .ok g') : GridX g' := by
  obtain ⟨r, L, hr, -, hL, e'⟩ := C08.deleteCells_eq hinv hl n
  cases e'.symm.trans e
  have hx := h.1 r (List.mem_of_getElem? hr)
  refine gridP_set h _ (allX_append (fun x hx' => ?_) (allX_replicate_new _))
  obtain ⟨j, hj⟩ := List.getElem?_of_mem hx'
  rw [hL] at hj
  obtain ⟨c, hc, e | e⟩ := C08.mem_dchAt hj <;> rw [e]
  · exact hx c hc
  · exact cx_clear_self (hx c hc)

theorem allX_textWideRow {row row' : Row} {col cols : Nat} {a : Attrs} {c width : Nat}
    (h : AllX row.cells) (ha : attrsOk a = true) (hs : isScalar c = true) (hc : c ≠ 0xFFFD)
    (e : Grid.textWideRow W row col cols a c width = .ok row') : AllX row'.cells :=
  have hclear : ∀ i, WriteKeeps RX i (·.clear a) := fun i => writeKeeps_cells fun x _ => cx_clear x ha
  textWideRow_writes (P := RX) h (fun _ => hclear _) (writeKeeps_cells fun x _ => cx_setResult x ha (by decide) (by decide))
    (writeKeeps_cells fun x _ => cx_setResult x ha hs hc) (hclear _) (writeKeeps_cells fun x _ => cx_contCell x) e

theorem gridX_modifyCellM (h : GridX g) {site : Nat} {pos : Pos} {f : Cell → M Cell}
    (hf : ∀ r ∈ g.rows, ∀ c ∈ r.cells, ∀ c', f c = .ok c' → cx c' = true)
    (e : g.modifyCellM site pos f = .ok g') : GridX g' := by
  obtain ⟨r, c, c', hr, hc, hcc, rfl⟩ := modifyCellM_eq_ok.mp e
  have hr := List.mem_of_getElem? hr
  exact gridP_set h _ (forall_mem_set (h.1 r hr) (hf r hr c (List.mem_of_getElem? hc) c' hcc) _)

theorem gridX_textZero (hinv : GridInv W g true) (h : GridX g) {z : Nat} (hs : isScalar z = true) :
    C12.MPred GridX (g.textZero z) :=
  textZero_cases h fun _ _ => C12.MPred.iff.mpr fun _ e => gridX_modifyCellM h
    (fun r hr c hc _ hcc => cx_append ((rowGood_cells W (hinv.row_ok r hr)).cells_ok c hc) (h.1 r hr c hc) hs hcc) e

theorem gridX_colWrap (hinv : GridInv W g true) (hl : g.rows.length = g.size.rows) (h : GridX g) (width : Nat)
    (wrap : Bool) (hw : width ≤ g.size.cols) (e : g.colWrap width wrap = .ok g') : GridX g' := by
  cases (colWrap_spec hinv hl width wrap hw).1.symm.trans e
  split
  · exact h
  have h1 := C08lfri.lfClosed_keeps (g := { g with pos := { g.pos with col := 0 } }) (Q := GridX) gridP_same
    (fun s h => s.gridP rx_pred h) ((C08lfri.live_of_inv hinv hl).pos _) hinv.rows_u16 h
  exact cwClosed_cases wrap h1 fun _ =>
    ⟨fun r hr => (mem_flagRow hr).elim (h1.1 r) fun ⟨y, hy, e⟩ => e ▸ h1.1 y hy, h1.2⟩

theorem gridX_text {g g' : Grid} (hinv : GridInv W g true) (hl : g.rows.length = g.size.rows) (h : GridX g)
    {a : Attrs} (ha : attrsOk a = true) {c : Nat} (hs : isScalar c = true) (hc : c ≠ 0xFFFD)
    (e : g.text W a c = .ok g') : GridX g' := by
  refine C12.MPred.iff.mp (text_cases h fun wrap g1 hfits _ h1 => ?_) g' e
  have hx1 := gridX_colWrap hinv hl h _ wrap hfits h1
  obtain ⟨g1', e1', s1, _⟩ := colWrap_ok hinv hl (min ((W c).getD 1) 2) wrap hfits
  cases e1'.symm.trans h1
  exact ⟨fun _ => gridX_textZero s1.inv hx1 hs,
    fun _ => C12.MPred.iff.mpr fun g2 h2 g' hr hsb => gridP_same (gridP_modifyCurrentRow hx1
      (fun r r' hr hrr => allX_textWideRow (hx1.1 r hr) ha hs hc hrr) h2) hr hsb⟩

theorem gridX_setSize (h : GridX g) (sz : Size) (e : g.setSize sz = .ok g') : GridX g' := by
  obtain ⟨-, -, -, rfl⟩ := C16.setSize_iff.mp e
  exact ⟨C16.setSizeSpec_rows (fun r0 hr0 => ⟨allX_resize (h.1 r0 hr0) _, allX_resize (h.1 r0 hr0) _⟩) (allX_new _), h.2⟩

theorem gridX_clear (h : GridX g) (e : g.clear = .ok g') : GridX g' := by
  obtain ⟨b, _, e⟩ := bind_eq_ok.mp e
  cases e
  exact ⟨rx_map_clear attrsOk_default, h.2⟩

theorem gridX_allocateRows (h : GridX g) : GridX g.allocateRows := by
  unfold Grid.allocateRows
  split
  · exact ⟨fun r hr => (List.mem_replicate.mp hr).2 ▸ allX_new _, h.2⟩
  · exact h

theorem gridX_new {sz : Size} {n : Nat} (e : Grid.new sz n = .ok g) : GridX g := by
  obtain ⟨b, _, e⟩ := bind_eq_ok.mp e
  cases e
  exact ⟨fun _ hr => absurd hr List.not_mem_nil, fun _ hr => absurd hr List.not_mem_nil⟩

open Vt.C13 Vt.InvP

structure ScreenX (s : Screen) : Prop where
  pen : attrsOk s.attrs = true
  saved : attrsOk s.savedAttrs = true
  grid : GridX s.grid
  alt : GridX s.altGrid

theorem screenX_iff {s : Screen} : ScreenX s ↔ ScreenP (fun a => attrsOk a = true) GridX s :=
  ⟨fun h => ⟨h.pen, h.saved, h.grid, h.alt⟩, fun h => ⟨h.pen, h.saved, h.grid, h.alt⟩⟩

theorem ScreenX.cur {s : Screen} (h : ScreenX s) : GridX s.cur := (screenX_iff.mp h).cur

theorem same_of_total {g g' : Grid} (h : GridX g) (hr : g'.rows = g.rows) (hs : g'.scrollback = g.scrollback) : GridX g' :=
  gridP_same h hr hs

theorem gridX_colClampOf {g g0 g' : Grid} (h : GridX g) (h0 : g0.rows = g.rows ∧ g0.scrollback = g.scrollback)
    (e : g0.colClamp = .ok g') : GridX g' := by
  have := C12.colClamp_passes.rows e
  exact gridP_same h (by rw [this.1, h0.1]) (by rw [this.2, h0.2])

theorem setCur_attrs' (s : Screen) (g : Grid) : (s.setCur g).attrs = s.attrs ∧ (s.setCur g).savedAttrs = s.savedAttrs := by
  unfold Screen.setCur; split <;> exact ⟨rfl, rfl⟩

/-- erasing and printing write the pen, whose colours have to be bytes -/
theorem opsKeep_x : OpsKeep W (fun a => attrsOk a = true) GridX where
  penMono h hm := hm h
  penDefault := attrsOk_default
  same := gridP_same
  new := gridX_new
  allocateRows := gridX_allocateRows
  clear := gridX_clear
  setSize := fun sz h e => gridX_setSize h sz e
  lines := fun s h => s.gridP rx_pred h
  insertCells := fun n _ _ hi hl h e => gridX_insertCells hi hl h n e
  deleteCells := fun n _ _ hi hl h e => gridX_deleteCells hi hl h n e
  eraseRange := fun _ _ _ ha _ _ hrows hhi h e => gridX_eraseRange hrows h ha hhi e
  clearBelow := fun _ _ _ ha h => gridP_rows h fun r hr =>
    (List.mem_append.mp hr).elim (fun hr => h.1 r (List.mem_of_mem_take hr)) (rx_map_clear ha r)
  clearAbove := fun _ _ _ ha h => gridP_rows h fun r hr =>
    (List.mem_append.mp hr).elim (rx_map_clear ha r) fun hr => h.1 r (List.mem_of_mem_drop hr)
  eraseRow := fun ha _ _ _ _ h e => gridP_modifyCurrentRow h (fun r r' _ hrr => by cases hrr; exact allX_clear ha) e
  eraseAll := fun ha _ _ _ _ h e => by cases e; exact gridP_rows h (rx_map_clear ha)
  text := fun ha hs hc _ _ hi hl h e => gridX_text hi hl h ha hs hc e

theorem screenX_setSize {s s' : Screen} (h : ScreenX s) (r c : Nat) (e : s.setSize r c = .ok s') : ScreenX s' :=
  screenX_iff.mpr ((screenX_iff.mp h).setSize (fun sz h e => gridX_setSize h sz e) r c e)

def GoodX (ws : WS) : Prop := ScreenX ws.screen

def CbX (W : Nat → Option Nat) (cb : CbPolicy) : Prop :=
  ∀ e s s', EventOk e → ScreenInv W s → ScreenX s → cb e s = .ok s' → ScreenX s'

theorem CbX.keeps {cb : CbPolicy} (h : CbX W cb) : CbKeepsCond W (ScreenP (fun a => attrsOk a = true) GridX) cb :=
  fun e s s' he hs hx hc => screenX_iff.mp (h e s s' he hs (screenX_iff.mpr hx) hc)

theorem cbSizes_x {cb : CbPolicy} (h : CbSizes cb) : CbX W cb := cbSizes_keepsCond h fun r c h e => screenX_setSize h r c e

theorem cbNone_x : CbX W cbNone := cbSizes_x cbNone_sizes

theorem cbResize_x : CbX W cbResize := cbSizes_x cbResize_sizes

/-- `C13.StepT` for the condition `ScreenX` without the totality: only of a step that returns -/
def StepB (W : Nat → Option Nat) (f : WS → M WS) : Prop :=
  ∀ ws ws', Good W ws → GoodX ws → f ws = .ok ws' → Good W ws' ∧ GoodX ws'

theorem stepB_iff {f : WS → M WS} : StepB W f ↔ C12.WPred (fun s => ScreenInv W s ∧ ScreenX s) f :=
  ⟨fun h ws hp => C12.MPred.iff.mpr fun ws' e => h ws ws' hp.1 hp.2 e,
    fun h ws ws' hg hx e => C12.MPred.iff.mp (h ws ⟨hg, hx⟩) ws' e⟩

theorem stepB_sgr {unh : WS → M WS} (hunh : StepB W unh) (params : List (List Nat)) :
    StepB W (sgr unh params) := by
  rw [show sgr unh params = runSteps unh (sgrProg params) from funext (sgr_eq_run unh params)]
  refine stepB_iff.mpr (C12.WPred.steps fun st hst => stepB_iff.mp ?_)
  -- SGR calls `unh` or sets the pen, and puts nothing but byte colours there
  obtain rfl | ⟨t, rfl, ht⟩ := mem_sgrProg hst
  · exact hunh
  · intro ws ws' hg hx e
    cases e
    exact ⟨good_modAttrs hg t, ht _ hx.pen, hx.saved, hx.grid, hx.alt⟩

/-- **every reachable screen satisfies `Inv` and the per-cell conditions**: every history of
`process` / `set_size` / `set_scrollback` calls from `Parser::new`, any bytes, any chunking -/
theorem reachable_x (hW32 : W 32 = some 1) {cb : CbPolicy} (hcb : CbInv W cb) (hcx : CbX W cb)
    (rows cols sb : Nat) (hr : 1 ≤ rows) (hc : 1 ≤ cols) (hr' : rows ≤ 65535) (hc' : cols ≤ 65535)
    (ops : List Op) (hv : ∀ op ∈ ops, op.Valid) :
    ∃ p, (Parser.new rows cols sb >>= fun p0 => ops.foldlM (applyOp W cb) p0) = .ok p ∧ ParserInv W p ∧
      ScreenX p.ws.screen := by
  obtain ⟨p, e, hi, hx⟩ := reachable_keeps opsKeep_x hW32 hcb hcx.keeps rows cols sb hr hc hr' hc' ops hv
  exact ⟨p, e, hi, screenX_iff.mpr hx⟩

end Vt.InvX
