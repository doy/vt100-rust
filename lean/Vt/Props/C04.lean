/-
  C04 — the result is independent of how the byte stream is chunked.

  `process = foldM perform ∘ Vte.advance`, so chunk independence is a property of the vte
  model alone.
  * `write_eq_process`, `flush_noop` : `io::Write::write` is `process` and reports the whole
    buffer; `flush` is the identity.
  * `advance_nil`, `process_nil` : an empty chunk changes nothing (when no UTF-8 bytes are pending).
  * `F10_witness` : the known finding (vte's `advance_partial_utf8`): "C2 | 85 7A 8D" loses 'z'.
  * `F7_fixed` : "C2 85" and "C2 | 85" report the same event (finding F7, repaired in the crate by commit 19f83fe).
  The general theorems are in C04b (`advance_append`, `process_append`, `process_chunks`: every cut that leaves no
  partial character pending), MiscC04 (`process_chunks_utf8`: any chunking into valid UTF-8 pieces, escape
  sequences cut anywhere), C04cut (cuts inside a character: which of them lose input, F10) and C04write (`write_all`,
  `write_vectored`).  F10 needs no invalid byte: "C3 | A9 41 C3 A9" loses the 'A' (an `example` at the end of C04cut).
-/
import Vt.Spec.Obs
import Vt.Lemmas.Except
namespace Vt.C04

theorem write_eq_process (W : Nat → Option Nat) (cb : CbPolicy) (p : Parser) (bytes : List Nat) :
    p.write W cb bytes = (p.process W cb bytes >>= fun p' => pure (p', bytes.length)) := rfl

theorem flush_noop (p : Parser) : p.flush = .ok p := rfl

theorem advance_nil (v : Vte) (h : v.carry = []) : v.advance [] = (v, []) := by
  simp [Vte.advance, h, Vte.advanceLoop]

theorem process_nil (W : Nat → Option Nat) (cb : CbPolicy) (p : Parser) (h : p.vte.carry = []) :
    p.process W cb [] = .ok p := by
  simp [Parser.process, advance_nil _ h]

/-- F10 (known finding, in the dependency): "C2 | 85 7A 8D" prints U+0085 and drops 'z' -/
theorem F10_witness :
    ((Vte.new.advance [0xC2]).1.advance [0x85, 0x7A, 0x8D]).2 ≠ [] ∧
    (Vte.new.advance [0xC2, 0x85, 0x7A, 0x8D]).2 =
      [.execute 0x85, .print 0x7A, .execute 0x8D] ∧
    ((Vte.new.advance [0xC2]).1.advance [0x85, 0x7A, 0x8D]).2 =
      [.print 0x85, .execute 0x8D] := by
  decide +kernel

/-- F7 (fixed): split or not, "C2 85" is one `unhandled_control(0x85)` -/
theorem F7_fixed : isOkTrue (do
    let p ← Parser.new 2 2 0
    let a ← p.process W0 cbNone [0xC2, 0x85]
    let b ← p.process W0 cbNone [0xC2]
    let b ← b.process W0 cbNone [0x85]
    pure (decide (a.ws = b.ws) && decide (a.ws.events = [.unhandledControl 0x85]))) = true := by
  decide +kernel

end Vt.C04
