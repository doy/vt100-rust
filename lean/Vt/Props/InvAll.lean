/-
  Vt.Props.InvAll — **`emitInv` is an invariant**: every screen reachable through the public API satisfies the
  Boolean `emitInvB` (= `Inv` ∧ `Inv⁺` ∧ the emitter side conditions) that the redraw theorems C01 / C15 assume.
  `reachable_all` joins `reachable_x` (InvX) and `reachable_f` (InvF), each of which gives `Inv` as well: two runs of
  `reachable_keeps` (InvPerform) over one history, which end in the same parser.  It keeps the three parts apart for
  the theorems about scrolled views (C01view, C15view), which draw history lines: `ScreenX` covers their cells,
  `gridEmitOk` evaluates the live lines only.
-/
import Vt.Props.InvF
namespace Vt.InvAll
open Vt Vt.C13 Vt.InvX Vt.InvF

variable {W : Nat → Option Nat}

theorem rowPlusOk_of {r : Row} (hx : AllX r.cells) (hf : RF r) : rowPlusOk r = true := by
  simp only [rowPlusOk, Bool.and_eq_true, Bool.or_eq_true, Bool.not_eq_true', List.all_eq_true, beq_iff_eq]
  refine ⟨?_, ?_⟩
  · cases hw : r.wrapped with
    | false => exact Or.inl rfl
    | true => exact Or.inr ((lastColOccupied_iff r).mpr (hf hw))
  · intro c hc
    have := hx c hc
    simp only [cx, Bool.and_eq_true, Bool.or_eq_true, Bool.not_eq_true', beq_iff_eq] at this
    exact this.1.2

theorem gridPlusOk_of {g : Grid} (hx : GridX g) (hf : GridF g) : gridPlusOk g = true := by
  simp only [gridPlusOk, Bool.and_eq_true, List.all_eq_true]
  refine ⟨⟨fun r hr => rowPlusOk_of (hx.1 r hr) (hf.1.1 r hr), fun r hr => rowPlusOk_of (hx.2 r hr) (hf.1.2 r hr)⟩, ?_⟩
  cases hl : g.rows.getLast? with
  | none => rfl
  | some r => simp [hf.2 r hl]

theorem rowEmitOk_of {cols : Nat} {r : Row} (hok : rowOk W r = true) (hlen : r.cells.length = cols) (hx : AllX r.cells) :
    rowEmitOk W cols r = true := by
  simp only [rowEmitOk, List.all_eq_true]
  intro p hp
  obtain ⟨c, i⟩ := p
  rw [List.mk_mem_zipIdx_iff_getElem?] at hp
  simp only
  have hinv := ((rowOk_iff W r).mp hok).2
  have hcm := List.mem_of_getElem? hp
  have hcok := hinv.cells_ok c hcm
  refine cellEmitOk_of_cx (hx c hcm) ?_ ?_
  · intro _
    have hi := getElem?_lt hp
    by_cases hw : c.wide = true
    · obtain ⟨d, hd, _⟩ := paired_wide_next hp hinv.paired hw
      have := getElem?_lt hd
      simp only [hw, ↓reduceIte]; omega
    · simp only [hw, Bool.false_eq_true, ↓reduceIte]; omega
  · intro f zs hcs
    exact (cellOk_chars W hcok hcs).2.1

theorem gridEmitOk_of {g : Grid} {un : Bool} (hinv : GridInv W g un) (hx : GridX g) : gridEmitOk W g = true := by
  simp only [gridEmitOk, List.all_eq_true]
  intro r hr
  exact rowEmitOk_of (hinv.row_ok r hr).2 (hinv.row_ok r hr).1 (hx.1 r hr)

/-- the three parts give the Boolean the checks evaluate -/
theorem emitInvB_of {s : Screen} (hi : ScreenInv W s) (hx : ScreenX s) (hf : ScreenF s) : emitInvB W s = true := by
  simp only [emitInvB, invPlusB, Bool.and_eq_true]
  exact ⟨⟨⟨⟨⟨(inv_iff W s).mpr hi, gridPlusOk_of hx.grid hf.grid⟩, gridPlusOk_of hx.alt hf.alt⟩,
    gridEmitOk_of hi.grid hx.grid⟩, gridEmitOk_of hi.alt hx.alt⟩, hx.pen⟩

theorem reachable_all (hW32 : W 32 = some 1) {cb : CbPolicy} (hcb : CbInv W cb) (hcx : CbX W cb) (hcf : CbF W cb)
    (rows cols sb : Nat) (hr : 1 ≤ rows) (hc : 1 ≤ cols) (hr' : rows ≤ 65535) (hc' : cols ≤ 65535)
    (ops : List Op) (hv : ∀ op ∈ ops, op.Valid) :
    ∃ p, (Parser.new rows cols sb >>= fun p0 => ops.foldlM (applyOp W cb) p0) = .ok p ∧ ParserInv W p ∧
      ScreenX p.ws.screen ∧ ScreenF p.ws.screen := by
  obtain ⟨p, e, hi, hx⟩ := reachable_x hW32 hcb hcx rows cols sb hr hc hr' hc' ops hv
  obtain ⟨p', e', _, hf⟩ := reachable_f hW32 hcb hcf rows cols sb hr hc hr' hc' ops hv
  obtain rfl : p' = p := by rw [e] at e'; exact (Except.ok.inj e').symm
  exact ⟨p', e, hi, hx, hf⟩

/-- **every reachable screen satisfies `emitInv`**: every history of `process` / `set_size` / `set_scrollback`
calls from `Parser::new` (sizes 1..65535, any capacity, any bytes, any chunking), for every callback policy that
keeps the three parts (e.g. none, or a resize callback calling `set_size`) -/
theorem reachable_emitInv (hW32 : W 32 = some 1) {cb : CbPolicy} (hcb : CbInv W cb) (hcx : CbX W cb) (hcf : CbF W cb)
    (rows cols sb : Nat) (hr : 1 ≤ rows) (hc : 1 ≤ cols) (hr' : rows ≤ 65535) (hc' : cols ≤ 65535)
    (ops : List Op) (hv : ∀ op ∈ ops, op.Valid) :
    ∃ p, (Parser.new rows cols sb >>= fun p0 => ops.foldlM (applyOp W cb) p0) = .ok p ∧ ParserInv W p ∧
      emitInvB W p.ws.screen = true := by
  obtain ⟨p, e, hi, hx, hf⟩ := reachable_all hW32 hcb hcx hcf rows cols sb hr hc hr' hc' ops hv
  exact ⟨p, e, hi, emitInvB_of hi.screen hx hf⟩

/-- the callback policies of the model keep all three parts (`cbProbe`: `CbProbe.cbProbe_all`) -/
theorem cbNone_all : CbInv W cbNone ∧ CbX W cbNone ∧ CbF W cbNone := ⟨cbNone_inv, cbNone_x, cbNone_f⟩
theorem cbResize_all : CbInv W cbResize ∧ CbX W cbResize ∧ CbF W cbResize := ⟨cbResize_inv, cbResize_x, cbResize_f⟩

end Vt.InvAll
