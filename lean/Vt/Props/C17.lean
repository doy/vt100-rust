/-
  C17 — RIS (ESC c) is indistinguishable from a newly constructed parser.

  Here the action (`ris_fresh_screen`: equality of the entire screen state with `Screen::new(size, scrollback_len)`, no
  event, the callback log untouched) and the bytes from a `Ground` automaton with no pending UTF-8 bytes; every other
  automaton state and "every later input" are C17any.
-/
import Vt.Model.Perform
import Vt.Lemmas.Except
import Vt.Lemmas.VteFeed
namespace Vt.C17
open Vt

/-- `ESC c`: the whole screen is replaced by a new one of the current size and capacity -/
theorem ris_fresh_screen (W : Nat → Option Nat) (cb : CbPolicy) (ws : WS) :
    perform W cb ws (.escDispatch [] false 99) =
      (Screen.new ws.screen.grid.size ws.screen.grid.scrollbackLen >>= fun s =>
        pure { ws with screen := s }) := by
  simp [perform, performEsc, WS.onScreen, Screen.ris]

theorem new_ok (size : Size) (sb : Nat) (h : 1 ≤ size.rows) : ∃ s, Screen.new size sb = .ok s := by
  simp [Screen.new, Grid.new, subM, h]

theorem esc_c_ground (v : Vte) (hs : v.state = .ground) (hc : v.carry = []) :
    v.advance [0x1b, 0x63] =
      ({ v.resetParams with state := .ground }, [.escDispatch [] false 99]) := by
  rw [Vte.advance_eq_run hc, Vte.run_esc hs, Vte.run_nonground (by simp), Vte.run_nil]
  simp [Vte.changeState, Vte.advanceEsc, Vte.isC0Exec, Vte.escDispatch, Vte.resetParams]

theorem ris_process_ground (W : Nat → Option Nat) (cb : CbPolicy) (p : Parser)
    (hs : p.vte.state = .ground) (hc : p.vte.carry = []) (s0 : Screen)
    (hnew : Screen.new p.ws.screen.grid.size p.ws.screen.grid.scrollbackLen = .ok s0) :
    p.process W cb [0x1b, 0x63] =
      .ok { vte := { p.vte.resetParams with state := .ground },
            ws := { screen := s0, events := p.ws.events } } := by
  simp only [Parser.process, esc_c_ground p.vte hs hc, List.foldlM, ris_fresh_screen, hnew]
  rfl

/-- the OSC buffer is not reset: it is cleared on every entry to an OSC string, so what it holds elsewhere is never
read — though a literal comparison with `Vte.new` sees it (`C17any.needs_osc_clause`) -/
theorem ris_vte_reset (v : Vte) :
    ({ v.resetParams with state := .ground } : Vte).ints = [] ∧
    ({ v.resetParams with state := .ground } : Vte).params = [] ∧
    ({ v.resetParams with state := .ground } : Vte).cur = [] ∧
    ({ v.resetParams with state := .ground } : Vte).param = 0 ∧
    ({ v.resetParams with state := .ground } : Vte).ignoring = false := by
  simp [Vte.resetParams]

/-- in every non-ground state, the byte ESC leads to `Escape` with the parameters reset
(or stays in `Escape`), so the following 'c' is dispatched with no intermediates
whenever `ints = []` held in `Escape` — which is part of the invariant `C17any.VteClean` (`clean_advance`). -/
theorem esc_from_any (v : Vte) (hne : v.state ≠ .ground) (hesc : v.state = .escape → v.ints = []) :
    ∃ acts, (v.changeState 0x1b).2 = acts ∧ (v.changeState 0x1b).1.state = .escape ∧
      (v.changeState 0x1b).1.ints = [] ∧
      (∀ a ∈ acts, a = .unhook ∨ ∃ ps b, a = .oscDispatch ps b) := by
  refine ⟨_, rfl, ?_⟩
  rw [Vte.changeState_esc]
  split
  · exact absurd ‹_› hne
  · exact ⟨‹_›, hesc ‹_›, nofun⟩
  · exact ⟨rfl, rfl, fun a ha => .inr ⟨_, _, List.mem_singleton.mp ha⟩⟩
  · exact ⟨rfl, rfl, fun a ha => .inl (List.mem_singleton.mp ha)⟩
  · exact ⟨rfl, rfl, nofun⟩

/-- non-vacuity: RIS on a concrete dirty 2x3 screen gives the screen of `Parser::new 2 3 5` -/
example : isOkTrue (do
    let p ← Parser.new 2 3 5
    let p ← p.process (fun _ => some 1) cbNone [0x1b, 0x5b, 0x33, 0x31, 0x6d, 0x61, 0x1b, 0x5b, 0x3f, 0x31, 0x68]
    let p ← p.process (fun _ => some 1) cbNone [0x1b, 0x63]
    let f ← Parser.new 2 3 5
    pure (decide (p.ws.screen = f.ws.screen) && decide (p.ws.screen.attrs = Attrs.default))) = true := by
  decide +kernel

end Vt.C17
