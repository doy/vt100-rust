/-
  C08 (continued) — DCH and ICH: deleting / inserting `n` cells at the cursor, the exact result on every well-formed
  line.

  Both loops are followed on the line cut at the cursor, `A ++ Y`.
  DCH: one `Row::remove` blanks the other half of the wide pair through the deleted cell (`remove_cut`, from
  `C07.clearWide_cut`), so after `k + 1` of them `A` and what is left of `Y` meet, each blanked at the seam if a pair
  was split there (`removeLoop_cut`, in terms of `C07.cutLast` / `C07.cutHead`). The loop asks only that the line be well
  linked (`Links`) and keeps it so; each cell left is a cell of the line, possibly blanked (`mem_dchAt`), hence well formed.
  `dchAt cs col k` is that list read cell by cell (`col + k ≤ cols`):
    * the cells left of the cursor are untouched, except that the first half of a wide character whose second
      half is the first deleted cell is blanked (keeping its attributes);
    * the cells from `col + k` on move left by `k`; if the first of them is the second half of a wide character
      whose first half was deleted it is blanked;
    * `k` default blank cells fill the end of the line (`Row::resize`); the line's wrap flag is cleared.
  ICH: the loop of `insert_cells` puts `k` blanks between the two parts of the line (`insertLoop_plain`,
  `insertLoop_cont` when the cursor is on the second half of a wide character); `ichAt` is that list read cell by
  cell (`ichAt_three`) and is well formed if the line was (`cellsInv_inserted`); `insertCells_run` adds the cut back to the
  width, so that totality and `Inv` (GridTotal) are read off it as well.  Namespace `Vt.C08`.
-/
import Vt.Props.C07b
namespace Vt.C08
open Vt

variable {W : Nat → Option Nat}
open Vt.C07 (cutLast cutHead getElem?_cutHead clearWide_cut)

/-- what `Row::clear_wide` leaves of the other half of a split wide pair: a blank with the cell's own attributes -/
def clearSelf (c : Cell) : Cell := c.clear c.attrs

theorem remove_cut {A Y : List Cell} {c : Cell} (h : Links (A ++ c :: Y)) (w : Bool) :
    Row.remove ⟨A ++ c :: Y, w⟩ A.length = .ok ⟨cutLast c.cont A ++ cutHead Y, false⟩ ∧
      Links (cutLast c.cont A ++ cutHead Y) := by
  refine ⟨?_, ?_⟩
  · simp [Row.remove, clearWide_cut h, removeM, List.eraseIdx_append_of_length_le]
  · rw [C07.cutHead_eq h.split.2.1]
    exact h.cut noFlags_clear_self noFlags_clear_self noFlags_clear_self []

theorem removeLoop_cut : ∀ (k : Nat) {A Y : List Cell} (w : Bool), Links (A ++ Y) → k < Y.length →
    iterateM (k + 1) (fun (r : Row) => r.remove A.length) ⟨A ++ Y, w⟩ =
        .ok ⟨cutLast (cellFlag (·.cont) Y 0) A ++ cutHead (Y.drop (k + 1)), false⟩ ∧
      Links (cutLast (cellFlag (·.cont) Y 0) A ++ cutHead (Y.drop (k + 1)))
  | _, _, [], _, _, hk => by cases hk
  | 0, A, c :: Y, w, h, _ => by
    obtain ⟨e, hci⟩ := remove_cut h w
    exact ⟨by rw [iterateM, e]; rfl, hci⟩
  | k + 1, A, c :: Y, w, h, hk => by
    obtain ⟨e, hci⟩ := remove_cut h w
    have h0 : cellFlag (·.cont) (cutHead Y) 0 = false := by
      cases Y with
      | nil => rfl
      | cons d Y => cases hd : d.cont <;> simp [cutHead, cellFlag, hd, Cell.clear]
    have := removeLoop_cut k (A := cutLast c.cont A) (Y := cutHead Y) false hci (by simpa [cutHead] using hk)
    rw [length_cutLastF, h0, cutHead, List.drop_modifyHead_of_pos (by omega)] at this
    rw [iterateM, e, ok_bind]
    exact this

/-- one `Row::remove` on a well-formed line, cell by cell: `L` is the line with the other half of a wide pair through cell `i`
blanked.  The loop below does not go through it: it stays on the cut line (`remove_cut`). -/
theorem remove_eq {r : Row} {i : Nat} {c : Cell} (hinv : CellsInv W r.cells) (hc : r.cells[i]? = some c) :
    ∃ L : List Cell, r.remove i = .ok ⟨L.eraseIdx i, false⟩ ∧ L.length = r.cells.length ∧
      ∀ j, L[j]? = r.cells[j]?.map (fun x =>
        if j = i + 1 ∧ c.wide = true then clearSelf x
        else if j + 1 = i ∧ c.wide = false ∧ c.cont = true then clearSelf x else x) := by
  obtain ⟨cs, w⟩ := r
  obtain ⟨A, Y, rfl, rfl⟩ := decomp1 hc
  have hl : (cutLast c.cont A).length = A.length := length_cutLastF ..
  obtain ⟨-, hY, hex⟩ := hinv.links.split
  refine ⟨cutLast c.cont A ++ c :: cutHead Y, ?_, by simp [cutHead], fun j => ?_⟩
  · rw [List.eraseIdx_append_of_length_le (Nat.le_of_eq hl), hl, Nat.sub_self]
    exact (remove_cut hinv.links w).1
  · have hex : c.wide = false ∧ c.cont = true ↔ c.cont = true := ⟨And.right, fun h => ⟨hex c (by simp) h, h⟩⟩
    rw [List.getElem?_append, hl, getElem?_cutLastF, List.getElem?_append]
    by_cases h : j < A.length
    · simp only [if_pos h, hex, show ¬ j = A.length + 1 by omega, false_and, if_false, clearSelf]
    · obtain ⟨n, rfl⟩ := Nat.exists_eq_add_of_le (Nat.le_of_not_lt h)
      rw [if_neg h, if_neg h, Nat.add_sub_cancel_left]
      cases n with
      | zero => simp
      | succ n =>
        rw [List.getElem?_cons_succ, List.getElem?_cons_succ, getElem?_cutHead]
        simp only [show ¬ A.length + (n + 1) + 1 = A.length by omega, false_and, if_false, Nat.add_left_cancel_iff,
          Nat.add_eq_right]
        cases n with
        | succ n => simp
        | zero =>
          cases Y with
          | nil => rfl
          | cons d Y => simp [(pairThrough_cons.mp hY).1, clearSelf]

/-- the cell at column `j` after `k` deletions at `col` (before the line is padded again) -/
def dchAt (cs : List Cell) (col k j : Nat) : Option Cell :=
  if j < col then
    cs[j]?.map (fun x => if j + 1 = col ∧ 1 ≤ k ∧ (cs[col]?.map (·.cont)).getD false = true then clearSelf x else x)
  else
    cs[j + k]?.map (fun x => if j = col ∧ 1 ≤ k ∧ x.cont = true then clearSelf x else x)

theorem dchAt_zero (cs : List Cell) (col j : Nat) : dchAt cs col 0 j = cs[j]? := by
  unfold dchAt; split <;> simp

theorem dchAt_cut (A Y : List Cell) (k j : Nat) :
    dchAt (A ++ Y) A.length (k + 1) j = (cutLast (cellFlag (·.cont) Y 0) A ++ cutHead (Y.drop (k + 1)))[j]? := by
  rw [List.getElem?_append, length_cutLastF, getElem?_cutLastF, getElem?_cutHead, dchAt]
  by_cases h : j < A.length
  · rw [if_pos h, if_pos h, List.getElem?_append_left h, List.getElem?_append_right (Nat.le_refl _), Nat.sub_self]
    simp [cellFlag]
    rfl
  · obtain ⟨n, rfl⟩ := Nat.exists_eq_add_of_le (Nat.le_of_not_lt h)
    rw [if_neg h, if_neg h, List.getElem?_drop, Nat.add_assoc, List.getElem?_append_right (Nat.le_add_right ..),
      Nat.add_sub_cancel_left, Nat.add_sub_cancel_left, Nat.add_comm n]
    simp [clearSelf]

theorem mem_dchAt {cs : List Cell} {col k j : Nat} {x : Cell} (h : dchAt cs col k j = some x) :
    ∃ c ∈ cs, x = c ∨ x = clearSelf c := by
  unfold dchAt at h
  split at h <;> obtain ⟨c, hc, rfl⟩ := Option.map_eq_some_iff.mp h <;> refine ⟨c, List.mem_of_getElem? hc, ?_⟩ <;>
    split <;> simp

/-- DCH's loop on a well-formed line, cell by cell (`dchAt`): `removeLoop_cut` taken off the cut, with `CellsInv` kept -/
theorem remove_loop {cs : List Cell} (hinv : CellsInv W cs) (w : Bool) (col : Nat) :
    ∀ k, col + k ≤ cs.length →
      ∃ L wk, iterateM k (fun (r : Row) => r.remove col) ⟨cs, w⟩ = .ok ⟨L, wk⟩ ∧ CellsInv W L ∧
        L.length = cs.length - k ∧ (∀ j, L[j]? = dchAt cs col k j) ∧ wk = (if k = 0 then w else false) := by
  intro k hk
  cases k with
  | zero => exact ⟨cs, w, rfl, hinv, rfl, fun j => (dchAt_zero cs col j).symm, rfl⟩
  | succ k =>
    obtain ⟨A, Y, rfl, rfl⟩ : ∃ A Y, cs = A ++ Y ∧ col = A.length :=
      ⟨cs.take col, cs.drop col, (List.take_append_drop col cs).symm, by rw [List.length_take]; omega⟩
    rw [List.length_append] at hk
    obtain ⟨e, hl⟩ := removeLoop_cut k w hinv.links (by omega)
    refine ⟨_, _, e, ⟨fun x hx => ?_, hl.paired⟩, ?_, fun j => (dchAt_cut A Y k j).symm, rfl⟩
    · obtain ⟨j, hj⟩ := List.getElem?_of_mem hx
      rw [← dchAt_cut] at hj
      obtain ⟨c, hc, e | e⟩ := mem_dchAt hj <;> rw [e]
      · exact hinv.cells_ok c hc
      · exact cellOk_clear W c c.attrs (hinv.cells_ok c hc)
    · rw [List.length_append, length_cutLastF, cutHead, List.length_modifyHead, List.length_drop, List.length_append]
      omega

/-- the cursor line replaced (`C08lfri.withRow` in Props/C08grid is another thing: the cursor moved to a row) -/
def withRow (g : Grid) (r : Row) : Grid := { g with rows := g.rows.set g.pos.row r }

/-- DCH n: what `deleteCells_eq` states, and the new cursor line is well formed -/
theorem deleteCells_run {g : Grid} (hinv : GridInv W g true) (hl : g.rows.length = g.size.rows) (n : Nat) :
    ∃ r L, g.rows[g.pos.row]? = some r ∧ L.length = g.size.cols - min n (g.size.cols - g.pos.col) ∧
      (∀ j, L[j]? = dchAt r.cells g.pos.col (min n (g.size.cols - g.pos.col)) j) ∧
      CellsInv W (L ++ List.replicate (min n (g.size.cols - g.pos.col)) Cell.new) ∧
      g.deleteCells n = .ok (withRow g ⟨L ++ List.replicate (min n (g.size.cols - g.pos.col)) Cell.new, false⟩) := by
  obtain ⟨⟨cs, w⟩, hrow, hci, hlen, hpc, -, -⟩ := C07.curLine_of_inv hinv hl
  have hkle : min n (g.size.cols - g.pos.col) ≤ g.size.cols - g.pos.col := Nat.min_le_right ..
  generalize hk : min n (g.size.cols - g.pos.col) = k at hkle ⊢
  obtain ⟨L, wk, e, hciL, hLlen, hLpt, _⟩ := remove_loop hci w g.pos.col k (hlen ▸ Nat.add_le_of_le_sub' hpc hkle)
  rw [hlen] at hLlen
  have hres := resize_blanks hciL.links wk k
  rw [hLlen, Nat.sub_add_cancel (Nat.le_trans hkle (Nat.sub_le ..))] at hres
  refine ⟨⟨cs, w⟩, L, hrow, hLlen, hLpt, hciL.append (cellsInv_replicate_new W k), ?_⟩
  simp only [Grid.deleteCells, Grid.modifyCurrentRow, modifyM, hrow, subM_ok hpc, ok_bind, hk, e, hres,
    pure_eq_ok, withRow]

/-- **C08, DCH n**: `k = min n (cols - col)` cells are deleted at the cursor: the cursor line becomes
`L ++ k default blanks` with `L` given cell by cell by `dchAt` and its wrap flag cleared; nothing else in the grid
changes -/
theorem deleteCells_eq {g : Grid} (hinv : GridInv W g true) (hl : g.rows.length = g.size.rows) (n : Nat) :
    ∃ r L, g.rows[g.pos.row]? = some r ∧ L.length = g.size.cols - min n (g.size.cols - g.pos.col) ∧
      (∀ j, L[j]? = dchAt r.cells g.pos.col (min n (g.size.cols - g.pos.col)) j) ∧
      g.deleteCells n = .ok (withRow g ⟨L ++ List.replicate (min n (g.size.cols - g.pos.col)) Cell.new, false⟩) :=
  let ⟨r, L, h1, h2, h3, _, h4⟩ := deleteCells_run hinv hl n
  ⟨r, L, h1, h2, h3, h4⟩

/-- the cell at column `j` after `k` insertions at `col` (before the line is cut back to its width); `wide` = the
cursor was on the second half of a wide character (the local `wide` of `Grid::insert_cells`), whose flag is
handed to the first inserted blank -/
def ichAt (cs : List Cell) (col k : Nat) (wide : Bool) (j : Nat) : Option Cell :=
  if j < col then cs[j]?
  else if j < col + k then some (if j = col ∧ wide = true then Cell.new.setWideContinuation true else Cell.new)
  else (cs[j - k]?).map (fun x => if j - k = col ∧ wide = true ∧ 1 ≤ k then x.setWideContinuation false else x)

theorem mem_ichAt {cs : List Cell} {col k j : Nat} {wide : Bool} {x : Cell} (h : ichAt cs col k wide j = some x) :
    (∃ c ∈ cs, x = c ∨ x = c.setWideContinuation false) ∨ x = Cell.new ∨ x = Cell.new.setWideContinuation true := by
  unfold ichAt at h
  split at h
  · exact Or.inl ⟨x, List.mem_of_getElem? h, Or.inl rfl⟩
  · split at h
    · cases h; split
      · exact Or.inr (Or.inr rfl)
      · exact Or.inr (Or.inl rfl)
    · obtain ⟨c, hc, rfl⟩ := Option.map_eq_some_iff.mp h
      refine Or.inl ⟨c, List.mem_of_getElem? hc, ?_⟩
      split
      · exact Or.inr rfl
      · exact Or.inl rfl

theorem insertStep_plain (A X : List Cell) (w : Bool) :
    Grid.insertStep false A.length ⟨A ++ X, w⟩ = .ok ⟨A ++ Cell.new :: X, false⟩ := by
  simp [Grid.insertStep, Row.insert, insertM]

theorem insertStep_cont (A X : List Cell) (c : Cell) (w : Bool) :
    Grid.insertStep true A.length ⟨A ++ c :: X, w⟩ =
      .ok ⟨A ++ Cell.new.setWideContinuation true :: c.setWideContinuation false :: X, false⟩ := by
  simp [Grid.insertStep, Row.insert, insertM, modifyM]

theorem insertLoop_plain (A : List Cell) : ∀ (k : Nat) (X : List Cell) (w : Bool),
    iterateM k (Grid.insertStep false A.length) ⟨A ++ X, w⟩ =
      .ok ⟨A ++ (List.replicate k Cell.new ++ X), if k = 0 then w else false⟩
  | 0, X, w => rfl
  | k + 1, X, w => by
    rw [iterateM, insertStep_plain, ok_bind, insertLoop_plain A k, List.replicate_succ', List.append_assoc]
    simp

/-- after the first step the cell under the cursor is the inserted blank carrying the flag: every further step
hands the flag to a new blank and leaves a plain blank behind -/
theorem insertLoop_cont (A : List Cell) (c : Cell) : ∀ (k : Nat) (X : List Cell) (w : Bool),
    iterateM (k + 1) (Grid.insertStep true A.length) ⟨A ++ c :: X, w⟩ =
      .ok ⟨A ++ Cell.new.setWideContinuation true :: (List.replicate k Cell.new ++ c.setWideContinuation false :: X), false⟩
  | 0, X, w => by rw [iterateM, insertStep_cont]; rfl
  | k + 1, X, w => by
    rw [iterateM, insertStep_cont, ok_bind, insertLoop_cont A _ k, List.replicate_succ', List.append_assoc]
    rfl

/-- `ichAt` read off a line in three parts: `M` the `k` inserted cells, `X'` the part from the cursor on -/
theorem ichAt_three {A X M X' : List Cell} {k : Nat} {wide : Bool} (hMl : M.length = k)
    (hM : ∀ i, i < k → M[i]? = some (if i = 0 ∧ wide = true then Cell.new.setWideContinuation true else Cell.new))
    (hX : ∀ i, X'[i]? = X[i]?.map fun x => if i = 0 ∧ wide = true ∧ 1 ≤ k then x.setWideContinuation false else x)
    (j : Nat) : (A ++ (M ++ X'))[j]? = ichAt (A ++ X) A.length k wide j := by
  rw [ichAt]
  by_cases h : j < A.length
  · rw [if_pos h, List.getElem?_append_left h, List.getElem?_append_left h]
  · obtain ⟨n, rfl⟩ := Nat.exists_eq_add_of_le (Nat.le_of_not_lt h)
    rw [if_neg h, List.getElem?_append_right (Nat.le_add_right ..), Nat.add_sub_cancel_left]
    by_cases h2 : n < k
    · rw [if_pos (by omega), List.getElem?_append_left (hMl ▸ h2), hM n h2]
      simp
    · obtain ⟨m, rfl⟩ := Nat.exists_eq_add_of_le (Nat.le_of_not_lt h2)
      rw [if_neg (by omega), List.getElem?_append_right (by omega), hMl, Nat.add_sub_cancel_left, hX,
        show A.length + (k + m) - k = A.length + m by omega, List.getElem?_append_right (Nat.le_add_right ..),
        Nat.add_sub_cancel_left]
      simp

/-- the blanks go in where the pairing carries no flag, or between the two halves of a wide character, the first of them
becoming its second half -/
theorem cellsInv_inserted {A X : List Cell} (h : CellsInv W (A ++ X)) (k : Nat) :
    (cellFlag (·.cont) X 0 = false → CellsInv W (A ++ (List.replicate k Cell.new ++ X))) ∧
      ∀ c X', X = c :: X' → c.cont = true → CellsInv W (A ++ Cell.new.setWideContinuation true ::
        (List.replicate k Cell.new ++ c.setWideContinuation false :: X')) := by
  obtain ⟨hokA, hokX⟩ := cellsInv_of_append W h
  obtain ⟨hA, hX⟩ := pairThrough_seam h.paired
  refine ⟨fun hp => ?_, ?_⟩
  · rw [hp] at hA hX
    exact (CellsInv.mk hokA hA).append ((cellsInv_replicate_new W k).append ⟨hokX, hX⟩)
  · rintro c X rfl hc
    rw [show cellFlag (·.cont) (c :: X) 0 = true from hc] at hA hX
    have h1 : CellsInv W (A ++ [Cell.new.setWideContinuation true]) :=
      ⟨fun x hx => (List.mem_append.mp hx).elim (hokA x) fun hx => List.mem_singleton.mp hx ▸ cellOk_blank_cont W,
        by rw [pairThrough_append, hA]; rfl⟩
    have h2 : CellsInv W (c.setWideContinuation false :: X) :=
      ⟨fun x hx => (List.mem_cons.mp hx).elim (fun e => e ▸ cellOk_uncont W (hokX c (List.mem_cons_self ..)) hc)
          fun hx => hokX x (List.mem_cons_of_mem _ hx),
        pairThrough_cons.mpr ⟨rfl, (pairThrough_cons.mp hX).2⟩⟩
    simpa using h1.append ((cellsInv_replicate_new W k).append h2)

/-- after `k` steps the line is `ichAt`, whatever the line; it is well formed if the line was and the flag handed over is
that of the cursor cell -/
theorem insertLoop_run (cs : List Cell) (w : Bool) (col : Nat) (wide : Bool) (hcol : col ≤ cs.length)
    (hw : wide = true → col < cs.length) :
    ∀ k, ∃ L wk, iterateM k (Grid.insertStep wide col) ⟨cs, w⟩ = .ok ⟨L, wk⟩ ∧ L.length = cs.length + k ∧
      (∀ j, L[j]? = ichAt cs col k wide j) ∧ wk = (if k = 0 then w else false) ∧
      ∀ W, CellsInv W cs → cellFlag (·.cont) cs col = wide → CellsInv W L := by
  intro k
  obtain ⟨A, X, rfl, rfl⟩ : ∃ A X, cs = A ++ X ∧ col = A.length :=
    ⟨cs.take col, cs.drop col, (List.take_append_drop col cs).symm, by simp [List.length_take, hcol]⟩
  rw [cellFlag_append_length]
  cases wide with
  | false =>
    exact ⟨_, _, insertLoop_plain A k X w, by simp; omega,
      ichAt_three List.length_replicate (fun i hi => by simp [hi]) (fun i => by simp), rfl,
      fun _ h => (cellsInv_inserted h k).1⟩
  | true =>
    obtain ⟨c, X, rfl⟩ : ∃ c X', X = c :: X' := by
      cases X with
      | nil => have := hw rfl; simp at this
      | cons c X' => exact ⟨c, X', rfl⟩
    cases k with
    | zero => exact ⟨_, _, rfl, rfl, ichAt_three (M := []) rfl (fun i hi => by omega) (fun i => by simp), rfl, fun _ h _ => h⟩
    | succ k =>
      refine ⟨_, _, insertLoop_cont A c k X w, by simp; omega,
        ichAt_three (M := Cell.new.setWideContinuation true :: List.replicate k Cell.new) (by simp) (fun i hi => ?_)
          (fun i => ?_), rfl, fun _ h => (cellsInv_inserted h k).2 c X rfl⟩
      · cases i with
        | zero => rfl
        | succ i => simp [show i < k by omega]
      · cases i <;> simp

/-- **the insertion loop**: after `k` steps the line is `ichAt` — no assumption on the line beyond its length -/
theorem insert_loop (cs : List Cell) (w : Bool) (col : Nat) (wide : Bool) (hcol : col ≤ cs.length)
    (hw : wide = true → col < cs.length) :
    ∀ k, ∃ L wk, iterateM k (Grid.insertStep wide col) ⟨cs, w⟩ = .ok ⟨L, wk⟩ ∧ L.length = cs.length + k ∧
      (∀ j, L[j]? = ichAt cs col k wide j) ∧ wk = (if k = 0 then w else false) := fun k =>
  let ⟨L, wk, h1, h2, h3, h4, _⟩ := insertLoop_run cs w col wide hcol hw k
  ⟨L, wk, h1, h2, h3, h4⟩

/-- ICH n: what `insertCells_eq` states, and the new cursor line is well formed -/
theorem insertCells_run {g : Grid} (hinv : GridInv W g true) (hl : g.rows.length = g.size.rows) (n : Nat) :
    ∃ r L, g.rows[g.pos.row]? = some r ∧ L.length = g.size.cols ∧
      (∀ j, L[j]? = if j < g.size.cols then
          (ichAt r.cells g.pos.col (min n g.size.cols)
            (decide (g.pos.col < g.size.cols) && ((r.cells[g.pos.col]?).map (·.cont)).getD false) j).map
            (fun x => if j + 1 = g.size.cols ∧ x.wide = true then clearSelf x else x)
        else none) ∧
      CellsInv W L ∧ g.insertCells n = .ok (withRow g ⟨L, false⟩) := by
  obtain ⟨⟨cs, w⟩, hrow, hci, hlen, hpc, hcp, -⟩ := C07.curLine_of_inv hinv hl
  dsimp only at hlen hci ⊢
  generalize hwide : (decide (g.pos.col < g.size.cols) && ((cs[g.pos.col]?).map (·.cont)).getD false) = wide
  generalize hk : min n g.size.cols = k
  obtain ⟨L0, wk, e, hL0len, hL0pt, -, hkeep⟩ := insertLoop_run cs w g.pos.col wide (hlen ▸ hpc) (by
    intro hw
    rw [← hwide, Bool.and_eq_true, decide_eq_true_eq] at hw
    exact hlen ▸ hw.1) k
  -- cut back to the width, blank a wide last cell
  have hle : g.size.cols ≤ L0.length := by rw [hL0len, hlen]; exact Nat.le_add_right ..
  have hcut : (L0.take g.size.cols).length = g.size.cols := by rw [List.length_take]; exact Nat.min_eq_left hle
  have htr := truncate_eq (r := ⟨L0, wk⟩) hcp hle
  -- the flag handed over is that of the cursor cell (none in the pending-wrap column)
  have hci0 : CellsInv W L0 := hkeep W hci (by
    rw [← hwide, cellFlag]
    by_cases hlt : g.pos.col < g.size.cols
    · simp [hlt]
    · simp [hlt, List.getElem?_eq_none (show cs.length ≤ g.pos.col by omega)])
  refine ⟨⟨cs, w⟩, blankLastWide (L0.take g.size.cols), hrow, by rw [length_blankLastWide, hcut], fun j => ?_,
    cellsInv_blankLastWide_take W hci0 hle, ?_⟩
  · rw [hwide, getElem?_blankLastWide, hcut, List.getElem?_take, hL0pt]
    by_cases hj : j < g.size.cols
    · rw [if_pos hj, if_pos hj]; rfl
    · rw [if_neg hj, if_neg hj]; rfl
  · by_cases hlt : g.pos.col < g.size.cols
    · have hcl : g.pos.col < cs.length := hlen ▸ hlt
      have hwv : cs[g.pos.col].isWideContinuation = wide := by
        rw [← hwide]; simp [hlt, List.getElem?_eq_getElem hcl, Cell.isWideContinuation]
      simp only [Grid.insertCells, hlt, ↓reduceIte, drawingCellM_of _ hrow (List.getElem?_eq_getElem hcl), hrow,
        ok_bind, hwv, Grid.modifyCurrentRow, modifyM, hk, e, htr, pure_eq_ok, withRow]
    · have hwf : wide = false := by rw [← hwide]; simp [hlt]
      rw [hwf] at e
      simp only [Grid.insertCells, hlt, ↓reduceIte, Grid.modifyCurrentRow, modifyM, hrow, ok_bind, hk, e, htr,
        pure_eq_ok, withRow]

/-- **C08, ICH n**: `k = min n cols` default blanks are inserted at the cursor (the first of them inherits the
continuation flag when the cursor was on the second half of a wide character, whose old second half becomes a
plain empty cell), the cells from the cursor on move right by `k`, what is pushed past the edge is dropped, a
wide character cut by the edge is blanked, the wrap flag is cleared; nothing else in the grid changes -/
theorem insertCells_eq {g : Grid} (hinv : GridInv W g true) (hl : g.rows.length = g.size.rows) (n : Nat) :
    ∃ r L, g.rows[g.pos.row]? = some r ∧ L.length = g.size.cols ∧
      (∀ j, L[j]? = if j < g.size.cols then
          (ichAt r.cells g.pos.col (min n g.size.cols)
            (decide (g.pos.col < g.size.cols) && ((r.cells[g.pos.col]?).map (·.cont)).getD false) j).map
            (fun x => if j + 1 = g.size.cols ∧ x.wide = true then clearSelf x else x)
        else none) ∧
      g.insertCells n = .ok (withRow g ⟨L, false⟩) :=
  let ⟨r, L, h1, h2, h3, _, h4⟩ := insertCells_run hinv hl n
  ⟨r, L, h1, h2, h3, h4⟩

end Vt.C08
