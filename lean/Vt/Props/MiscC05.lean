import Vt.Props.C05b
import Vt.Spec.Obs
/-
  MiscC05 — C05 at the Screen / action level (`perform_print_eq`), and the does-not-fit cases end to end: `wrapDecision_spec`,
  `colWrap_room` / `_stay` / `_scroll`, `text_after_wrap`, `text_fits_spec` composed into one closed form per case, for a character
  of width 1 or 2 with `col + w > cols`: `text_wrap_room`, `text_wrap_scroll` (region of ≥ 2 lines), `text_wrap_scroll1` (ONE-LINE
  region: no flag), `text_wrap_stay` (last line of the screen, outside the region: the flag is CLEARED), each with its
  `perform_print_*` corollary.  `one_line_region_loses_wrap_flag` records the one-line reading as a kernel-evaluated test; the
  `*_nonvacuous` tests show that the hypotheses of the cases are satisfiable.
-/
namespace Vt.MiscC05
open Vt Vt.C05

variable {W : Nat → Option Nat}

/-- the screen with its ACTIVE grid replaced (`*self.grid_mut() = g`) -/
def withCur (s : Screen) (g : Grid) : Screen :=
  if s.altScreen then { s with altGrid := g } else { s with grid := g }

theorem withCur_cur (s : Screen) (g : Grid) : (withCur s g).cur = g := by
  unfold withCur Screen.cur
  cases s.altScreen <;> simp

def setRP (g : Grid) (rows : List Row) (pos : Pos) : Grid := { g with rows := rows, pos := pos }

def setScreen (ws : WS) (s : Screen) : WS := { ws with screen := s }

theorem withCur_frame (s : Screen) (g : Grid) :
    (withCur s g).attrs = s.attrs ∧ (withCur s g).savedAttrs = s.savedAttrs ∧
    (withCur s g).altScreen = s.altScreen ∧ (withCur s g).hideCursor = s.hideCursor ∧
    (withCur s g).appKeypad = s.appKeypad ∧ (withCur s g).appCursor = s.appCursor ∧
    (withCur s g).bracketedPaste = s.bracketedPaste ∧ (withCur s g).mouseMode = s.mouseMode ∧
    (withCur s g).mouseEnc = s.mouseEnc ∧
    (s.altScreen = true → (withCur s g).grid = s.grid) ∧
    (s.altScreen = false → (withCur s g).altGrid = s.altGrid) := by
  unfold withCur
  cases s.altScreen <;> simp

/-- **C05 lift**: `Perform::print(c)` for `c` outside C1 and ≠ U+FFFD is `text` on the active grid
with the pen; only the active grid changes, nothing is reported, no callback runs. -/
theorem perform_print_eq (cb : CbPolicy) (ws : WS) (c : Nat) (hc1 : ¬ (0x80 ≤ c ∧ c < 0xA0))
    (hrep : c ≠ 0xFFFD) {g' : Grid} (h : ws.screen.cur.text W ws.screen.attrs c = .ok g') :
    perform W cb ws (.print c) = .ok (setScreen ws (withCur ws.screen g')) := by
  have h1 : (decide (0x80 ≤ c) && decide (c < 0xA0)) = false := by
    cases hh : (decide (0x80 ≤ c) && decide (c < 0xA0))
    · rfl
    · simp only [Bool.and_eq_true, decide_eq_true_eq] at hh; exact absurd hh hc1
  have h2 : (c == 0xFFFD) = false := by rw [beq_eq_false_iff_ne]; exact hrep
  simp only [perform, performPrint, h1, h2, Bool.false_eq_true, ↓reduceIte, WS.onScreen, Screen.text,
    modifyGrid_ok_of (f := fun g => g.text W ws.screen.attrs c) h, ok_bind, pure_eq_ok, setScreen]
  rfl

/-- **C05, a character that fits, action level**: `text_fits_spec` on the active grid; the event log, the pen, the modes and
the inactive grid are unchanged. -/
theorem perform_print_fits (cb : CbPolicy) (ws : WS) (hinv : Inv W ws.screen) (hW32 : W 32 = some 1)
    (c : Nat) (hc1 : ¬ (0x80 ≤ c ∧ c < 0xA0)) (hrep : c ≠ 0xFFFD) (hnc : ¬ (W c = none ∧ c < 256))
    (hw1 : 1 ≤ effWidth W c)
    (hfit : ws.screen.cur.pos.col + effWidth W c ≤ ws.screen.cur.size.cols) :
    ∃ r, ws.screen.cur.rows[ws.screen.cur.pos.row]? = some r ∧
      perform W cb ws (.print c) = .ok (setScreen ws (withCur ws.screen
        (setRP ws.screen.cur
          (ws.screen.cur.rows.set ws.screen.cur.pos.row
            (printedRow W r ws.screen.cur.pos.col ws.screen.cur.size.cols ws.screen.attrs c
              (decide (effWidth W c > 1))))
          ⟨ws.screen.cur.pos.row, ws.screen.cur.pos.col + effWidth W c⟩))) := by
  obtain ⟨hg, hl⟩ := ((inv_iff W _).mp hinv).cur
  obtain ⟨r, hr, ht⟩ := text_fits_spec hg hl hW32 ws.screen.attrs c hnc hw1 hfit
  exact ⟨r, hr, perform_print_eq cb ws c hc1 hrep ht⟩

/-- printing = `col_wrap` with the wrap decision, then a character that fits; the cases below instantiate `g1` -/
theorem text_via_colWrap {g : Grid} (hinv : GridInv W g true) (hl : g.rows.length = g.size.rows)
    (hW32 : W 32 = some 1) (a : Attrs) (c : Nat) (hnc : ¬ (W c = none ∧ c < 256))
    (hw1 : 1 ≤ effWidth W c) (hwc : effWidth W c ≤ g.size.cols) :
    ∃ r g1 r1, g.rows[g.pos.row]? = some r ∧
      g.colWrap (effWidth W c) (decide (g.pos.col + effWidth W c > g.size.cols) && lastOccB r) = .ok g1 ∧
      StepOk W g g1 ∧ g1.rows[g1.pos.row]? = some r1 ∧
      g.text W a c = .ok { g1 with
        rows := g1.rows.set g1.pos.row
          (printedRow W r1 g1.pos.col g.size.cols a c (decide (effWidth W c > 1)))
        pos := ⟨g1.pos.row, g1.pos.col + effWidth W c⟩ } := by
  obtain ⟨r, hr, hd⟩ := wrapDecision_spec hinv hl (effWidth W c) hwc
  obtain ⟨g1, hcw, hs, hcol⟩ := colWrap_ok hinv hl (effWidth W c)
    (decide (g.pos.col + effWidth W c > g.size.cols) && lastOccB r) hwc
  obtain ⟨r1, hr1, ht1⟩ := text_fits_spec hs.inv hs.len hW32 a c hnc hw1 hcol
  refine ⟨r, g1, r1, hr, hcw, hs, hr1, ?_⟩
  rw [text_after_wrap a c hnc hwc hd hcw hs.size hcol, ht1, hs.size]

/-- **C05, wrap with room below** (inside the scroll region above its bottom line, or outside it above the last line of the
screen): the line `r` the cursor leaves gets `wrapped := lastOccB r` — set iff its last column is occupied, CLEARED otherwise;
the character is printed at column 0 of the next line by `printedRow`; nothing else in the grid changes. -/
theorem text_wrap_room {g : Grid} (hinv : GridInv W g true) (hl : g.rows.length = g.size.rows)
    (hW32 : W 32 = some 1) (a : Attrs) (c : Nat) (hnc : ¬ (W c = none ∧ c < 256))
    (hw1 : 1 ≤ effWidth W c) (hwc : effWidth W c ≤ g.size.cols)
    (hno : g.pos.col + effWidth W c > g.size.cols)
    (hroom : g.pos.row + 1 ≤ (if g.inScrollRegion then g.scrollBottom else g.size.rows - 1)) :
    ∃ r r2, g.rows[g.pos.row]? = some r ∧ g.rows[g.pos.row + 1]? = some r2 ∧
      g.text W a c = .ok { g with
        rows := (g.rows.set g.pos.row (r.wrap (lastOccB r))).set (g.pos.row + 1)
          (printedRow W r2 0 g.size.cols a c (decide (effWidth W c > 1)))
        pos := ⟨g.pos.row + 1, effWidth W c⟩ } := by
  obtain ⟨r, g1, r1, hr, hcw, hs, hr1, ht⟩ := text_via_colWrap hinv hl hW32 a c hnc hw1 hwc
  obtain ⟨r', hr', hcw'⟩ := colWrap_room hinv hl (effWidth W c)
    (decide (g.pos.col + effWidth W c > g.size.cols) && lastOccB r) hwc hno hroom
  rw [hr] at hr'; cases hr'
  rw [hcw] at hcw'; cases hcw'
  simp only [decide_eq_true hno, Bool.true_and] at hr1 ht ⊢
  rw [List.getElem?_set_ne (by omega)] at hr1
  refine ⟨r, r1, hr, hr1, ?_⟩
  rw [ht]
  simp only [Nat.zero_add]

/-- **C05, wrap on the last line of the screen when it lies outside the scroll region**: nothing scrolls, the cursor returns
to column 0 of the SAME line, the line's wrap flag is cleared, and the character overprints column 0. -/
theorem text_wrap_stay {g : Grid} (hinv : GridInv W g true) (hl : g.rows.length = g.size.rows)
    (hW32 : W 32 = some 1) (a : Attrs) (c : Nat) (hnc : ¬ (W c = none ∧ c < 256))
    (hw1 : 1 ≤ effWidth W c) (hwc : effWidth W c ≤ g.size.cols)
    (hno : g.pos.col + effWidth W c > g.size.cols) (hin : g.inScrollRegion = false)
    (hlast : g.pos.row = g.size.rows - 1) :
    ∃ r, g.rows[g.pos.row]? = some r ∧
      g.text W a c = .ok { g with
        rows := g.rows.set g.pos.row
          (printedRow W (r.wrap false) 0 g.size.cols a c (decide (effWidth W c > 1)))
        pos := ⟨g.pos.row, effWidth W c⟩ } := by
  obtain ⟨r, g1, r1, hr, hcw, hs, hr1, ht⟩ := text_via_colWrap hinv hl hW32 a c hnc hw1 hwc
  obtain ⟨r', hr', hcw'⟩ := colWrap_stay hinv hl (effWidth W c)
    (decide (g.pos.col + effWidth W c > g.size.cols) && lastOccB r) hwc hno hin hlast
  rw [hr] at hr'; cases hr'
  rw [hcw] at hcw'; cases hcw'
  have hrl : g.pos.row < g.rows.length := by rw [hl]; exact hinv.pos_row
  simp only at hr1 ht
  rw [List.getElem?_set_self hrl] at hr1
  cases hr1
  refine ⟨r, hr, ?_⟩
  rw [ht]
  simp only [Nat.zero_add, List.set_set]

theorem scrollUp_one_bottom {g g' : Grid} (hb : g.scrollBottom < g.rows.length)
    (ht : g.scrollTop ≤ g.scrollBottom) (e : C12.scrollUpStep g = .ok g') :
    g'.rows[g.scrollBottom]? = some g.newRow := by
  rw [(C08.scrollUpStep_rows e).1, List.getElem?_eraseIdx_of_ge (by omega),
    List.getElem?_append_right (by simp [List.length_take]; omega)]
  simp [List.length_take, Nat.min_eq_left (Nat.succ_le_of_lt hb)]

/-- **C05, wrap on the bottom line of a scroll region of at least two lines**: the region scrolls by one line (`g1` = one
`scrollUpStep` of the grid with the cursor in column 0); the line `r` the cursor left is now line `bottom - 1` and gets
`wrapped := lastOccB r`; the character is printed at column 0 of the fresh blank bottom line. -/
theorem text_wrap_scroll {g : Grid} (hinv : GridInv W g true) (hl : g.rows.length = g.size.rows)
    (hW32 : W 32 = some 1) (a : Attrs) (c : Nat) (hnc : ¬ (W c = none ∧ c < 256))
    (hw1 : 1 ≤ effWidth W c) (hwc : effWidth W c ≤ g.size.cols)
    (hno : g.pos.col + effWidth W c > g.size.cols) (hin : g.inScrollRegion = true)
    (hbot : g.pos.row = g.scrollBottom) (htb : g.scrollTop < g.scrollBottom) :
    ∃ g1 r, C12.scrollUpStep ({ g with pos := ⟨g.pos.row, 0⟩ } : Grid) = .ok g1 ∧
      g.rows[g.pos.row]? = some r ∧ g1.rows[g.scrollBottom - 1]? = some r ∧
      g1.rows[g.scrollBottom]? = some g.newRow ∧
      g.text W a c = .ok { g1 with
        rows := (g1.rows.set (g.scrollBottom - 1) (r.wrap (lastOccB r))).set g.scrollBottom
          (printedRow W g.newRow 0 g.size.cols a c (decide (effWidth W c > 1)))
        pos := ⟨g.scrollBottom, effWidth W c⟩ } := by
  obtain ⟨r, g2, r2, hr, hcw, hs, hr2, ht⟩ := text_via_colWrap hinv hl hW32 a c hnc hw1 hwc
  obtain ⟨g1, hstep, _, hmany⟩ := colWrap_scroll hinv hl (effWidth W c)
    (decide (g.pos.col + effWidth W c > g.size.cols) && lastOccB r) hwc hno hin hbot
  obtain ⟨r', hg1r, hr', hcw'⟩ := hmany htb
  rw [hr] at hr'; cases hr'
  rw [hcw] at hcw'; cases hcw'
  obtain ⟨_, hpos, _, _⟩ := (C08.scrollUpStep_rows hstep).2
  have hbl : g.scrollBottom < g.rows.length := by rw [← hbot, hl]; exact hinv.pos_row
  have hnew := scrollUp_one_bottom (g := { g with pos := ⟨g.pos.row, 0⟩ }) hbl (Nat.le_of_lt htb) hstep
  simp only [Grid.newRow] at hnew
  refine ⟨g1, r, hstep, hr, hg1r, hnew, ?_⟩
  simp only [decide_eq_true hno, Bool.true_and, hpos] at hr2 ht
  rw [hbot] at hr2 ht
  rw [List.getElem?_set_ne (by omega), hnew] at hr2
  cases hr2
  rw [ht]
  simp only [Nat.zero_add, Grid.newRow]

/-- **C05, wrap on a ONE-LINE scroll region** (in particular a one-row screen): the line the cursor left has scrolled away —
into the scrollback when the region is the whole screen — and NOTHING is flagged. -/
theorem text_wrap_scroll1 {g : Grid} (hinv : GridInv W g true) (hl : g.rows.length = g.size.rows)
    (hW32 : W 32 = some 1) (a : Attrs) (c : Nat) (hnc : ¬ (W c = none ∧ c < 256))
    (hw1 : 1 ≤ effWidth W c) (hwc : effWidth W c ≤ g.size.cols)
    (hno : g.pos.col + effWidth W c > g.size.cols) (hin : g.inScrollRegion = true)
    (hbot : g.pos.row = g.scrollBottom) (htb : g.scrollTop = g.scrollBottom) :
    ∃ g1, C12.scrollUpStep ({ g with pos := ⟨g.pos.row, 0⟩ } : Grid) = .ok g1 ∧
      g1.rows[g.scrollBottom]? = some g.newRow ∧
      g.text W a c = .ok { g1 with
        rows := g1.rows.set g.scrollBottom
          (printedRow W g.newRow 0 g.size.cols a c (decide (effWidth W c > 1)))
        pos := ⟨g.scrollBottom, effWidth W c⟩ } := by
  obtain ⟨r, g2, r2, hr, hcw, hs, hr2, ht⟩ := text_via_colWrap hinv hl hW32 a c hnc hw1 hwc
  obtain ⟨g1, hstep, hone, _⟩ := colWrap_scroll hinv hl (effWidth W c)
    (decide (g.pos.col + effWidth W c > g.size.cols) && lastOccB r) hwc hno hin hbot
  have hcw' := hone htb
  rw [hcw] at hcw'; cases hcw'
  obtain ⟨_, hpos, _, _⟩ := (C08.scrollUpStep_rows hstep).2
  have hbl : g.scrollBottom < g.rows.length := by rw [← hbot, hl]; exact hinv.pos_row
  have hnew := scrollUp_one_bottom (g := { g with pos := ⟨g.pos.row, 0⟩ }) hbl (Nat.le_of_eq htb) hstep
  simp only [Grid.newRow] at hnew
  refine ⟨g2, hstep, hnew, ?_⟩
  simp only [hpos] at hr2 ht
  rw [hbot] at hr2 ht
  rw [hnew] at hr2
  cases hr2
  rw [ht]
  simp only [Nat.zero_add, Grid.newRow]

section action
variable (cb : CbPolicy) (ws : WS)

theorem perform_print_wrap_room (hinv : Inv W ws.screen) (hW32 : W 32 = some 1)
    (c : Nat) (hc1 : ¬ (0x80 ≤ c ∧ c < 0xA0)) (hrep : c ≠ 0xFFFD) (hnc : ¬ (W c = none ∧ c < 256))
    (hw1 : 1 ≤ effWidth W c) (hwc : effWidth W c ≤ ws.screen.cur.size.cols)
    (hno : ws.screen.cur.pos.col + effWidth W c > ws.screen.cur.size.cols)
    (hroom : ws.screen.cur.pos.row + 1 ≤
      (if ws.screen.cur.inScrollRegion then ws.screen.cur.scrollBottom else ws.screen.cur.size.rows - 1)) :
    ∃ r r2, ws.screen.cur.rows[ws.screen.cur.pos.row]? = some r ∧
      ws.screen.cur.rows[ws.screen.cur.pos.row + 1]? = some r2 ∧
      perform W cb ws (.print c) = .ok (setScreen ws (withCur ws.screen
        (setRP ws.screen.cur
          ((ws.screen.cur.rows.set ws.screen.cur.pos.row (r.wrap (lastOccB r))).set
            (ws.screen.cur.pos.row + 1)
            (printedRow W r2 0 ws.screen.cur.size.cols ws.screen.attrs c (decide (effWidth W c > 1))))
          ⟨ws.screen.cur.pos.row + 1, effWidth W c⟩))) := by
  obtain ⟨hg, hl⟩ := ((inv_iff W _).mp hinv).cur
  obtain ⟨r, r2, hr, hr2, ht⟩ := text_wrap_room hg hl hW32 ws.screen.attrs c hnc hw1 hwc hno hroom
  exact ⟨r, r2, hr, hr2, perform_print_eq cb ws c hc1 hrep ht⟩

theorem perform_print_wrap_stay (hinv : Inv W ws.screen) (hW32 : W 32 = some 1)
    (c : Nat) (hc1 : ¬ (0x80 ≤ c ∧ c < 0xA0)) (hrep : c ≠ 0xFFFD) (hnc : ¬ (W c = none ∧ c < 256))
    (hw1 : 1 ≤ effWidth W c) (hwc : effWidth W c ≤ ws.screen.cur.size.cols)
    (hno : ws.screen.cur.pos.col + effWidth W c > ws.screen.cur.size.cols)
    (hin : ws.screen.cur.inScrollRegion = false)
    (hlast : ws.screen.cur.pos.row = ws.screen.cur.size.rows - 1) :
    ∃ r, ws.screen.cur.rows[ws.screen.cur.pos.row]? = some r ∧
      perform W cb ws (.print c) = .ok (setScreen ws (withCur ws.screen
        (setRP ws.screen.cur
          (ws.screen.cur.rows.set ws.screen.cur.pos.row
            (printedRow W (r.wrap false) 0 ws.screen.cur.size.cols ws.screen.attrs c
              (decide (effWidth W c > 1))))
          ⟨ws.screen.cur.pos.row, effWidth W c⟩))) := by
  obtain ⟨hg, hl⟩ := ((inv_iff W _).mp hinv).cur
  obtain ⟨r, hr, ht⟩ := text_wrap_stay hg hl hW32 ws.screen.attrs c hnc hw1 hwc hno hin hlast
  exact ⟨r, hr, perform_print_eq cb ws c hc1 hrep ht⟩

theorem perform_print_wrap_scroll (hinv : Inv W ws.screen) (hW32 : W 32 = some 1)
    (c : Nat) (hc1 : ¬ (0x80 ≤ c ∧ c < 0xA0)) (hrep : c ≠ 0xFFFD) (hnc : ¬ (W c = none ∧ c < 256))
    (hw1 : 1 ≤ effWidth W c) (hwc : effWidth W c ≤ ws.screen.cur.size.cols)
    (hno : ws.screen.cur.pos.col + effWidth W c > ws.screen.cur.size.cols)
    (hin : ws.screen.cur.inScrollRegion = true)
    (hbot : ws.screen.cur.pos.row = ws.screen.cur.scrollBottom)
    (htb : ws.screen.cur.scrollTop < ws.screen.cur.scrollBottom) :
    ∃ g1 r, C12.scrollUpStep ({ ws.screen.cur with pos := ⟨ws.screen.cur.pos.row, 0⟩ } : Grid) = .ok g1 ∧
      ws.screen.cur.rows[ws.screen.cur.pos.row]? = some r ∧
      g1.rows[ws.screen.cur.scrollBottom - 1]? = some r ∧
      g1.rows[ws.screen.cur.scrollBottom]? = some ws.screen.cur.newRow ∧
      perform W cb ws (.print c) = .ok (setScreen ws (withCur ws.screen
        (setRP g1
          ((g1.rows.set (ws.screen.cur.scrollBottom - 1) (r.wrap (lastOccB r))).set
            ws.screen.cur.scrollBottom
            (printedRow W ws.screen.cur.newRow 0 ws.screen.cur.size.cols ws.screen.attrs c
              (decide (effWidth W c > 1))))
          ⟨ws.screen.cur.scrollBottom, effWidth W c⟩))) := by
  obtain ⟨hg, hl⟩ := ((inv_iff W _).mp hinv).cur
  obtain ⟨g1, r, h1, h2, h3, h4, ht⟩ :=
    text_wrap_scroll hg hl hW32 ws.screen.attrs c hnc hw1 hwc hno hin hbot htb
  exact ⟨g1, r, h1, h2, h3, h4, perform_print_eq cb ws c hc1 hrep ht⟩

theorem perform_print_wrap_scroll1 (hinv : Inv W ws.screen) (hW32 : W 32 = some 1)
    (c : Nat) (hc1 : ¬ (0x80 ≤ c ∧ c < 0xA0)) (hrep : c ≠ 0xFFFD) (hnc : ¬ (W c = none ∧ c < 256))
    (hw1 : 1 ≤ effWidth W c) (hwc : effWidth W c ≤ ws.screen.cur.size.cols)
    (hno : ws.screen.cur.pos.col + effWidth W c > ws.screen.cur.size.cols)
    (hin : ws.screen.cur.inScrollRegion = true)
    (hbot : ws.screen.cur.pos.row = ws.screen.cur.scrollBottom)
    (htb : ws.screen.cur.scrollTop = ws.screen.cur.scrollBottom) :
    ∃ g1, C12.scrollUpStep ({ ws.screen.cur with pos := ⟨ws.screen.cur.pos.row, 0⟩ } : Grid) = .ok g1 ∧
      g1.rows[ws.screen.cur.scrollBottom]? = some ws.screen.cur.newRow ∧
      perform W cb ws (.print c) = .ok (setScreen ws (withCur ws.screen
        (setRP g1
          (g1.rows.set ws.screen.cur.scrollBottom
            (printedRow W ws.screen.cur.newRow 0 ws.screen.cur.size.cols ws.screen.attrs c
              (decide (effWidth W c > 1))))
          ⟨ws.screen.cur.scrollBottom, effWidth W c⟩))) := by
  obtain ⟨hg, hl⟩ := ((inv_iff W _).mp hinv).cur
  obtain ⟨g1, h1, h2, ht⟩ :=
    text_wrap_scroll1 hg hl hW32 ws.screen.attrs c hnc hw1 hwc hno hin hbot htb
  exact ⟨g1, h1, h2, perform_print_eq cb ws c hc1 hrep ht⟩

end action

def run (rows cols sb : Nat) (bytes : List Nat) : Option Parser :=
  ((Parser.new rows cols sb) >>= fun p => p.process W0 cbNone bytes).toOption

/-- **a one-line region loses the wrap flag (test, kernel-evaluated).**  1x2 screen, scrollback capacity 5, input "abc": the
line "ab" is in the scrollback with `wrapped = false` although its last column is occupied and the text continues on the next
line (`text_wrap_scroll1`).  The 2x2 screen is the comparison: there the line "ab" IS flagged. -/
theorem one_line_region_loses_wrap_flag :
    ((run 1 2 5 [97, 98, 99]).map fun p =>
        (p.screen.grid.scrollback.map (fun r => (r.cells.map (·.contents.take 1), r.wrapped)),
         p.screen.grid.rows.map (fun r => r.cells.map (fun c => c.contents.take c.len)),
         p.screen.grid.pos))
      = some ([([[97], [98]], false)], [[[99], []]], ⟨0, 1⟩) ∧
    ((run 2 2 5 [97, 98, 99]).map fun p =>
        (p.screen.grid.rows.map (fun r => (r.cells.map (fun c => c.contents.take c.len), r.wrapped)),
         p.screen.grid.pos))
      = some ([([[97], [98]], true), ([[99], []], false)], ⟨1, 1⟩) := by
  refine ⟨by decide +kernel, by decide +kernel⟩

/-- the same, seen through the public API (test): after `set_scrollback(1)` the 1x2 screen shows the
history line "ab" and `row_wrapped(0)` is `false`; on the 2x2 screen the line "ab" is line 0 of the
live screen and `row_wrapped(0)` is `true` -/
theorem one_line_region_row_wrapped :
    ((run 1 2 5 [97, 98, 99]).bind fun p =>
        ((p.screen.setScrollback 1) >>= fun s => do
          let c ← s.contents
          let w ← s.rowWrapped 0
          pure (c, w)).toOption) = some ([97, 98], false) ∧
    ((run 2 2 5 [97, 98, 99]).bind fun p => (p.screen.rowWrapped 0).toOption) = some true := by
  refine ⟨by decide +kernel, by decide +kernel⟩

theorem exists_of_run {r : Option Parser} {P : Parser → Prop} [DecidablePred P]
    (h : (match r with | some p => decide (P p) | none => false) = true) : ∃ p, r = some p ∧ P p := by
  cases r with
  | none => simp at h
  | some p => exact ⟨p, rfl, of_decide_eq_true h⟩

/-- test: hypotheses of `perform_print_wrap_scroll1` (the state before the "c" of `one_line_region_loses_wrap_flag`) -/
theorem wrap_scroll1_nonvacuous :
    ∃ p, run 1 2 5 [97, 98] = some p ∧ (Inv W0 p.ws.screen ∧
      p.ws.screen.cur.pos.col + effWidth W0 99 > p.ws.screen.cur.size.cols ∧
      p.ws.screen.cur.inScrollRegion = true ∧
      p.ws.screen.cur.pos.row = p.ws.screen.cur.scrollBottom ∧
      p.ws.screen.cur.scrollTop = p.ws.screen.cur.scrollBottom) :=
  exists_of_run (by decide +kernel)

/-- test: hypotheses of `perform_print_wrap_room` (3x2 screen after "ab") -/
theorem wrap_room_nonvacuous :
    ∃ p, run 3 2 5 [97, 98] = some p ∧ (Inv W0 p.ws.screen ∧
      p.ws.screen.cur.pos.col + effWidth W0 99 > p.ws.screen.cur.size.cols ∧
      p.ws.screen.cur.pos.row + 1 ≤ (if p.ws.screen.cur.inScrollRegion then p.ws.screen.cur.scrollBottom
        else p.ws.screen.cur.size.rows - 1)) :=
  exists_of_run (by decide +kernel)

/-- test: hypotheses of `perform_print_wrap_scroll` (2x2 screen after "abcd": cursor on the bottom
line, past the end) -/
theorem wrap_scroll_nonvacuous :
    ∃ p, run 2 2 5 [97, 98, 99, 100] = some p ∧ (Inv W0 p.ws.screen ∧
      p.ws.screen.cur.pos.col + effWidth W0 99 > p.ws.screen.cur.size.cols ∧
      p.ws.screen.cur.inScrollRegion = true ∧
      p.ws.screen.cur.pos.row = p.ws.screen.cur.scrollBottom ∧
      p.ws.screen.cur.scrollTop < p.ws.screen.cur.scrollBottom) :=
  exists_of_run (by decide +kernel)

/-- test: hypotheses of `perform_print_wrap_stay` (3x2 screen, region rows 1-2 (`ESC[1;2r`), cursor
moved to the last line (`ESC[3;1H`), then "ab": past the end of the last line, outside the region) -/
theorem wrap_stay_nonvacuous :
    ∃ p, run 3 2 5 [27, 91, 49, 59, 50, 114, 27, 91, 51, 59, 49, 72, 97, 98] = some p ∧
      (Inv W0 p.ws.screen ∧
      p.ws.screen.cur.pos.col + effWidth W0 99 > p.ws.screen.cur.size.cols ∧
      p.ws.screen.cur.inScrollRegion = false ∧
      p.ws.screen.cur.pos.row = p.ws.screen.cur.size.rows - 1) :=
  exists_of_run (by decide +kernel)

end Vt.MiscC05
