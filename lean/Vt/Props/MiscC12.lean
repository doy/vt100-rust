import Vt.Props.C12c
/-
  MiscC12 — C12, "while k > 0, new output keeps the same lines in view" (`view_stable`).

  C12rec.lean gives the grid after `n` recorded lines (`recordN`); these are the statements about the VIEW
  (`Grid::visible_rows`, what `contents*`, `rows*`, `cell` read).  Setting: a grid with a full-screen scroll region,
  capacity `N > 0`, history of `L ≤ N` lines, the view scrolled back by `0 < k ≤ L`, `R` live rows; `n ≤ R` lines scroll
  off the top (no loss: `scrollUp_min`).  Before and after, the view is a window of `R` lines into one sequence
  (`visibleRows_window`, `view_after_scrollUp`); afterwards it starts `(k + n) - N` lines further down in the sequence
  (truncated subtraction), so where it started if `k + n ≤ N`.  The condition is on the OFFSET, not on the history length: a full history (`L = N`) evicts its
  oldest line at every step, but that line is in view only if `k = L = N` (`view_moves_at_capacity`).
-/
namespace Vt.MiscC12
open Vt Vt.C12

theorem window_eq {α} (sb rows : List α) (k : Nat) (hk : k ≤ sb.length) :
    ((sb.drop (sb.length - k)).take rows.length) ++ rows.take (rows.length - k)
      = ((sb.drop (sb.length - k)) ++ rows).take rows.length := by
  rw [List.take_append]
  simp only [List.length_drop]
  have : sb.length - (sb.length - k) = k := by omega
  rw [this]

/-- the view after `n` recorded lines, before it is cut to the screen, as a part of the same sequence -/
theorem window_after {α} (sb rows : List α) (blank : α) (N k n : Nat) (hk : k ≤ sb.length) (hn : n ≤ rows.length) :
    lastN (min N (k + n)) (lastN N (sb ++ rows.take n)) ++ (rows.drop n ++ List.replicate n blank)
      = (lastN k sb ++ rows ++ List.replicate n blank).drop (k + n - N) := by
  have hT : (rows.take n).length = n := List.length_take_of_le hn
  have hY : (lastN k sb ++ rows.take n).length = k + n := by
    rw [List.length_append, lastN_length, hT, Nat.min_eq_left hk]
  -- the last `min N (k + n)` lines of the new history: the last `k` of the old one and the `n` recorded lines, without
  -- the first `k + n - N` of these
  have e : lastN (min N (k + n)) (lastN N (sb ++ rows.take n)) = (lastN k sb ++ rows.take n).drop (k + n - N) := by
    have hA := lastN_add_append k sb (rows.take n)
    rw [hT] at hA
    rw [lastN_lastN _ (Nat.min_le_left _ _), ← lastN_lastN (b := k + n) _ (Nat.min_le_right _ _), hA, lastN, hY]
    congr 1
    omega
  rw [e, ← List.drop_append_of_le_length (by rw [hY]; omega), List.append_assoc, List.append_assoc,
    ← List.append_assoc (rows.take n), List.take_append_drop]

theorem window_no_blanks {α} (sb rows : List α) (blank : α) (k n : Nat) :
    ((sb.drop (sb.length - k)) ++ rows ++ List.replicate n blank).take rows.length
      = ((sb.drop (sb.length - k)) ++ rows).take rows.length := by
  rw [List.take_append_of_le_length]
  simp only [List.length_append]; omega

/-- **the view as a window**: `visible_rows()` = the first `rows` lines of
(last `k` history lines ++ live rows) -/
theorem visibleRows_window (g : Grid) (h : g.scrollbackOffset ≤ g.scrollback.length) :
    g.visibleRows = .ok
      ((g.scrollback.drop (g.scrollback.length - g.scrollbackOffset) ++ g.rows).take g.rows.length) := by
  rw [visibleRows_spec g h, window_eq _ _ _ h]

theorem visibleRows_recordN (g : Grid) (n : Nat) (hn : n ≤ g.rows.length)
    (hoff : g.scrollbackOffset ≤ g.scrollback.length) (hk : 0 < g.scrollbackOffset) :
    (recordN g n).visibleRows = .ok
      (((g.scrollback.drop (g.scrollback.length - g.scrollbackOffset) ++ g.rows
          ++ List.replicate n g.newRow).drop (g.scrollbackOffset + n - g.scrollbackLen)).take
        g.rows.length) := by
  have hoff' := recordN_offset g n hk hoff
  rw [visibleRows_window _ (by rw [hoff', recordN_scrollback_length g hn]; omega), recordN_rows_length g hn, hoff']
  exact congrArg (fun l => Except.ok (l.take g.rows.length))
    (window_after g.scrollback g.rows g.newRow g.scrollbackLen g.scrollbackOffset n hoff hn)

/-- **C12, the view after `scroll_up(n)` (closed form).**  Full-screen region, capacity `N > 0`,
`n ≤ rows`, view scrolled back by `0 < k ≤ L ≤ N`: `scroll_up(n)` succeeds, and the view of the result
is the window of `rows` lines into
    (last `k` history lines) ++ (live rows) ++ (`n` blank lines)
starting `(k + n) - N` lines further down than before (before: `visibleRows_window`, start 0). -/
theorem view_after_scrollUp (g : Grid) (n : Nat) (hN : 0 < g.scrollbackLen) (ht : g.scrollTop = 0)
    (hb : g.scrollBottom = g.size.rows - 1) (hlen : g.rows.length = g.size.rows)
    (hn : n ≤ g.size.rows) (hsb : g.scrollback.length ≤ g.scrollbackLen)
    (hoff : g.scrollbackOffset ≤ g.scrollback.length) (hk : 0 < g.scrollbackOffset) :
    ∃ g', g.scrollUp n = .ok g' ∧
      g'.scrollbackOffset = min g.scrollbackLen (g.scrollbackOffset + n) ∧
      g'.visibleRows = .ok
        (((g.scrollback.drop (g.scrollback.length - g.scrollbackOffset) ++ g.rows
            ++ List.replicate n g.newRow).drop (g.scrollbackOffset + n - g.scrollbackLen)).take
          g.rows.length) := by
  exact ⟨recordN g n, scrollUp_records g n hN ht hb hlen hn hsb hoff, recordN_offset g n hk hoff,
    visibleRows_recordN g n (by omega) hoff hk⟩

/-- **C12 `view_stable`, n lines.**  While the view is scrolled back by `k > 0` and `k + n` does not
exceed the capacity, `scroll_up(n)` — `n` lines of new output scrolling off the top — leaves the
view exactly as it was: the same `rows` lines are shown (the offset has become `k + n`). -/
theorem view_stable_scrollUp (g : Grid) (n : Nat) (hN : 0 < g.scrollbackLen) (ht : g.scrollTop = 0)
    (hb : g.scrollBottom = g.size.rows - 1) (hlen : g.rows.length = g.size.rows)
    (hn : n ≤ g.size.rows) (hsb : g.scrollback.length ≤ g.scrollbackLen)
    (hoff : g.scrollbackOffset ≤ g.scrollback.length) (hk : 0 < g.scrollbackOffset)
    (hroom : g.scrollbackOffset + n ≤ g.scrollbackLen) :
    ∃ g', g.scrollUp n = .ok g' ∧ g'.scrollbackOffset = g.scrollbackOffset + n ∧
      g'.visibleRows = g.visibleRows := by
  obtain ⟨g', h1, h2, h3⟩ := view_after_scrollUp g n hN ht hb hlen hn hsb hoff hk
  refine ⟨g', h1, by omega, ?_⟩
  have : g.scrollbackOffset + n - g.scrollbackLen = 0 := by omega
  rw [h3, this, List.drop_zero, window_no_blanks, visibleRows_window g hoff]

/-- **C12 `view_stable`**.  One line scrolls off the top
of a grid with a full-screen region and capacity `N > 0` while the view is scrolled back by
`0 < k < N`: the step succeeds, the offset becomes `k + 1`, and `visible_rows()` is unchanged. -/
theorem view_stable (g g' : Grid) (hN : 0 < g.scrollbackLen)
    (hreg : g.scrollTop = 0 ∧ g.scrollBottom = g.size.rows - 1) (hr : 1 ≤ g.size.rows)
    (hlen : g.rows.length = g.size.rows) (hsb : g.scrollback.length ≤ g.scrollbackLen)
    (hoff : g.scrollbackOffset ≤ g.scrollback.length) (hk : 0 < g.scrollbackOffset)
    (hroom : g.scrollbackOffset < g.scrollbackLen)
    (h : scrollUpStep g = .ok g') :
    g'.scrollbackOffset = g.scrollbackOffset + 1 ∧ g'.visibleRows = g.visibleRows := by
  rw [scrollUpStep_eq_recordN g hN hreg.1 hreg.2 hlen hr] at h
  cases h
  have h3 := visibleRows_recordN g 1 (by omega) hoff hk
  have h0 : g.scrollbackOffset + 1 - g.scrollbackLen = 0 := by omega
  refine ⟨by rw [recordN_offset g 1 hk hoff]; omega, ?_⟩
  rw [h3, h0, List.drop_zero, window_no_blanks, visibleRows_window g hoff]

/-- **boundary case**: the view is scrolled back all the way through a FULL history (`k = N`, hence
`L = N`).  The oldest history line — the first line of the view — is evicted, the offset stays `N`,
and the view starts one line further down in the sequence: it is lines `1 .. rows` of
`history ++ live rows ++ [blank]`, where the old view was lines `0 .. rows - 1`. -/
theorem view_moves_at_capacity (g g' : Grid) (hN : 0 < g.scrollbackLen)
    (hreg : g.scrollTop = 0 ∧ g.scrollBottom = g.size.rows - 1) (hr : 1 ≤ g.size.rows)
    (hlen : g.rows.length = g.size.rows) (hsb : g.scrollback.length ≤ g.scrollbackLen)
    (hoff : g.scrollbackOffset ≤ g.scrollback.length)
    (hfull : g.scrollbackOffset = g.scrollbackLen)
    (h : scrollUpStep g = .ok g') :
    g'.scrollbackOffset = g.scrollbackOffset ∧
      g.visibleRows = .ok ((g.scrollback ++ g.rows ++ [g.newRow]).take g.rows.length) ∧
      g'.visibleRows = .ok (((g.scrollback ++ g.rows ++ [g.newRow]).drop 1).take g.rows.length) := by
  have hk : 0 < g.scrollbackOffset := by omega
  have hL : g.scrollback.length = g.scrollbackOffset := by omega
  rw [scrollUpStep_eq_recordN g hN hreg.1 hreg.2 hlen hr] at h
  cases h
  have h3 := visibleRows_recordN g 1 (by omega) hoff hk
  have h1 : g.scrollbackOffset + 1 - g.scrollbackLen = 1 := by omega
  have h0 : g.scrollback.length - g.scrollbackOffset = 0 := by omega
  refine ⟨by rw [recordN_offset g 1 hk hoff]; omega, ?_, ?_⟩
  · have := visibleRows_window g hoff
    rw [h0, List.drop_zero] at this
    rw [this]
    congr 1
    symm
    apply List.take_append_of_le_length
    simp only [List.length_append]; omega
  · rw [h3, h1, h0, List.drop_zero]
    rfl

/-- for contrast, offset 0: the view is the live screen, and follows the output -/
theorem view_follows_at_offset_zero (g : Grid) (n : Nat) (hN : 0 < g.scrollbackLen)
    (ht : g.scrollTop = 0) (hb : g.scrollBottom = g.size.rows - 1)
    (hlen : g.rows.length = g.size.rows) (hn : n ≤ g.size.rows)
    (hsb : g.scrollback.length ≤ g.scrollbackLen) (hk : g.scrollbackOffset = 0) :
    ∃ g', g.scrollUp n = .ok g' ∧ g'.scrollbackOffset = 0 ∧ g.visibleRows = .ok g.rows ∧
      g'.visibleRows = .ok (g.rows.drop n ++ List.replicate n g.newRow) := by
  refine ⟨recordN g n, scrollUp_records g n hN ht hb hlen hn hsb (by omega), ?_, ?_, ?_⟩
  · simp [recordN, hk]
  · rw [visibleRows_spec g (by omega)]; simp [hk]
  · rw [visibleRows_spec _ (by simp [recordN, hk])]
    simp only [recordN, hk, Nat.lt_irrefl, ↓reduceIte, Nat.sub_zero,
      List.drop_of_length_le (Nat.le_refl _), Except.ok.injEq]
    simp
    apply List.take_of_length_le
    simp

def rowOf (c : Nat) : Row := { cells := [{ (Cell.new) with contents := [c] }, Cell.new], wrapped := false }

/-- a 3x2 grid with capacity 4, three lines of history, scrolled back by 2 -/
def tGrid : Grid :=
  { size := ⟨3, 2⟩, pos := ⟨0, 0⟩, savedPos := ⟨0, 0⟩,
    rows := [rowOf 100, rowOf 101, rowOf 102],
    scrollTop := 0, scrollBottom := 2, originMode := false, savedOriginMode := false,
    scrollback := [rowOf 1, rowOf 2, rowOf 3], scrollbackLen := 4, scrollbackOffset := 2 }

/-- test: `view_stable_scrollUp` applies to `tGrid` with `n = 2` (offset 2 + 2 ≤ capacity 4), and the
view is `[2, 3, 100]` before and after -/
theorem view_stable_nonvacuous :
    ∃ g', tGrid.scrollUp 2 = .ok g' ∧ g'.scrollbackOffset = 4 ∧ g'.visibleRows = tGrid.visibleRows ∧
      tGrid.visibleRows = .ok [rowOf 2, rowOf 3, rowOf 100] := by
  obtain ⟨g', h1, h2, h3⟩ := view_stable_scrollUp tGrid 2 (by decide) rfl rfl rfl (by decide)
    (by decide) (by decide) (by decide) (by decide)
  exact ⟨g', h1, h2, h3, by rw [visibleRows_spec _ (by decide)]; rfl⟩

/-- test (sharpness): with `n = 3` (offset 2 + 3 > capacity 4) the view of `tGrid` moves by one line:
`[2, 3, 100]` becomes `[3, 100, 101]` -/
theorem view_moves_example :
    (tGrid.scrollUp 3 >>= fun g' => g'.visibleRows).toOption = some [rowOf 3, rowOf 100, rowOf 101] := by
  decide +kernel

/-- test: `view_moves_at_capacity` is not vacuous (capacity 3 = history 3 = offset 3) -/
theorem view_moves_at_capacity_nonvacuous :
    ∃ g', scrollUpStep { tGrid with scrollbackLen := 3, scrollbackOffset := 3 } = .ok g' ∧
      g'.visibleRows.toOption = some [rowOf 2, rowOf 3, rowOf 100] := by
  refine ⟨_, scrollUpStep_eq_recordN _ (by decide) rfl rfl rfl (by decide), ?_⟩
  decide +kernel

end Vt.MiscC12
