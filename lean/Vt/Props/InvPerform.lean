/-
  Vt.Props.InvPerform (namespace `Vt.C13`): C13 / C03 / C16 — the invariant is inductive and every action is total.

  One walk over the actions (`perform_total_keeps`, through the case principle `C12.perform_cases`) shows, for every
  condition on the lines that the operations of `grid.rs` keep (`InvP.OpsKeep`), that `perform` never fails on a screen
  satisfying `Inv` and the condition and that both hold again; the walk is lifted once to `process`, to the public API
  and to histories (`reachable_keeps`).  `KeepsT` (of a grid operation), `KeepsS` (of a screen operation) and `StepT` (of a
  step on `WS`) all say: total on `Inv` and the condition, and both hold again; `InvP.OpKeeps` (InvStep) is the partial-correctness
  half of `KeepsT`.  The vocabulary of every statement about histories — `Op`, `Op.Valid`, `applyOp`, `ParserInv` — is
  defined here.  `Inv` by itself is the case of the trivial condition (the theorems take it as `ScreenInv W`, the Prop form
  of the Boolean `Inv`: `inv_iff`; only `inv_setScrollback` is stated with `Inv` itself):

  * `inv_perform` : on every screen satisfying `Inv`, for every action vte can produce (`ActionOk`) and every
    callback policy that is itself total and keeps `Inv`, `perform` returns normally and the result satisfies `Inv`.
    This is at once the totality of C03 (no panic, no overflow: every `.error` site of the model
    is excluded) and the inductive step of C13, for ALL sizes, cursor positions (incl. the
    pending-wrap column), cell contents, scroll regions, both screens, and all parameter values.
  * `inv_setSize` : `set_size(r,c)` for `1 ≤ r,c ≤ 65535` keeps `Inv` (C16: "after it every other
    property continues to hold" is then `inv_perform` again).
  * `inv_setScrollback` : `set_scrollback(k)` keeps `Inv`, for every `k`.
  * `cbNone_inv`, `cbResize_inv` : the callback policies `cbNone` and `cbResize` of the harness satisfy the hypothesis
    (C16: `set_size` called from inside `Callbacks::resize`); the third, `cbProbe`, in Props/CbProbe (`cbProbe_inv`).
  Assumption on the width function (trusted base, checked on the real table on every run):
  `W 32 = some 1`.  No assumption on the range of widths: a width ≥ 2 is treated as wide, exactly as
  the code does (unicode-width 0.2 reports width 3 for a few characters, e.g. U+2E3B).
-/
import Vt.Lemmas.TextInv
import Vt.Lemmas.VteOk
import Vt.Lemmas.WPred
import Vt.Lemmas.PerformCases
import Vt.Props.C16
import Vt.Props.C13
import Vt.Props.InvStep
import Vt.Spec.Obs
namespace Vt.C13
open Vt Vt.InvP

variable {W : Nat → Option Nat} {A : Attrs → Prop} {Q : Grid → Prop} {S : Screen → Prop}

def KeepsT (W : Nat → Option Nat) (Q : Grid → Prop) (k : Grid → M Grid) : Prop :=
  ∀ g, GridInv W g true → g.rows.length = g.size.rows → Q g → ∃ g', k g = .ok g' ∧ StepOk W g g' ∧ Q g'

theorem KeepsT.of {k : Grid → M Grid}
    (ht : ∀ g, GridInv W g true → g.rows.length = g.size.rows → Total W k g) (hk : OpKeeps W Q k) : KeepsT W Q k :=
  fun g hi hl hq => let ⟨g', e, s⟩ := ht g hi hl; ⟨g', e, s, hk g g' hi hl hq e⟩

theorem KeepsT.of_rows (hQ : OpsKeep W A Q) {k : Grid → M Grid}
    (ht : ∀ g, GridInv W g true → g.rows.length = g.size.rows → Total W k g)
    (hk : ∀ {g g'}, k g = .ok g' → g'.rows = g.rows ∧ g'.scrollback = g.scrollback) : KeepsT W Q k :=
  .of ht fun _ _ _ _ h e => hQ.same h (hk e).1 (hk e).2

def KeepsS (W : Nat → Option Nat) (S : Screen → Prop) (f : Screen → M Screen) : Prop :=
  ∀ s, ScreenInv W s → S s → ∃ s', f s = .ok s' ∧ ScreenInv W s' ∧ S s'

theorem screenInv_setCur {s : Screen} (hs : ScreenInv W s) {g' : Grid} (st : StepOk W s.cur g') :
    ScreenInv W (s.setCur g') := by
  unfold Screen.setCur Screen.cur at *
  cases ha : s.altScreen
  · simp only [ha, Bool.false_eq_true, ↓reduceIte] at st ⊢
    refine ⟨{ st.inv with rows_len := Or.inr st.len }, hs.alt, hs.alt_cap, ?_, by simp⟩
    rw [← hs.same_size]; exact st.size
  · simp only [ha, ↓reduceIte] at st ⊢
    refine ⟨hs.grid, st.inv, by rw [st.cap]; exact hs.alt_cap, ?_, ?_⟩
    · rw [hs.same_size]; exact st.size.symm
    · intro _ he
      have := st.len; rw [he] at this
      have := st.inv.rows_pos; simp at *; omega

/-- a grid operation through `grid_mut()` -/
theorem keepsS_grid {k : Screen → Grid → M Grid} (hk : ∀ s, ScreenP A Q s → KeepsT W Q (k s)) :
    KeepsS W (ScreenP A Q) (fun s => s.modifyGrid (k s)) := fun s hs hx =>
  let ⟨g', e, st, q⟩ := hk s hx s.cur hs.cur.1 hs.cur.2 hx.cur
  ⟨s.setCur g', modifyGrid_ok_of e, screenInv_setCur hs st, hx.setCur q⟩

theorem KeepsS.map {f : Screen → M Screen} (hf : KeepsS W S f) {k : Screen → Screen}
    (hk : ∀ s, ScreenInv W s → S s → ScreenInv W (k s) ∧ S (k s)) :
    KeepsS W S (fun s => f s >>= fun s1 => pure (k s1)) := fun s hs hx =>
  let ⟨s1, e1, i1, x1⟩ := hf s hs hx
  ⟨k s1, by show f s >>= _ = _; rw [e1]; rfl, hk s1 i1 x1⟩

theorem screenInv_congr {s s' : Screen} (hs : ScreenInv W s) (h1 : s'.grid = s.grid)
    (h2 : s'.altGrid = s.altGrid) (h3 : s'.altScreen = s.altScreen) : ScreenInv W s' :=
  ⟨h1 ▸ hs.grid, h2 ▸ hs.alt, h2 ▸ hs.alt_cap, by rw [h1, h2]; exact hs.same_size,
   by rw [h2, h3]; exact hs.alt_alloc⟩

theorem saveCursor_keeps (hQ : OpsKeep W A Q) : KeepsS W (ScreenP A Q) Screen.saveCursor :=
  (keepsS_grid (k := fun _ g => pure g.saveCursor) fun _ _ =>
    .of_rows hQ (fun _ => total_saveCursor) (pure_rows fun _ => ⟨rfl, rfl⟩)).map
    fun _ i x => ⟨screenInv_congr i rfl rfl rfl, x.pen, x.pen, x.grid, x.alt⟩

theorem restoreCursor_keeps (hQ : OpsKeep W A Q) : KeepsS W (ScreenP A Q) Screen.restoreCursor :=
  (keepsS_grid (k := fun _ g => pure g.restoreCursor) fun _ _ =>
    .of_rows hQ (fun _ => total_restoreCursor) (pure_rows fun _ => ⟨rfl, rfl⟩)).map
    fun _ i x => ⟨screenInv_congr i rfl rfl rfl, x.saved, x.saved, x.grid, x.alt⟩

theorem setScrollback_keeps (hQ : OpsKeep W A Q) (k : Nat) : KeepsS W (ScreenP A Q) (fun s => s.setScrollback k) :=
  keepsS_grid (k := fun _ g => pure (g.setScrollback k)) fun _ _ =>
    .of_rows hQ (fun _ h l => total_setScrollback h l k) (pure_rows fun _ => ⟨rfl, rfl⟩)

section
variable (W)

theorem inv_setScrollback (s s' : Screen) (k : Nat) (hi : Inv W s) (h : s.setScrollback k = .ok s') :
    Inv W s' :=
  have ⟨_, e, i, _⟩ := setScrollback_keeps opsKeep_true k s ((inv_iff W s).mp hi) (screenP_true s)
  (inv_iff W s').mpr (Except.ok.inj (e.symm.trans h) ▸ i)

end

/-- entering the alternate screen: the view offset is reset, the alternate grid gets its lines -/
theorem enterAlternateGrid_keeps (hQ : OpsKeep W A Q) : KeepsS W (ScreenP A Q) Screen.enterAlternateGrid :=
  (setScrollback_keeps hQ 0).map fun s1 i1 x1 => by
    obtain ⟨j1, j2, j3, j4⟩ := allocateRows_inv i1.alt
    refine ⟨⟨i1.grid, j1, j4.trans i1.alt_cap, i1.same_size.trans j3.symm, fun _ he => ?_⟩,
      x1.pen, x1.saved, x1.grid, hQ.allocateRows x1.alt⟩
    have h1 := j1.rows_pos
    rw [j3] at h1
    rw [show s1.altGrid.allocateRows.rows = [] from he] at j2
    simp at j2; omega

theorem exitAlternateGrid_keeps {s : Screen} (hs : ScreenInv W s) (hx : ScreenP A Q s) :
    ScreenInv W s.exitAlternateGrid ∧ ScreenP A Q s.exitAlternateGrid :=
  ⟨⟨hs.grid, hs.alt, hs.alt_cap, hs.same_size, by simp [Screen.exitAlternateGrid]⟩, hx.congr rfl rfl rfl rfl⟩

/-- `Grid::clear` of the alternate grid (entering ?1049) -/
theorem clearAlt_keeps (hQ : OpsKeep W A Q) {s : Screen} (hs : ScreenInv W s) (hx : ScreenP A Q s) :
    ∃ ag, s.altGrid.clear = .ok ag ∧ ScreenInv W { s with altGrid := ag } ∧ ScreenP A Q { s with altGrid := ag } := by
  obtain ⟨ag, e, i, sz, cap, hlen⟩ := clear_ok hs.alt
  exact ⟨ag, e, ⟨hs.grid, i, cap.trans hs.alt_cap, hs.same_size.trans sz.symm, fun ha he =>
      hs.alt_alloc ha (List.eq_nil_of_length_eq_zero (by rw [← hlen, show ag.rows = [] from he]; rfl))⟩,
    hx.pen, hx.saved, hx.grid, hQ.clear hx.alt e⟩

theorem new_of_ok {sz : Size} {sb : Nat} {s : Screen} (h : Screen.new sz sb = .ok s) :
    1 ≤ sz.rows ∧ s = newScreen sz.rows sz.cols sb := by
  by_cases hr : 1 ≤ sz.rows
  · rw [new_eq _ _ hr] at h
    exact ⟨hr, (Except.ok.inj h).symm⟩
  · simp [Screen.new, Grid.new, subM, hr, panic] at h

theorem ris_keeps (hQ : OpsKeep W A Q) : KeepsS W (ScreenP A Q) Screen.ris := fun s hs _ =>
  have hg := hs.grid
  have := inv_new W s.grid.size.rows s.grid.size.cols s.grid.scrollbackLen hg.rows_pos hg.cols_pos
    hg.rows_u16 hg.cols_u16
  ⟨_, this.1, (inv_iff W _).mp this.2, ScreenP.new hQ this.1⟩

theorem canon1_le {params : List (List Nat)} (hp : ∀ p ∈ params, ∀ x ∈ p, x ≤ 65535) (d : Nat) (hd : d ≤ 65535) :
    canon1 params d ≤ 65535 := by
  simp only [canon1]
  split
  · exact hd
  · match params with
    | [] | [] :: _ => exact Nat.zero_le _
    | (x :: _) :: _ => exact hp _ List.mem_cons_self x List.mem_cons_self

theorem xtArg_le {params : List (List Nat)} (hp : ∀ p ∈ params, ∀ x ∈ p, x ≤ 65535) (d : Nat) (hd : d ≤ 65535) :
    xtArg params d ≤ 65535 := by
  match params with
  | [] | [] :: _ => exact hd
  | (x :: _) :: _ => exact hp _ List.mem_cons_self x List.mem_cons_self

theorem canon2_pos (params : List (List Nat)) (d1 d2 : Nat) (h1 : 1 ≤ d1) (h2 : 1 ≤ d2) :
    1 ≤ (canon2 params d1 d2).1 ∧ 1 ≤ (canon2 params d1 d2).2 :=
  ⟨C12.one_le_canon _ h1, C12.one_le_canon _ h2⟩

/-- DECSTBM with its canonical parameters: the default bottom margin is the number of rows, which is at least 1 -/
theorem decstbm_keeps (hQ : OpsKeep W A Q) (ps : List (List Nat)) : KeepsS W (ScreenP A Q) (fun s =>
    s.decstbm (canon2 ps 1 s.cur.size.rows).1 (canon2 ps 1 s.cur.size.rows).2) := fun s hs hx => by
  obtain ⟨h1, h2⟩ := canon2_pos ps 1 s.cur.size.rows (Nat.le_refl _) hs.cur.1.rows_pos
  show ∃ s', s.decstbm (canon2 ps 1 s.cur.size.rows).1 (canon2 ps 1 s.cur.size.rows).2 = .ok s' ∧ _
  rw [Screen.decstbm, subM_ok h1, ok_bind, subM_ok h2, ok_bind]
  exact keepsS_grid (k := fun _ g => g.setScrollRegion _ _)
    (fun _ _ => .of_rows hQ (fun _ h l => total_setScrollRegion h l _ _) fun {g g'} e => by
      rw [C12.MPred.iff.mp ((C12.setScrollRegion_passes _ _).footprint g) g' e]; exact ⟨rfl, rfl⟩) s hs hx

theorem gridInv_setSizeSpec {g : Grid} {un : Bool} (h : GridInv W g un) (size : Size)
    (hr : 1 ≤ size.rows) (hc : 1 ≤ size.cols) (hr' : size.rows ≤ 65535) (hc' : size.cols ≤ 65535) :
    GridInv W (C16.setSizeSpec g size) false := by
  obtain ⟨p1, p2, p3, p4, p5, p6, p7, p8, p9, p10, p11⟩ := C16.setSizeSpec_props g size hr hc
  refine { rows_pos := by rw [p1]; exact hr, cols_pos := by rw [p1]; exact hc,
           rows_u16 := by rw [p1]; exact hr', cols_u16 := by rw [p1]; exact hc',
           rows_len := Or.inr (by rw [p2, p1]), row_ok := ?_,
           pos_row := by rw [p1]; exact p6, pos_col := by rw [p1]; omega,
           spos_row := by rw [p1]; exact p8, spos_col := by rw [p1]; omega,
           region_le := p11, region_lt := by rw [p1]; exact p10,
           sb_len := by rw [p3, p4]; exact h.sb_len, sb_off := by rw [p5, p3]; exact h.sb_off,
           sb_ok := by rw [p3]; exact h.sb_ok }
  rw [p1]
  refine C16.setSizeSpec_rows (fun r0 hr0 => ?_) (rowGood_new W _ hc)
  have hci := rowGood_cells W (h.row_ok r0 hr0)
  obtain ⟨i1, i2, _⟩ := resize_inv W (r := r0.wrap false) (len := size.cols) hci
  obtain ⟨j1, j2, _⟩ := resize_inv W (r := r0) (len := size.cols) hci
  exact ⟨rowGood_of W j2 hc j1, rowGood_of W i2 hc i1⟩

theorem inv_setSize {s : Screen} (hs : ScreenInv W s) (r c : Nat) (hr : 1 ≤ r) (hc : 1 ≤ c)
    (hr' : r ≤ 65535) (hc' : c ≤ 65535) :
    ∃ s', s.setSize r c = .ok s' ∧ ScreenInv W s' := by
  refine ⟨_, C16.screen_setSize_eq s r c hs.grid.rows_pos hs.alt.rows_pos hr hc, ?_⟩
  have g1 := gridInv_setSizeSpec hs.grid ⟨r, c⟩ hr hc hr' hc'
  have g2 := gridInv_setSizeSpec hs.alt ⟨r, c⟩ hr hc hr' hc'
  obtain ⟨p1, p2, _, p4, _⟩ := C16.setSizeSpec_props s.altGrid ⟨r, c⟩ hr hc
  obtain ⟨q1, _⟩ := C16.setSizeSpec_props s.grid ⟨r, c⟩ hr hc
  simp only at p1 p2 p4 q1
  refine ⟨g1, g2.mono, by rw [p4]; exact hs.alt_cap, by rw [q1, p1], ?_⟩
  intro _ he
  simp only at he
  rw [he] at p2; simp at p2; omega

/-- events carry `u16` values -/
def EventOk : Event → Prop
  | .resize r c => r ≤ 65535 ∧ c ≤ 65535
  | _ => True

def CbInv (W : Nat → Option Nat) (cb : CbPolicy) : Prop :=
  ∀ e s, EventOk e → ScreenInv W s → ∃ s', cb e s = .ok s' ∧ ScreenInv W s'

/-- what vte can hand over (`Vt.ActOk`): printed characters are Unicode scalar values, CSI
parameters are `u16` (vte saturates at 65535); `Vt.good_advance` shows that `Parser::advance`
produces nothing else -/
abbrev ActionOk : Action → Prop := ActOk

/-- `ScreenInv` of the screen of a `WS`: `StepT` is stated with it, the theorems from `inv_perform` on with
`ScreenInv W ws.screen` written out. -/
def Good (W : Nat → Option Nat) (ws : WS) : Prop := ScreenInv W ws.screen

theorem cbNone_inv : CbInv W cbNone := fun _ s _ hs => ⟨s, rfl, hs⟩

/-- the `resize` policy of the harness (`set_size` called from inside `Callbacks::resize`) -/
theorem cbResize_inv : CbInv W cbResize := by
  intro e s hb hs
  cases e with
  | resize r c =>
    simp only [cbResize]
    split
    · rename_i h
      simp only [Bool.and_eq_true, decide_eq_true_eq] at h
      exact inv_setSize hs r c h.1 h.2 hb.1 hb.2
    · exact ⟨s, rfl, hs⟩
  | _ => exact ⟨s, rfl, hs⟩

def CbKeepsCond (W : Nat → Option Nat) (S : Screen → Prop) (cb : CbPolicy) : Prop :=
  ∀ e s s', EventOk e → ScreenInv W s → S s → cb e s = .ok s' → S s'

theorem cbKeepsCond_true {cb : CbPolicy} : CbKeepsCond W (ScreenP (fun _ => True) (fun _ => True)) cb :=
  fun _ _ s' _ _ _ _ => screenP_true s'

theorem cbSizes_keepsCond {cb : CbPolicy} (h : CbSizes cb) (hsz : ∀ {s s'} r c, S s → s.setSize r c = .ok s' → S s') :
    CbKeepsCond W S cb := fun e s s' _ _ hx =>
  h.elim (P := fun m => m = .ok s' → S s') e s (fun h => by cases h; exact hx) fun r c h => hsz r c hx h

def StepT (W : Nat → Option Nat) (S : Screen → Prop) (f : WS → M WS) : Prop :=
  ∀ ws, Good W ws → S ws.screen → ∃ ws', f ws = .ok ws' ∧ Good W ws' ∧ S ws'.screen

theorem stepT_pure : StepT W S (fun ws => pure ws) := fun ws hg hx => ⟨ws, rfl, hg, hx⟩

theorem stepT_bind {f g : WS → M WS} (hf : StepT W S f) (hg : StepT W S g) : StepT W S (fun ws => f ws >>= g) := by
  intro ws h hx
  obtain ⟨w1, e1, g1, x1⟩ := hf ws h hx
  obtain ⟨w2, e2, g2, x2⟩ := hg w1 g1 x1
  exact ⟨w2, by show f ws >>= g = _; rw [e1]; exact e2, g2, x2⟩

theorem stepT_emit {cb : CbPolicy} (hcb : CbInv W cb) (hcs : CbKeepsCond W S cb) (ev : Event) (he : EventOk ev) :
    StepT W S (emit cb ev) := by
  intro ws hg hx
  obtain ⟨s', e1, i1⟩ := hcb ev ws.screen he hg
  exact ⟨{ screen := s', events := ws.events ++ [ev] }, by simp [emit, e1], i1, hcs ev _ s' he hg hx e1⟩

theorem stepT_onScreen {f : Screen → M Screen} (hf : KeepsS W S f) : StepT W S (fun ws => ws.onScreen f) := by
  intro ws hg hx
  obtain ⟨s', e1, i1, x1⟩ := hf ws.screen hg hx
  exact ⟨{ ws with screen := s' }, by simp [WS.onScreen, e1], i1, x1⟩

theorem stepT_modes (k : Screen → Screen) (hk : ∀ s, (k s).grid = s.grid ∧ (k s).altGrid = s.altGrid ∧
    (k s).altScreen = s.altScreen ∧ (k s).attrs = s.attrs ∧ (k s).savedAttrs = s.savedAttrs) :
    StepT W (ScreenP A Q) fun ws => pure { ws with screen := k ws.screen } := fun ws hg hx =>
  have ⟨h1, h2, h3, h4, h5⟩ := hk ws.screen
  ⟨_, rfl, screenInv_congr hg h1 h2 h3, hx.congr h4 h5 h1 h2⟩

theorem stepT_fold {α} {ok : α → Prop} (step : WS → α → M WS) (hstep : ∀ x, ok x → StepT W S (fun ws => step ws x)) :
    ∀ (xs : List α), (∀ x ∈ xs, ok x) → StepT W S (fun ws => xs.foldlM step ws)
  | [], _ => stepT_pure
  | x :: xs, hok => fun ws hg hx => by
    show ∃ ws', (x :: xs).foldlM step ws = .ok ws' ∧ _
    rw [List.foldlM_cons]
    exact stepT_bind (hstep x (hok x List.mem_cons_self))
      (stepT_fold step hstep xs fun y hy => hok y (List.mem_cons_of_mem _ hy)) ws hg hx

/-- every `DrawOp` is total and keeps the condition; the erasures among them write the pen -/
theorem drawOp_keeps (hQ : OpsKeep W A Q) {p : Attrs} (hp : A p) {f : Grid → M Grid} (hf : C12.DrawOp p f) :
    KeepsT W Q f := by
  cases hf with
  | row h =>
    cases h with
    | rowDecClamp n =>
      exact .of_rows hQ (fun _ h l => total_rowDecClamp h l n) ((C12.rowDecClamp_passes n).mono Grid.MovesRow.moves).rows
    | rowIncClamp n =>
      exact .of_rows hQ (fun _ h l => total_rowIncClamp h l n) ((C12.rowIncClamp_passes n).mono Grid.MovesRow.moves).rows
    | rowDecScroll n => exact .of (fun _ h l => total_rowDecScroll_n h l n) (hQ.rowDecScroll n)
    | rowSet i =>
      exact .of_rows hQ (fun _ h l => total_rowSet h l i) ((C12.rowSet_passes i).mono Grid.MovesRow.moves).rows
    | insertCells n => exact .of (fun _ h l => total_insertCells h l n) (hQ.insertCells n)
    | deleteCells n => exact .of (fun _ h l => total_deleteCells h l n) (hQ.deleteCells n)
    | eraseCells n => exact .of (fun _ h l => total_eraseCells h l n p) (fun g _ hi _ =>
        hQ.eraseRange g.pos.col _ hp hi.row_ok (Nat.min_le_right _ _))
    | insertLines n => exact .of (fun _ h l => total_insertLines h l n) fun _ _ _ _ h e => hQ.lines (insertLines_scrolled e) h
    | deleteLines n => exact .of (fun _ h l => total_deleteLines h l n) (fun _ _ hi hl h e =>
        hQ.lines (deleteLines_scrolled (hl ▸ hi.pos_row) e) h)
    | scrollDown n => exact .of (fun _ h l => total_scrollDown h l n) fun _ _ _ _ h e => hQ.lines (scrollDown_scrolled e) h
    | eraseAllForward => exact .of (fun _ h l => total_eraseAllForward h l p) (hQ.eraseAllForward hp)
    | eraseAllBackward => exact .of (fun _ h l => total_eraseAllBackward h l p) (hQ.eraseAllBackward hp)
    | eraseAll => exact .of (fun _ h l => total_eraseAll h l p) (hQ.eraseAll hp)
    | eraseRowForward => exact .of (fun _ h l => total_eraseRowForward h l p) (fun g _ hi _ =>
        hQ.eraseRange g.pos.col _ hp hi.row_ok (Nat.le_refl _))
    | eraseRowBackward => exact .of (fun _ h l => total_eraseRowBackward h l p) fun _ _ hi _ => hQ.eraseRowBackward hp hi.row_ok
    | eraseRow => exact .of (fun _ h l => total_eraseRow h l p) (hQ.eraseRow hp)
  | colDec n => exact .of_rows hQ (fun _ h l => total_colDec h l n) (C12.colDec_passes n).rows
  | colTab => exact .of_rows hQ (fun _ h l => total_colTab h l) C12.colTab_passes.rows
  | colSet i => exact .of_rows hQ (fun _ h l => total_colSet h l i) (C12.colSet_passes i).rows
  | colIncClamp n => exact .of_rows hQ (fun _ h l => total_colIncClamp h l n) (C12.colIncClamp_passes n).rows
  | setPos pos => exact .of_rows hQ (fun _ h l => total_setPos h l pos.row pos.col) (C12.setPos_passes pos).rows
  | cnl n => exact .of_rows hQ (fun _ h l => total_cnl h l n) (C12.cnl_passes n).rows
  | cpl n => exact .of_rows hQ (fun _ h l => total_cpl h l n) (C12.cpl_passes n).rows

theorem draw_keeps (hQ : OpsKeep W A Q) {f : Attrs → Grid → M Grid} (hf : ∀ p, C12.DrawOp p (f p)) :
    KeepsS W (ScreenP A Q) (fun s => s.modifyGrid (f s.attrs)) :=
  keepsS_grid fun s hx => drawOp_keeps hQ hx.pen (hf s.attrs)

theorem lf_keeps (hQ : OpsKeep W A Q) : KeepsS W (ScreenP A Q) Screen.lf :=
  keepsS_grid (k := fun _ g => do let (g, _) ← g.rowIncScroll 1; pure g) fun _ _ g hi hl h => by
    obtain ⟨e, st⟩ := rowIncScroll_ok hi hl
    exact ⟨_, by simp [e], st, hQ.rowIncScroll hi hl h e⟩

theorem su_keeps (hQ : OpsKeep W A Q) (n : Nat) : KeepsS W (ScreenP A Q) (fun s => s.su n) :=
  keepsS_grid (k := fun _ g => g.scrollUp n) fun _ _ =>
    .of (fun _ h l => total_scrollUp h l n) fun _ _ hi hl h e =>
      hQ.lines (scrollUp_scrolled (hl ▸ Nat.lt_of_le_of_lt hi.region_le hi.region_lt) e) h

theorem text_keeps (hQ : OpsKeep W A Q) (hW32 : W 32 = some 1) {c : Nat} (hs : isScalar c = true) (hc : c ≠ 0xFFFD) :
    KeepsS W (ScreenP A Q) (fun s => s.text W c) :=
  keepsS_grid (k := fun s g => g.text W s.attrs c) fun s hx =>
    .of (fun _ h l => text_total h l hW32 s.attrs hs) (hQ.text hx.pen hs hc)

theorem good_modAttrs {ws : WS} (h : Good W ws) (f : Attrs → Attrs) : Good W (ws.modAttrs f) :=
  screenInv_congr h rfl rfl rfl

theorem eventOk_of_ne_resize {e : Event} (h : ∀ r c, e ≠ .resize r c) : EventOk e := by
  cases e with
  | resize r c => exact absurd rfl (h r c)
  | _ => trivial

theorem perform_total_keeps (hQ : OpsKeep W A Q) (hW32 : W 32 = some 1) {cb : CbPolicy} (hcb : CbInv W cb)
    (hcs : CbKeepsCond W (ScreenP A Q) cb) (a : Action) (ha : ActionOk a) :
    StepT W (ScreenP A Q) (fun ws => perform W cb ws a) := by
  have hunh : ∀ e, (∀ r c, e ≠ .resize r c) → StepT W (ScreenP A Q) (emit cb e) :=
    fun e he => stepT_emit hcb hcs e (eventOk_of_ne_resize he)
  exact C12.perform_cases W (C := fun a F => ActionOk a → StepT W (ScreenP A Q) (F cb))
    (nop := fun _ _ => stepT_pure)
    (emit := fun _ e he _ => hunh e he)
    (emit2 := fun _ e1 e2 h1 h2 _ => stepT_bind (hunh e1 h1) (hunh e2 h2))
    (draw := fun _ _ hf _ => stepT_onScreen (draw_keeps hQ hf))
    (deckpam := fun _ _ => stepT_modes Screen.deckpam fun _ => ⟨rfl, rfl, rfl, rfl, rfl⟩)
    (deckpnm := fun _ _ => stepT_modes Screen.deckpnm fun _ => ⟨rfl, rfl, rfl, rfl, rfl⟩)
    (lf := fun _ _ _ => stepT_onScreen (lf_keeps hQ))
    (text := fun _ _ hc ha => stepT_onScreen (text_keeps hQ hW32 ha hc))
    (su := fun _ _ _ => stepT_onScreen (su_keeps hQ _))
    (decsc := fun _ _ => stepT_onScreen (saveCursor_keeps hQ))
    (decrc := fun _ _ => stepT_onScreen (restoreCursor_keeps hQ))
    (ris := fun _ _ => stepT_onScreen (ris_keeps hQ))
    (decstbm := fun ps _ _ => stepT_onScreen (decstbm_keeps hQ ps))
    (resize := fun ps _ ha ws hg hx =>
      -- the size reported to `resize` is a parameter or the present size, both `u16`
      stepT_emit hcb hcs (.resize _ _) ⟨xtArg_le (fun p hp => ha p (List.mem_of_mem_tail hp)) _ hg.cur.1.rows_u16,
        xtArg_le (fun p hp => ha p (List.mem_of_mem_tail (List.mem_of_mem_tail hp))) _ hg.cur.1.cols_u16⟩ ws hg hx)
    (seq := fun _ _ _ p h ha => stepT_fold (ok := (· ∈ p)) _ (fun st hst => h st hst ha) p fun _ h => h)
    -- SGR puts nothing but byte colours into the pen
    (pen := fun _ _ t ht _ ws hg hx => ⟨_, rfl, good_modAttrs hg t, ScreenP.setPen hQ _ _ hx (ht _)⟩)
    (mode := fun _ _ _ _ E _ _ => stepT_modes (fun s => s.setModes (E (C10.modesOf s))) fun _ => ⟨rfl, rfl, rfl, rfl, rfl⟩)
    (origin := fun _ _ _ _ m _ _ => stepT_onScreen (keepsS_grid (k := fun _ g => g.setOriginMode m)
      fun _ _ => .of_rows hQ (fun _ h l => total_setOriginMode h l m) fun {g g'} e =>
        (C12.MPred.iff.mp ((C12.setOriginMode_passes m).footprint g) g' e).rows))
    (enter := fun _ _ _ _ => stepT_onScreen (enterAlternateGrid_keeps hQ))
    (save1049 := fun _ _ _ _ _ => stepT_onScreen (saveCursor_keeps hQ))
    (clear1049 := fun _ _ _ _ _ => stepT_onScreen fun _ hs hx =>
      let ⟨ag, e, h⟩ := clearAlt_keeps hQ hs hx; ⟨_, by rw [e]; rfl, h⟩)
    (exit := fun _ _ _ _ _ ws hg hx => ⟨_, rfl, exitAlternateGrid_keeps hg hx⟩)
    (restore1049 := fun _ _ _ _ _ => stepT_onScreen (restoreCursor_keeps hQ))
    a ha

theorem inv_perform (hW32 : W 32 = some 1) {cb : CbPolicy} (hcb : CbInv W cb)
    (ws : WS) (hg : ScreenInv W ws.screen) (a : Action) (ha : ActionOk a) :
    ∃ ws', perform W cb ws a = .ok ws' ∧ ScreenInv W ws'.screen :=
  let ⟨ws', e, g, _⟩ := perform_total_keeps opsKeep_true hW32 hcb cbKeepsCond_true a ha ws hg (screenP_true _)
  ⟨ws', e, g⟩

structure ParserInv (W : Nat → Option Nat) (p : Parser) : Prop where
  screen : ScreenInv W p.ws.screen
  vte : VteOk p.vte

theorem process_total_keeps (hQ : OpsKeep W A Q) (hW32 : W 32 = some 1) {cb : CbPolicy} (hcb : CbInv W cb)
    (hcs : CbKeepsCond W (ScreenP A Q) cb) {p : Parser} (hp : ParserInv W p) (hx : ScreenP A Q p.ws.screen)
    (bytes : List Nat) :
    ∃ p', p.process W cb bytes = .ok p' ∧ ParserInv W p' ∧ ScreenP A Q p'.ws.screen := by
  obtain ⟨v1, a1⟩ := good_advance p.vte bytes hp.vte
  obtain ⟨ws', e, i, x⟩ := stepT_fold (perform W cb) (fun a ha => perform_total_keeps hQ hW32 hcb hcs a ha)
    (p.vte.advance bytes).2 a1 p.ws hp.screen hx
  exact ⟨{ vte := (p.vte.advance bytes).1, ws := ws' }, by simp only [Parser.process, e, ok_bind, pure_eq_ok], ⟨i, v1⟩, x⟩

set_option linter.unusedVariables false in -- `hb` is not needed (`good_advance` holds of every list of numbers)
/-- **C03 / C13: `process` is total and keeps the invariant**, for every byte string (bytes are
`u8`), from every parser state satisfying the invariant, for every callback policy that is total
and keeps it -/
theorem process_total (hW32 : W 32 = some 1) {cb : CbPolicy} (hcb : CbInv W cb)
    (p : Parser) (hp : ParserInv W p) (bytes : List Nat) (hb : ∀ b ∈ bytes, b < 256) :
    ∃ p', p.process W cb bytes = .ok p' ∧ ParserInv W p' :=
  let ⟨p', e, i, _⟩ := process_total_keeps opsKeep_true hW32 hcb cbKeepsCond_true hp (screenP_true _) bytes
  ⟨p', e, i⟩

theorem new_parserInv (rows cols sb : Nat) (hr : 1 ≤ rows) (hc : 1 ≤ cols) (hr' : rows ≤ 65535)
    (hc' : cols ≤ 65535) : ∃ p, Parser.new rows cols sb = .ok p ∧ ParserInv W p := by
  have := inv_new W rows cols sb hr hc hr' hc'
  refine ⟨{ vte := Vte.new, ws := { screen := newScreen rows cols sb, events := [] } }, ?_, ?_, vteOk_new⟩
  · simp [Parser.new, this.1]
  · exact (inv_iff W _).mp this.2

/-- the public mutating API -/
inductive Op where
  | process (bytes : List Nat)
  | setSize (rows cols : Nat)
  | setScrollback (k : Nat)

/-- argument ranges of the Rust signatures (`&[u8]`, `u16`) and the contract `rows, cols ≥ 1` -/
def Op.Valid : Op → Prop
  | .process bytes => ∀ b ∈ bytes, b < 256
  | .setSize r c => 1 ≤ r ∧ r ≤ 65535 ∧ 1 ≤ c ∧ c ≤ 65535
  | .setScrollback _ => True

def applyOp (W : Nat → Option Nat) (cb : CbPolicy) (p : Parser) : Op → M Parser
  | .process bytes => p.process W cb bytes
  | .setSize r c => do
      let s ← p.ws.screen.setSize r c
      pure { p with ws := { p.ws with screen := s } }
  | .setScrollback k => do
      let s ← p.ws.screen.setScrollback k
      pure { p with ws := { p.ws with screen := s } }

theorem applyOp_total_keeps (hQ : OpsKeep W A Q) (hW32 : W 32 = some 1) {cb : CbPolicy} (hcb : CbInv W cb)
    (hcs : CbKeepsCond W (ScreenP A Q) cb) {p : Parser} (hp : ParserInv W p) (hx : ScreenP A Q p.ws.screen)
    (op : Op) (hv : op.Valid) : ∃ p', applyOp W cb p op = .ok p' ∧ ParserInv W p' ∧ ScreenP A Q p'.ws.screen := by
  cases op with
  | process bytes => exact process_total_keeps hQ hW32 hcb hcs hp hx bytes
  | setSize r c =>
    obtain ⟨s', e, i⟩ := inv_setSize hp.screen r c hv.1 hv.2.2.1 hv.2.1 hv.2.2.2
    exact ⟨{ p with ws := { p.ws with screen := s' } }, by simp [applyOp, e], ⟨i, hp.vte⟩, hx.setSize hQ.setSize r c e⟩
  | setScrollback k =>
    obtain ⟨s', e, i, x⟩ := setScrollback_keeps hQ k _ hp.screen hx
    exact ⟨{ p with ws := { p.ws with screen := s' } }, by simp [applyOp, e], ⟨i, hp.vte⟩, x⟩

theorem applyOp_total (hW32 : W 32 = some 1) {cb : CbPolicy} (hcb : CbInv W cb)
    (p : Parser) (hp : ParserInv W p) (op : Op) (hv : op.Valid) :
    ∃ p', applyOp W cb p op = .ok p' ∧ ParserInv W p' :=
  let ⟨p', e, i, _⟩ := applyOp_total_keeps opsKeep_true hW32 hcb cbKeepsCond_true hp (screenP_true _) op hv
  ⟨p', e, i⟩

/-- **every reachable screen satisfies `Inv` and the condition on the lines, and nothing on the way can fail**:
every history of `process` / `set_size` / `set_scrollback` calls from `Parser::new`, any bytes, any chunking -/
theorem reachable_keeps (hQ : OpsKeep W A Q) (hW32 : W 32 = some 1) {cb : CbPolicy} (hcb : CbInv W cb)
    (hcs : CbKeepsCond W (ScreenP A Q) cb)
    (rows cols sb : Nat) (hr : 1 ≤ rows) (hc : 1 ≤ cols) (hr' : rows ≤ 65535) (hc' : cols ≤ 65535)
    (ops : List Op) (hv : ∀ op ∈ ops, op.Valid) :
    ∃ p, (Parser.new rows cols sb >>= fun p0 => ops.foldlM (applyOp W cb) p0) = .ok p ∧ ParserInv W p ∧
      ScreenP A Q p.ws.screen := by
  obtain ⟨p0, e0, i0⟩ := new_parserInv (W := W) rows cols sb hr hc hr' hc'
  have x0 : ScreenP A Q p0.ws.screen := by
    obtain ⟨s, hs, e0⟩ := bind_eq_ok.mp e0
    cases e0
    exact ScreenP.new hQ hs
  rw [e0, ok_bind]
  clear e0
  induction ops generalizing p0 with
  | nil => exact ⟨p0, rfl, i0, x0⟩
  | cons op rest ih =>
    obtain ⟨p1, e1, i1, x1⟩ := applyOp_total_keeps hQ hW32 hcb hcs i0 x0 op (hv op List.mem_cons_self)
    obtain ⟨p2, e2, i2, x2⟩ := ih (fun o ho => hv o (List.mem_cons_of_mem _ ho)) p1 i1 x1
    exact ⟨p2, by rw [List.foldlM_cons, e1]; exact e2, i2, x2⟩

/-- **reachable states satisfy the invariant, and nothing on the way can fail**: every history of
`process` / `set_size` / `set_scrollback` calls from `Parser::new` -/
theorem reachable_inv (hW32 : W 32 = some 1) {cb : CbPolicy} (hcb : CbInv W cb)
    (rows cols sb : Nat) (hr : 1 ≤ rows) (hc : 1 ≤ cols) (hr' : rows ≤ 65535) (hc' : cols ≤ 65535)
    (ops : List Op) (hv : ∀ op ∈ ops, op.Valid) :
    ∃ p, (Parser.new rows cols sb >>= fun p0 => ops.foldlM (applyOp W cb) p0) = .ok p ∧ ParserInv W p :=
  let ⟨p, e, i, _⟩ := reachable_keeps opsKeep_true hW32 hcb cbKeepsCond_true rows cols sb hr hc hr' hc' ops hv
  ⟨p, e, i⟩

/-- non-vacuity: the concrete width function `W0` satisfies the assumption -/
example : W0 32 = some 1 := by decide

end Vt.C13
