/-
  C01 — full redraw (contents_formatted / state_formatted) reproduces the screen.

  This file holds the witness and the kernel-evaluated examples:
  * `F9_witness` : the known finding — with a scrolled view and the cursor in the pending-wrap
    column the redraw does NOT reproduce the visible state (kernel-evaluated on the model).
  * `redraw_examples` : kernel-evaluated reproductions of non-trivial screens, on a fresh and on a
    dirty receiver, with byte-identical re-emission.  These are tests of the model, not the universal
    claim; the correspondence check ties the model's emitters to the code.
-/
import Vt.Spec.Obs
import Vt.Props.C02
namespace Vt.C01

/-- does a fresh parser fed `S.state_formatted()` end observably equal to `S`, and re-emit the
same bytes (at offset 0)? `dirty`: bytes fed to the receiver first. -/
def reproduces (S : Screen) (dirty : List Nat) : M Bool := do
  let q ← Parser.new S.cur.size.rows S.cur.size.cols 0
  let q ← q.process W0 cbNone dirty
  let f ← S.stateFormatted
  let q ← q.process W0 cbNone f
  let a ← obs S
  let b ← obs q.screen
  let again ← q.screen.stateFormatted
  pure (obsEq (S.cur.scrollbackOffset != 0) a b && (S.cur.scrollbackOffset != 0 || again == f))

/-- F9: 3x4, capacity 5, "aaaa\r\nbbb\r\ncc\r\ndd\r\neeee", set_scrollback(1) -/
theorem F9_witness : C02.isOkFalse (do
    let p ← C02.run 3 4 5 [[97, 97, 97, 97, 13, 10, 98, 98, 98, 13, 10, 99, 99, 13, 10, 100, 100, 13, 10, 101, 101, 101, 101]]
    let s ← p.screen.setScrollback 1
    reproduces s []) = true := by decide +kernel

theorem redraw_examples :
    isOkTrue (do
      -- wide + combining + colour + wrapped row + pending-wrap cursor
      let p ← C02.run 3 4 0 [[0x1b, 0x5b, 0x33, 0x31, 0x3b, 0x34, 0x6d, 97, 0xCC, 0x81, 0xE4, 0xB8, 0x80, 98, 99, 100, 101, 102]]
      reproduces p.screen []) = true ∧
    isOkTrue (do
      -- dirty receiver, alternate screen, modes, hidden cursor, region
      let p ← C02.run 4 5 3 [[0x1b, 0x5b, 0x3f, 0x31, 0x30, 0x34, 0x39, 0x68, 0x1b, 0x5b, 0x3f, 0x32, 0x35, 0x6c, 0x1b, 0x3d,
                              0x1b, 0x5b, 0x32, 0x3b, 0x33, 0x72, 120, 121, 13, 10, 10, 10, 122, 0x1b, 0x5b, 0x3f, 0x31, 0x30, 0x30, 0x32, 0x68]]
      reproduces p.screen [0x1b, 0x5b, 0x34, 0x31, 0x6d, 113, 113, 113, 113, 113, 113, 113]) = true ∧
    isOkTrue (do
      -- scrolled view without pending wrap: reproduces up to the exempt flag
      let p ← C02.run 3 4 5 [[97, 97, 97, 97, 98, 13, 10, 99, 13, 10, 100, 13, 10, 101]]
      let s ← p.screen.setScrollback 2
      reproduces s []) = true := by decide +kernel

end Vt.C01
