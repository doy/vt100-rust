/-
  C18 — callback events are exact and in order; unimplemented input is inert.

  The classification shape by shape, with a callback object that does not itself modify the screen (`cbNone`, i.e.
  `impl Callbacks for ()` or any recording callbacks).  Every action in one table, for every callback policy: C18all.
-/
import Vt.Lemmas.PerformCases
namespace Vt.C18
open Vt

variable (W : Nat → Option Nat) (ws : WS)

/-- state unchanged, exactly these events appended -/
def Reports (r : M WS) (ws : WS) (evs : List Event) : Prop :=
  r = .ok { screen := ws.screen, events := ws.events ++ evs }

theorem emit_none (e : Event) : Reports (emit cbNone e ws) ws [e] := by
  simp [Reports, emit, cbNone]

/-- C0 controls other than BEL BS HT LF VT FF CR SO SI, and C1 controls: one `unhandled_control` -/
theorem execute_inert (b : Nat) (h : b < 7 ∨ 15 < b) :
    Reports (perform W cbNone ws (.execute b)) ws [.unhandledControl b] := by
  rw [perform, performExecute_other ws cbNone b h]; exact emit_none ws _

/-- a C1 control character reaching `print` (split UTF-8) is reported like the unsplit one -/
theorem print_c1_inert (c : Nat) (h : 0x80 ≤ c ∧ c < 0xA0) :
    Reports (perform W cbNone ws (.print c)) ws [.unhandledControl c] := by
  have h1 : (decide (0x80 ≤ c) && decide (c < 0xA0)) = true := by simp [h]
  simp only [perform, performPrint, h1, ↓reduceIte]
  exact execute_inert W ws c (Or.inr (by omega))

/-- U+FFFD (invalid input) is reported as `unhandled_char` and never drawn -/
theorem print_replacement_inert :
    Reports (perform W cbNone ws (.print 0xFFFD)) ws [.unhandledChar 0xFFFD] :=
  emit_none ws _

theorem bell : Reports (perform W cbNone ws (.execute 7)) ws [.audibleBell] := emit_none ws _

theorem si_so_inert (b : Nat) (h : b = 14 ∨ b = 15) : perform W cbNone ws (.execute b) = .ok ws := by
  rcases h with rfl | rfl <;> rfl

theorem dcs_inert (a : Action)
    (h : (∃ p i g c, a = .hook p i g c) ∨ (∃ b, a = .put b) ∨ a = .unhook) :
    perform W cbNone ws a = .ok ws := by
  rcases h with ⟨p, i, g, c, rfl⟩ | ⟨b, rfl⟩ | rfl <;> rfl

/-- ESC with intermediates: never implemented -/
theorem esc_intermediate_inert (i : Nat) (rest : List Nat) (ig : Bool) (b : Nat) :
    Reports (perform W cbNone ws (.escDispatch (i :: rest) ig b)) ws
      [.unhandledEscape (some i) rest.head? b] :=
  emit_none ws _

theorem esc_inert (ig : Bool) (b : Nat) (h : escImplemented b = false) :
    Reports (perform W cbNone ws (.escDispatch [] ig b)) ws [.unhandledEscape none none b] := by
  rw [perform, performEsc_other ws cbNone b h]; exact emit_none ws _

theorem vbell (ig : Bool) : Reports (perform W cbNone ws (.escDispatch [] ig 103)) ws [.visualBell] := emit_none ws _

/-- CSI with an intermediate/private marker other than `?` -/
theorem csi_intermediate_inert (i : Nat) (rest : List Nat) (params : List (List Nat)) (ig : Bool) (c : Nat)
    (hi : i ≠ 63) :
    Reports (perform W cbNone ws (.csiDispatch params (i :: rest) ig c)) ws
      [.unhandledCsi (some i) rest.head? params c] := by
  rw [perform, performCsi_intermediate ws cbNone params i rest c hi]; exact emit_none ws _

theorem csi_inert (params : List (List Nat)) (ig : Bool) (c : Nat) (h : csiImplemented c = false) :
    Reports (perform W cbNone ws (.csiDispatch params [] ig c)) ws [.unhandledCsi none none params c] := by
  rw [perform, performCsi_other ws cbNone params c h]; exact emit_none ws _

/-- `CSI ? … c` for finals other than J K h l -/
theorem csi_private_inert (rest : List Nat) (params : List (List Nat)) (ig : Bool) (c : Nat)
    (h : c ≠ 74 ∧ c ≠ 75 ∧ c ≠ 104 ∧ c ≠ 108) :
    Reports (perform W cbNone ws (.csiDispatch params (63 :: rest) ig c)) ws
      [.unhandledCsi (some 63) rest.head? params c] := by
  rw [perform, performCsi_private_other ws cbNone params rest c h]; exact emit_none ws _

/-- `CSI 8 ; r ; c t`: one `resize` event; absent values default to the current size -/
theorem xtwinops_resize (rest : List (List Nat)) (sub : List Nat) (ig : Bool) :
    Reports (perform W cbNone ws (.csiDispatch ((8 :: sub) :: rest) [] ig 116)) ws
      [.resize (xtArg rest ws.screen.size.rows) (xtArg rest.tail ws.screen.size.cols)] :=
  emit_none ws _

/-- `CSI t` with any other first parameter -/
theorem xtwinops_other_inert (params : List (List Nat)) (ig : Bool)
    (h : xtOp params ≠ some 8) :
    Reports (perform W cbNone ws (.csiDispatch params [] ig 116)) ws [.unhandledCsi none none params 116] := by
  show Reports (if xtOp params == some 8 then _ else _) ws _
  rw [if_neg (by simpa using h)]
  exact emit_none ws _

theorem osc_0 (s : List Nat) (bellT : Bool) :
    Reports (perform W cbNone ws (.oscDispatch [[48], s] bellT)) ws [.setWindowIconName s, .setWindowTitle s] := by
  simp [perform, performOsc, Reports, emit, cbNone]
theorem osc_1 (s : List Nat) (bellT : Bool) :
    Reports (perform W cbNone ws (.oscDispatch [[49], s] bellT)) ws [.setWindowIconName s] := by
  simp [perform, performOsc, Reports, emit, cbNone]
theorem osc_2 (s : List Nat) (bellT : Bool) :
    Reports (perform W cbNone ws (.oscDispatch [[50], s] bellT)) ws [.setWindowTitle s] := by
  simp [perform, performOsc, Reports, emit, cbNone]

theorem osc_inert (params : List (List Nat)) (bellT : Bool)
    (h : ∀ s, params ≠ [[48], s] ∧ params ≠ [[49], s] ∧ params ≠ [[50], s]) :
    Reports (perform W cbNone ws (.oscDispatch params bellT)) ws [.unhandledOsc params] := by
  simp only [perform, performOsc]
  split
  · rename_i s; exact absurd rfl (h s).1
  · rename_i s; exact absurd rfl (h s).2.1
  · rename_i s; exact absurd rfl (h s).2.2
  · exact emit_none ws _

theorem ed_unknown_inert (params : List (List Nat)) (ig : Bool) (h : 3 ≤ canon1 params 0) :
    Reports (perform W cbNone ws (.csiDispatch params [] ig 74)) ws [.unhandledCsi none none params 74] := by
  show Reports (ed _ (canon1 params 0) ws) ws _
  match canon1 params 0, h with
  | _ + 3, _ => exact emit_none ws _

theorem el_unknown_inert (params : List (List Nat)) (ig : Bool) (h : 3 ≤ canon1 params 0) :
    Reports (perform W cbNone ws (.csiDispatch params [] ig 75)) ws [.unhandledCsi none none params 75] := by
  show Reports (el _ (canon1 params 0) ws) ws _
  match canon1 params 0, h with
  | _ + 3, _ => exact emit_none ws _

theorem emit_appends (cb : CbPolicy) (e : Event) (ws ws' : WS) (h : emit cb e ws = .ok ws') :
    ws'.events = ws.events ++ [e] := by
  simp only [emit] at h
  obtain ⟨s, _, h2⟩ := bind_eq_ok.mp h
  simp only [pure_eq_ok, Except.ok.injEq] at h2
  subst h2; rfl

end Vt.C18
