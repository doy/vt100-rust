/-
  Vt.Props.C15win — C15, the clause about column windows: drawing row `i` of `rows_formatted(start, width)`
  at `(i, start)` on a blank line reproduces the cells inside the window, when the window's edges do not
  split a wide character.

  Without wrap-through `write_contents_formatted` emits what `write_contents_diff` emits against a line of blank default
  cells with the same wrap flag (`wcf_window_eq`), so `row_window_draws` is the window theorem of the diff
  (`C15wrap.row_window_diff_draws_flag`, Props/DiffLine) against such a line, with "the flag is off" as the predicate on the
  receiving line's wrap flag; so is the DIFF on a window for lines that are not soft-wrapped (`row_window_diff_draws`).
-/
import Vt.Props.RowDraw
import Vt.Props.DiffLine
namespace Vt.C15win
open Vt Vt.Recv Vt.C19 Vt.C09 Vt.C03 Vt.RowDraw Vt.DiffRow Vt.Bytes

variable {W : Nat → Option Nat} {cb : CbPolicy}

/-- the receiving line once the window `[s, e)` of `src` has been drawn: `src` before column `e`, blanks with one set of attributes from `e` on -/
structure Shown (src : List Cell) (e : Nat) (Ri : Row) : Prop where
  unwrapped : Ri.wrapped = false
  length : Ri.cells.length = src.length
  len22 : ∀ c ∈ Ri.cells, c.contents.length = 22
  agree : ∀ k (hk : k < src.length), k < e → (Ri.cells.map view)[k]? = some (view src[k])
  rest : ∃ a, ∀ k, e ≤ k → k < src.length → (Ri.cells.map view)[k]? = some (blankA a)

/-- the blank previous line gets `sr`'s wrap flag, so that `diffEnd` writes nothing -/
theorem wcf_window_eq (sr : Row) (s n i : Nat) (pw : Bool) :
    sr.writeContentsFormatted s n i false none none =
      sr.writeContentsDiff ⟨List.replicate sr.cells.length Cell.new, sr.wrapped⟩ s n i false pw ⟨i, s⟩ Attrs.default := by
  unfold Row.writeContentsDiff
  rw [diffStart_false, Fmt.wcf_eq]
  simp only [Fmt.wcfPos, Fmt.wcfStart, Bool.false_and, Bool.false_eq_true, ↓reduceIte, Option.getD_none, Row.cols, ok_bind,
    pure_eq_ok, C14.window_enum, fold_fmt_window]
  exact congrArg _ (funext fun st => (diffEnd_flag_kept sr _ i _ rfl).symm)

/-- **one line of `rows_formatted(start, width)`** (never wrap-through: `rows_formatted` passes
`wrapping = false` for a proper window): for a window `[start, start + width)` whose edges do not split a
wide character of the source line, processing the bytes of `write_contents_formatted` on a receiver whose
line `i` is blank, whose cursor is at `(i, start)` and whose pen is the default one, makes the window of
line `i` show the source cell for cell, leaves the columns left of the window blank, leaves the line
unwrapped; the columns right of the window are blank cells all with the same attributes (not necessarily
the default ones: a run of empty cells with attributes that reaches the right edge of the window is flushed
as `EL`, which runs to the end of the LINE); cursor and pen end at the `prev_pos` / `prev_attrs` the emitter
returns; everything else on the receiver is as before -/
theorem row_window_draws (hW : WOk W) (p0 : Parser) (hr : Ready p0) (hcv : Canvas (rsOf p0.ws).g)
    (i : Nat) (hi : i < (rsOf p0.ws).g.size.rows) (sr : Row) (hlen : sr.cells.length = (rsOf p0.ws).g.size.cols)
    (hS : SrcOk W sr.cells) (start width : Nat) (hwd : 0 < width) (hfit : start + width ≤ sr.cells.length)
    (hL : start = 0 ∨ ∀ c, sr.cells[start]? = some c → c.cont = false)
    (hR : start + width = sr.cells.length ∨ ∀ c, sr.cells[start + width]? = some c → c.cont = false)
    (Ri0 : Row) (hrow : (rsOf p0.ws).g.rows[i]? = some Ri0) (hblank : Line sr.cells 0 Ri0)
    (hpos : (rsOf p0.ws).g.pos = ⟨i, start⟩) (hpen : (rsOf p0.ws).pen = Attrs.default) :
    ∃ out np na, sr.writeContentsFormatted start width i false none none = .ok (out, np, na) ∧
      ∃ Ri, Emitted W cb p0 out (shape (rsOf p0.ws) i Ri np na) ∧
        (∀ k, start ≤ k → k < start + width → (Ri.cells[k]?).map view = (sr.cells[k]?).map view) ∧
        (∀ k, k < start → (Ri.cells[k]?).map view = some blankV) ∧
        (∃ a, ∀ k, start + width ≤ k → k < sr.cells.length → (Ri.cells[k]?).map view = some (blankA a)) ∧
        Ri.wrapped = false ∧ Ri.cells.length = sr.cells.length ∧ (∀ c ∈ Ri.cells, c.contents.length = 22) ∧
        (((sr.cells[start + width - 1]'(by omega)).hasContents = true ∨
            (sr.cells[start + width - 1]'(by omega)).cont = true) →
          np = ⟨i, start + width⟩ ∧
          ∀ k, start + width ≤ k → k < sr.cells.length → (Ri.cells[k]?).map view = some blankV) := by
  let pr : Row := ⟨List.replicate sr.cells.length Cell.new, sr.wrapped⟩
  have hB : ∀ k, k < sr.cells.length → (pr.cells[k]?).map view = some blankV := fun k hk => by
    show ((List.replicate sr.cells.length Cell.new)[k]?).map view = _
    rw [List.getElem?_replicate, if_pos hk, Option.map_some, view_new]
  have hBc : ∀ k (c : Cell), pr.cells[k]? = some c → c.cont = false := fun k c hc => by
    rw [(List.mem_replicate.mp (List.mem_of_getElem? (l := pr.cells) hc)).2]; rfl
  obtain ⟨out, np, na, e, ⟨Ri, hem, w1, w2, hrest, hq, w3, hwf, hpp⟩, -⟩ :=
    C15wrap.row_window_diff_draws_flag (cb := cb) hW p0 hr hcv i hi sr pr hlen (List.length_replicate.trans hlen) hS
      (srcOk_blank _) start width hwd hfit hL (Or.inr (hBc _)) hR Ri0 hrow (shows_blank hblank)
      (lineWf_of_blank hblank) (by rw [hpos, ← hlen]; show start ≤ sr.cells.length; omega) false
      (fun h1 h2 => absurd (h1.symm.trans h2) (by simp)) (Q := (· = false)) (fun _ _ => rfl) hblank.unwrapped
  rw [hpos, hpen] at e
  refine ⟨out, np, na, (wcf_window_eq sr start width i false).trans e, Ri, hem, w1,
    fun k hk => (w2 k hk).trans (hB k (by omega)), ?_, hq, w3, hwf.len22, fun hocc => ?_⟩
  · exact (hrest rfl (hBc _)).elim (fun h => ⟨Attrs.default, fun k h1 h2 => (h k h1 h2).trans (hB k h2)⟩) id
  · obtain ⟨h1, h2⟩ := hpp rfl (typedAt_blank hS (by omega) hocc)
    exact ⟨h1, fun k hk1 hk2 => (h2 (hBc _) k hk1 hk2).trans (hB k hk2)⟩

/-- the receiving line once the window `[s, e)` has been diffed: the masked source before column `e`; from `e` on the previous line, or blanks -/
structure ShownD (S P : List Cell) (e : Nat) (Ri : Row) : Prop where
  unwrapped : Ri.wrapped = false
  length : Ri.cells.length = S.length
  agree : ∀ k (hk : k < S.length), k < e → (Ri.cells.map view)[k]? = some (view S[k])
  rest : (∀ c, P[e]? = some c → c.cont = false) →
    (∀ k, e ≤ k → k < S.length → (Ri.cells.map view)[k]? = P[k]?.map view) ∨
    (∃ a, ∀ k, e ≤ k → k < S.length → (Ri.cells.map view)[k]? = some (blankA a))

set_option linter.unusedVariables false in -- `hcb`: of the parser invariant `hpi` only `LineWf` of line `i` is used
/-- **one line of `rows_diff(prev, start, width)`** (unwrapped lines): for a window `[start, start + width)` whose
left edge splits a wide character of neither line and whose right edge does not split one of the current line,
on a receiver (a parser satisfying the invariant) whose line `i` shows the previous line `pr`, processing the bytes
of `sr.write_contents_diff(pr, start, width, …)` makes the window of line `i` show the current line `sr` cell for
cell and leaves the columns left of the window as they were; the columns right of the window either are as they
were (given the right edge does not split a wide character of `pr`) or have all been blanked with the same
attributes (the window ends inside a run of changed empty cells, which is flushed as `EL` — that runs to the end
of the LINE, not of the window) -/
theorem row_window_diff_draws (hW : WOk W) (hcb : C13.CbInv W cb) (p0 : Parser) (hr : Ready p0) (hpi : C13.ParserInv W p0)
    (hcv : Canvas (rsOf p0.ws).g) (i : Nat) (hi : i < (rsOf p0.ws).g.size.rows) (sr pr : Row)
    (hlen : sr.cells.length = (rsOf p0.ws).g.size.cols) (hplen : pr.cells.length = (rsOf p0.ws).g.size.cols)
    (hS : SrcOk W sr.cells) (hP : SrcOk W pr.cells) (hsu : sr.wrapped = false) (hpu : pr.wrapped = false)
    (start width : Nat) (hwd : 0 < width) (hfit : start + width ≤ sr.cells.length)
    (hL : start = 0 ∨ ∀ c, sr.cells[start]? = some c → c.cont = false)
    (hLp : start = 0 ∨ ∀ c, pr.cells[start]? = some c → c.cont = false)
    (hR : start + width = sr.cells.length ∨ ∀ c, sr.cells[start + width]? = some c → c.cont = false)
    (Ri0 : Row) (hrow : (rsOf p0.ws).g.rows[i]? = some Ri0) (hshow : Ri0.cells.map view = pr.cells.map view)
    (hRu : Ri0.wrapped = false) (hpc : (rsOf p0.ws).g.pos.col ≤ (rsOf p0.ws).g.size.cols) (pw : Bool) :
    ∃ out np na, sr.writeContentsDiff pr start width i false pw (rsOf p0.ws).g.pos (rsOf p0.ws).pen = .ok (out, np, na) ∧
      (∃ Ri, Emitted W cb p0 out (shape (rsOf p0.ws) i Ri np na) ∧
        (∀ k, start ≤ k → k < start + width → (Ri.cells[k]?).map view = (sr.cells[k]?).map view) ∧
        (∀ k, k < start → (Ri.cells[k]?).map view = (pr.cells[k]?).map view) ∧
        ((∀ c, pr.cells[start + width]? = some c → c.cont = false) →
          (∀ k, start + width ≤ k → k < sr.cells.length → (Ri.cells[k]?).map view = (pr.cells[k]?).map view) ∨
          (∃ a, ∀ k, start + width ≤ k → k < sr.cells.length → (Ri.cells[k]?).map view = some (blankA a))) ∧
        Ri.wrapped = false ∧ Ri.cells.length = sr.cells.length) ∧
      Bytes out ∧ np.col ≤ (rsOf p0.ws).g.size.cols ∧ (Attrs.wf (rsOf p0.ws).pen → Attrs.wf na) := by
  obtain ⟨out, np, na, e, ⟨Ri, hem, w1, w2, hrest, hq, w3, _⟩, hb⟩ :=
    C15wrap.row_window_diff_draws_flag hW p0 hr hcv i hi sr pr hlen hplen hS hP start width hwd hfit hL hLp hR Ri0
      hrow hshow (lineWf_of_parserInv hpi hrow) hpc pw (fun _ h => by rw [hpu] at h; exact absurd h (by simp)) (Q := (· = false)) (fun _ _ => rfl) hRu
  exact ⟨out, np, na, e, ⟨Ri, hem, w1, w2, hrest (hsu.trans hpu.symm), hq, w3⟩, hb⟩

end Vt.C15win
