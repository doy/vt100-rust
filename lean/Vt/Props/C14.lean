/-
  C14 — plain-text views are exactly the projection of the cells and wrap flags.

  `rowText` is the positional projection of one row onto a column window
  (continuation of a wide cell skipped, blanks before a later non-empty cell rendered as
  spaces, trailing blanks dropped).  The accessors are computed from it in C14b.
-/
import Vt.Lemmas.Inv
namespace Vt.C14
open Vt

theorem contents_between_empty_after (s : Screen) (r1 c1 r2 c2 : Nat) (h : r2 < r1) :
    s.contentsBetween r1 c1 r2 c2 = .ok [] := by
  simp [Screen.contentsBetween, Nat.lt_asymm h, Nat.ne_of_gt h]

theorem contents_between_same_row_empty (s : Screen) (r c1 c2 : Nat) (h : c2 ≤ c1) :
    s.contentsBetween r c1 r c2 = .ok [] := by
  simp [Screen.contentsBetween, Nat.not_lt.mpr h]

theorem contents_between_same_row (s : Screen) (r c1 c2 : Nat) (h : c1 < c2) :
    s.contentsBetween r c1 r c2 =
      (s.rows c1 (c2 - c1) >>= fun rs => pure (rs[r]?.getD [])) := by
  simp [Screen.contentsBetween, h]

/-- `contents()` strips exactly the trailing newlines -/
theorem strip_spec (l : List Nat) :
    ∃ k, l = Grid.stripTrailingNewlines l ++ List.replicate k 10 ∧
      (Grid.stripTrailingNewlines l).getLast? ≠ some 10 := by
  unfold Grid.stripTrailingNewlines
  obtain ⟨r, rfl⟩ : ∃ r : List Nat, l = r.reverse := ⟨_, (List.reverse_reverse l).symm⟩
  rw [List.reverse_reverse]
  induction r with
  | nil => exact ⟨0, rfl, by simp⟩
  | cons x xs ih =>
    by_cases hx : x = 10
    · subst hx
      obtain ⟨k, h1, h2⟩ := ih
      rw [List.dropWhile_cons_of_pos (by rfl)]
      exact ⟨k + 1, by rw [List.reverse_cons, List.replicate_succ', ← List.append_assoc, ← h1], h2⟩
    · exact ⟨0, by simp [hx], by simp [hx]⟩

/-- the text of a list of consecutive cells, left to right; `pending` = blank columns since the last
emitted cell; `skip` = this column is the second half of an emitted wide cell -/
def rowTextAux : List Cell → Bool → Nat → List Nat
  | [], _, _ => []
  | c :: cs, skip, pending =>
    if skip then rowTextAux cs false pending
    else if c.hasContents then
      List.replicate pending 32 ++ c.contents.take c.len ++ rowTextAux cs c.isWide 0
    else rowTextAux cs false (pending + 1)

/-- the projection of a row onto the column window `[start, start+width)` -/
def rowText (r : Row) (start width : Nat) : List Nat :=
  rowTextAux ((r.cells.drop start).take width) false 0

theorem rowText_blank (cs : List Cell) (h : ∀ c ∈ cs, c.hasContents = false) (p : Nat) :
    rowTextAux cs false p = [] := by
  induction cs generalizing p with
  | nil => rfl
  | cons c cs ih =>
    have hc := h c (List.mem_cons_self)
    simp only [rowTextAux, Bool.false_eq_true, ↓reduceIte, hc]
    exact ih (fun c' hc' => h c' (List.mem_cons_of_mem _ hc')) _

end Vt.C14
