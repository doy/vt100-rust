/-
  Vt.Props.DiffType — typing a whole cell (a character and its combining characters) at ANY column of a line with room
  for it: the closed form `C05.printedRow` for the first character, then the combining characters land in the cell
  just written.  All it asks of the line is `LineWf`: the pairing of wide cells and second halves (`Links`) and full-size
  cell buffers — what a line SHOWS determines the first, and every write of a receiver keeps both (`typedRow_wf`; for
  erasing `C07.erase_range_links`, `C07.eraseRange_len22`).  Used by the row simulations (C01 / C02 / C15).
-/
import Vt.Props.C05b
import Vt.Lemmas.TypeCell
namespace Vt.Recv
open Vt Vt.C19

variable {W : Nat → Option Nat}

/-- the line after a whole cell has been typed at column `col`: `printedRow` for its first character, with the
cell at `col` holding the combining characters too -/
def typedRow (W : Nat → Option Nat) (r : Row) (col cols : Nat) (a : Attrs) (f : Nat) (cellF : Cell) : Row :=
  { cells := (C05.printedRow W r col cols a f (decide (C05.effWidth W f > 1))).cells.set col cellF
    wrapped := (C05.printedRow W r col cols a f (decide (C05.effWidth W f > 1))).wrapped }

def typedGrid (W : Nat → Option Nat) (g : Grid) (r : Row) (a : Attrs) (f : Nat) (cellF : Cell) : Grid :=
  { g with
    rows := g.rows.set g.pos.row (typedRow W r g.pos.col g.size.cols a f cellF)
    pos := ⟨g.pos.row, g.pos.col + C05.effWidth W f⟩ }

/-- what the closed forms of a receiver's writes need of the line written on -/
structure LineWf (r : Row) : Prop where
  links : Links r.cells
  /-- every cell buffer has its full size (`CONTENT_BYTES = 22` in cell.rs) -/
  len22 : ∀ c ∈ r.cells, c.contents.length = 22

theorem lineWf_of_inv {r : Row} (h : CellsInv W r.cells) : LineWf r :=
  ⟨h.links, fun c hc => (cellOk_fields W (h.cells_ok c hc)).1⟩

theorem cursor_line_wf {g : Grid} (hinv : GridInv W g true) (hl : g.rows.length = g.size.rows) :
    ∃ r, g.rows[g.pos.row]? = some r ∧ LineWf r ∧ r.cells.length = g.size.cols := by
  have hrow := List.getElem?_eq_getElem (show g.pos.row < g.rows.length by rw [hl]; exact hinv.pos_row)
  have hgood := hinv.row_ok _ (List.mem_of_getElem? hrow)
  exact ⟨_, hrow, lineWf_of_inv ((rowOk_iff W _).mp hgood.2).2, hgood.1⟩

/-- **typing a whole cell**, from the cursor line alone -/
theorem type_cell_links {g : Grid} {r : Row} (hr : g.rows[g.pos.row]? = some r) (hwf : LineWf r)
    (hlen : r.cells.length = g.size.cols) (hu : g.size.cols ≤ 65535) (hW32 : W 32 = some 1)
    (a : Attrs) (f : Nat) (zs : List Nat) (hnc : ¬ (W f = none ∧ f < 256)) (hw1 : 1 ≤ (W f).getD 1)
    (hz : ∀ z ∈ zs, W z = some 0) (hfit : g.pos.col + C05.effWidth W f ≤ g.size.cols)
    (hp : prefixOk (Utf8.encode f).length zs) :
    ∃ cellF, typeChars W a (f :: zs) g = .ok (typedGrid W g r a f cellF) ∧
      view cellF = typedView W a f zs ∧ cellF.contents.length = 22 := by
  have hw1' : 1 ≤ C05.effWidth W f := by unfold C05.effWidth; omega
  have hw2' : C05.effWidth W f ≤ 2 := by unfold C05.effWidth; omega
  have e1 := C05.text_fits_links hr hwf.links hlen hu hW32 a f hnc hw1' hfit
  have hcol : g.pos.col < r.cells.length := by rw [hlen]; omega
  have hc0 := List.getElem?_eq_getElem hcol
  generalize r.cells[g.pos.col] = cell0 at hc0
  let wide := decide (C05.effWidth W f > 1)
  let r1 := C05.printedRow W r g.pos.col g.size.cols a f wide
  have hr1c : r1.cells[g.pos.col]? = some (C05.setCell W cell0 f a) := by
    show (r.cells.mapIdx _)[g.pos.col]? = _
    rw [List.getElem?_mapIdx, hc0]
    simp only [Option.map_some, C05.printedCell, ↓reduceIte]
  -- the cell before the cursor after it: the one just set, or its second half
  have hprev : ∃ prev, r1.cells[g.pos.col + C05.effWidth W f - 1]? = some prev ∧
      ((prev.cont = true ∧ g.pos.col = g.pos.col + C05.effWidth W f - 2 ∧ 2 ≤ g.pos.col + C05.effWidth W f) ∨
        (prev.cont = false ∧ g.pos.col = g.pos.col + C05.effWidth W f - 1)) := by
    by_cases hwd : C05.effWidth W f = 1
    · rw [hwd]
      exact ⟨_, hr1c, Or.inr ⟨rfl, rfl⟩⟩
    · have hwd2 : C05.effWidth W f = 2 := by omega
      have hcol1 : g.pos.col + 1 < r.cells.length := by rw [hlen]; omega
      have hwt : wide = true := by show decide (C05.effWidth W f > 1) = true; rw [hwd2]; rfl
      rw [hwd2]
      refine ⟨C05.printedCell W r.cells g.pos.col a f wide (g.pos.col + 1) (r.cells[g.pos.col + 1]'hcol1), ?_,
        Or.inl ⟨?_, rfl, by omega⟩⟩
      · show (r.cells.mapIdx _)[g.pos.col + 2 - 1]? = _
        rw [List.getElem?_mapIdx, show g.pos.col + 2 - 1 = g.pos.col + 1 by omega, List.getElem?_eq_getElem hcol1]
        simp only [Option.map_some]
      · unfold C05.printedCell
        rw [if_neg (by omega), if_neg (fun h => by omega), if_pos rfl, hwt]
        simp only [↓reduceIte, C05.contOf, Cell.setWideContinuation]
  exact type_cell_rest W a f zs (row := r1) (cells := r1.cells) (hwf.len22 cell0 (List.mem_of_getElem? hc0))
    (Cell.set_eq W cell0 f a) e1 (getElem?_lt hr) hr1c (by omega) hfit hprev hz hp

theorem type_cell_any {g : Grid} (hinv : GridInv W g true) (hl : g.rows.length = g.size.rows) (hW32 : W 32 = some 1)
    (a : Attrs) (f : Nat) (zs : List Nat) (hnc : ¬ (W f = none ∧ f < 256)) (hw1 : 1 ≤ (W f).getD 1)
    (hz : ∀ z ∈ zs, W z = some 0) (hfit : g.pos.col + C05.effWidth W f ≤ g.size.cols)
    (hp : prefixOk (Utf8.encode f).length zs) :
    ∃ r cellF, g.rows[g.pos.row]? = some r ∧ typeChars W a (f :: zs) g = .ok (typedGrid W g r a f cellF) ∧
      view cellF = typedView W a f zs ∧ cellF.contents.length = 22 := by
  obtain ⟨r, hr, hwf, hlen⟩ := cursor_line_wf hinv hl
  obtain ⟨cellF, h⟩ := type_cell_links hr hwf hlen hinv.cols_u16 hW32 a f zs hnc hw1 hz hfit hp
  exact ⟨r, cellF, hr, h⟩

theorem typedRow_wf {r : Row} (h : LineWf r) {col cols : Nat} (a : Attrs) (f : Nat) (cellF : Cell)
    (hW32 : W 32 = some 1) (hw1 : 1 ≤ C05.effWidth W f) (hfit : col + C05.effWidth W f ≤ r.cells.length)
    (hwF : cellF.wide = decide ((W f).getD 1 > 1)) (hcF : cellF.cont = false) (h22 : cellF.contents.length = 22) :
    LineWf (typedRow W r col cols a f cellF) := by
  have hw2 : C05.effWidth W f ≤ 2 := Nat.min_le_right _ _
  have hwide : decide (C05.effWidth W f > 1) = decide ((W f).getD 1 > 1) := by
    unfold C05.effWidth; exact decide_eq_decide.mpr (by omega)
  have hcol : col < r.cells.length := by omega
  have hflag : ∀ k : Cell → Bool, cellFlag k (C05.printedRow W r col cols a f (decide (C05.effWidth W f > 1))).cells col =
      k (C05.setCell W r.cells[col] f a) := fun k => by
    simp [cellFlag, C05.printedRow, List.getElem?_mapIdx, List.getElem?_eq_getElem hcol, C05.printedCell]
  constructor
  · refine (C05.printedRow_links h.links hW32 cols a f hwide ?_).set_same ?_ ?_
    · split <;> rename_i hh <;> simp only [decide_eq_true_eq] at hh <;> omega
    · rw [hflag, hcF]; rfl
    · rw [hflag, hwF]; rfl
  · intro c hc
    rcases List.mem_or_eq_of_mem_set hc with hc | rfl
    · obtain ⟨i, hi, rfl⟩ := List.mem_mapIdx.mp hc
      exact C05.printedCell_len22 _ _ _ _ _ _ _ (h.len22 _ (List.getElem_mem hi))
    · exact h22

end Vt.Recv
