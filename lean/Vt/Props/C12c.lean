import Vt.Lemmas.WPred
import Vt.Lemmas.PerformCases
import Vt.Lemmas.Scrolls
import Vt.Lemmas.Modes
import Vt.Props.InvPerform
import Vt.Props.C12rec
/-
  C12c — scrollback, statements over ALL actions of the state machine.

  1. Offset irrelevance.  "Equal up to the scrollback offsets" is `x.forgetOff = y.forgetOff` (`Grid.forgetOff`,
     `Screen.forgetOff` on both grids, `WS.forgetOff`, `Parser.forgetOff`).  `Grid.forgetOff`, `Sim fo a b := fo a = fo b`
     and `GEq` / `PEq` are in Lemmas/Frame; `SEq` / `WEq` / `ParEq` here are `abbrev`s of `Sim _.forgetOff`, so the lemmas
     stated with them and the headline theorems, which spell the equation out, say the same.  Every grid operation reachable from `perform`
     respects it (`scrollUp` reads and writes the offset, but only the offset); the one hypothesis needed is that the
     callback policy cannot see the offsets (`CbResp`; `cbResp_needed` is the counterexample without it).
     `ops_offset_irrelevant` is the statement on the public API; `SEq.fields` / `SEq.live` / `SEq.same_view` are what the
     relation gives the user.
  2. History frame.  `perform_keep_ok`, `perform_frame`, `perform_region_keep` are the projections of `perform_hist`: one
     pass over the steps of `perform` (`perform_cases`), every step judged by the fields of the grid it can change
     (Vt/Lemmas/Frame.lean).  `actions_ext` / `process_ext`: append-only along any input without RIS.
-/
namespace Vt.C12
open Vt

section grid
variable {g1 g2 : Grid}

theorem rowClamp_rel (h : GEq g1 g2) : MRel GEq g1.rowClamp g2.rowClamp := rowClamp_passes.rel h

theorem modifyCellM_rel (h : GEq g1 g2) (site : Nat) (pos : Pos) (f : Cell → M Cell) :
    MRel GEq (g1.modifyCellM site pos f) (g2.modifyCellM site pos f) :=
  (modifyCellM_passes site pos f).rel h

/-- the live rows after a scroll step do not depend on the view offset -/
theorem offset_irrelevant_scrollUp (g : Grid) (k : Nat) :
    (scrollUpStep { g with scrollbackOffset := k }).map (fun g' => g'.rows) =
      (scrollUpStep g).map (fun g' => g'.rows) :=
  (MRel.iff_map _ _ _).mp
    ((scrollUpStep_passes .any g k).mono fun _ _ h => (congrArg Grid.rows (And.left h) :))

theorem clear_rel (h : GEq g1 g2) : MRel GEq g1.clear g2.clear := by
  obtain ⟨k, rfl⟩ := h.elim
  exact MRel.bind_same _ fun _ => MRel.pure rfl

theorem saveCursor_rel (h : GEq g1 g2) : GEq g1.saveCursor g2.saveCursor := by
  obtain ⟨k, rfl⟩ := h.elim; rfl

theorem restoreCursor_rel (h : GEq g1 g2) : GEq g1.restoreCursor g2.restoreCursor := by
  obtain ⟨k, rfl⟩ := h.elim; rfl

/-- `set_scrollback` only writes the offset: whatever the two arguments are -/
theorem setScrollback_rel (h : GEq g1 g2) (r r' : Nat) : GEq (g1.setScrollback r) (g2.setScrollback r') := by
  obtain ⟨k, rfl⟩ := h.elim; rfl

theorem setSize_rel (h : GEq g1 g2) (sz : Size) : MRel GEq (g1.setSize sz) (g2.setSize sz) := by
  obtain ⟨k, rfl⟩ := h.elim
  rw [C16.setSize_eq, C16.setSize_eq]
  exact MRel.bind_same _ fun _ => MRel.bind_same _ fun _ => MRel.bind_same _ fun _ => MRel.pure rfl

end grid

def _root_.Vt.Screen.forgetOff (s : Screen) : Screen :=
  { s with grid := Grid.forgetOff s.grid, altGrid := Grid.forgetOff s.altGrid }

abbrev SEq : Screen → Screen → Prop := Sim Screen.forgetOff

theorem SEq.elim {s1 s2 : Screen} (h : SEq s1 s2) : ∃ k k', s1 =
    { s2 with grid := { s2.grid with scrollbackOffset := k },
              altGrid := { s2.altGrid with scrollbackOffset := k' } } := by
  cases s1; cases s2
  simp only [SEq, Sim, Screen.forgetOff, Screen.mk.injEq] at h ⊢
  obtain ⟨hg, ha, h3, h4, h5, h6, h7, h8, h9, h10, h11⟩ := h
  obtain ⟨k, hk⟩ := GEq.elim hg
  obtain ⟨k', hk'⟩ := GEq.elim ha
  exact ⟨k, k', hk, hk', h3, h4, h5, h6, h7, h8, h9, h10, h11⟩

theorem SEq.intro {g g' a a' : Grid} (hg : GEq g g') (ha : GEq a a') {at' sat : Attrs}
    {b1 b2 b3 b4 b5 : Bool} {mm : MouseMode} {me : MouseEnc} :
    SEq ⟨g, a, at', sat, b1, b2, b3, b4, b5, mm, me⟩ ⟨g', a', at', sat, b1, b2, b3, b4, b5, mm, me⟩ := by
  show Screen.forgetOff _ = Screen.forgetOff _
  simp only [Screen.forgetOff]
  rw [hg, ha]

section screen
variable {s1 s2 : Screen}

theorem modifyGrid_rel (h : SEq s1 s2) {f1 f2 : Grid → M Grid}
    (hf : ∀ a b, GEq a b → MRel GEq (f1 a) (f2 b)) :
    MRel SEq (s1.modifyGrid f1) (s2.modifyGrid f2) := by
  obtain ⟨k, k', rfl⟩ := h.elim
  simp only [Screen.modifyGrid]
  apply MRel.ite <;> intro _
  · refine MRel.bind (hf _ _ (by rfl)) ?_
    intro a b hab
    exact MRel.pure (SEq.intro (by rfl) hab)
  · refine MRel.bind (hf _ _ (by rfl)) ?_
    intro a b hab
    exact MRel.pure (SEq.intro hab (by rfl))

theorem sSetSize_rel (h : SEq s1 s2) (r c : Nat) : MRel SEq (s1.setSize r c) (s2.setSize r c) := by
  obtain ⟨k, k', rfl⟩ := h.elim
  simp only [Screen.setSize]
  refine MRel.bind (setSize_rel (by rfl) _) ?_
  intro a b hab
  refine MRel.bind (setSize_rel (by rfl) _) ?_
  intro a' b' hab'
  exact MRel.pure (SEq.intro hab hab')

theorem sSetScrollback_rel (h : SEq s1 s2) (r r' : Nat) :
    MRel SEq (s1.setScrollback r) (s2.setScrollback r') :=
  modifyGrid_rel h (fun _ _ hab => MRel.pure (setScrollback_rel hab r r'))

theorem enterAlternateGrid_rel (h : SEq s1 s2) : MRel SEq s1.enterAlternateGrid s2.enterAlternateGrid := by
  simp only [Screen.enterAlternateGrid]
  refine MRel.bind (modifyGrid_rel h (fun a b hab => MRel.pure (setScrollback_rel hab 0 0))) ?_
  intro a b hab
  obtain ⟨k, k', rfl⟩ := hab.elim
  exact MRel.pure (SEq.intro (by rfl) (allocateRows_passes.rel (by rfl)))

theorem sSaveCursor_rel (h : SEq s1 s2) : MRel SEq s1.saveCursor s2.saveCursor := by
  simp only [Screen.saveCursor]
  refine MRel.bind (modifyGrid_rel h (fun a b hab => MRel.pure (saveCursor_rel hab))) ?_
  intro a b hab
  obtain ⟨k, k', rfl⟩ := hab.elim
  exact MRel.pure (SEq.intro (by rfl) (by rfl))

theorem sRestoreCursor_rel (h : SEq s1 s2) : MRel SEq s1.restoreCursor s2.restoreCursor := by
  simp only [Screen.restoreCursor]
  refine MRel.bind (modifyGrid_rel h (fun a b hab => MRel.pure (restoreCursor_rel hab))) ?_
  intro a b hab
  obtain ⟨k, k', rfl⟩ := hab.elim
  exact MRel.pure (SEq.intro (by rfl) (by rfl))

theorem ris_eq (h : SEq s1 s2) : s1.ris = s2.ris := by
  obtain ⟨k, k', rfl⟩ := h.elim
  rfl

theorem SEq.attrs (h : SEq s1 s2) : s1.attrs = s2.attrs := by
  obtain ⟨k, k', rfl⟩ := h.elim; rfl

theorem SEq.cur (h : SEq s1 s2) : GEq s1.cur s2.cur := by
  obtain ⟨k, k', rfl⟩ := h.elim
  simp only [Screen.cur]
  split <;> rfl

theorem SEq.size (h : SEq s1 s2) : s1.size = s2.size := by
  have := h.cur
  obtain ⟨k, hk⟩ := this.elim
  simp only [Screen.size, hk]

end screen

def _root_.Vt.WS.forgetOff (ws : WS) : WS := { ws with screen := Screen.forgetOff ws.screen }

/-- equal up to the scrollback offsets; in particular the same callback events -/
abbrev WEq : WS → WS → Prop := Sim WS.forgetOff

theorem WEq.elim {w1 w2 : WS} (h : WEq w1 w2) : SEq w1.screen w2.screen ∧ w1.events = w2.events := by
  cases w1; cases w2
  simp only [WEq, Sim, WS.forgetOff, WS.mk.injEq] at h
  exact h

theorem WEq.intro {s s' : Screen} (h : SEq s s') (ev : List Event) : WEq ⟨s, ev⟩ ⟨s', ev⟩ := by
  show WS.forgetOff _ = WS.forgetOff _
  simp only [WS.forgetOff]
  rw [h]

/-- a callback policy that cannot see the offsets (`Callbacks` gets `&mut Screen`; it could call
`screen.scrollback()`, which returns the offset, or any read accessor of the view, which depends on it) -/
def CbResp (cb : CbPolicy) : Prop := ∀ e s1 s2, SEq s1 s2 → MRel SEq (cb e s1) (cb e s2)

theorem cbNone_resp : CbResp cbNone := fun _ _ _ h => MRel.pure h

theorem cbResize_resp : CbResp cbResize := by
  intro e s1 s2 h
  cases e with
  | resize r c =>
    simp only [cbResize]
    apply MRel.ite <;> intro _
    · exact sSetSize_rel h r c
    · exact MRel.pure h
  | _ => exact MRel.pure h

def WResp (f : WS → M WS) : Prop := ∀ w1 w2, WEq w1 w2 → MRel WEq (f w1) (f w2)

section ws
variable {cb : CbPolicy}

theorem emit_resp (hcb : CbResp cb) (e : Event) : WResp (emit cb e) := by
  intro w1 w2 h
  obtain ⟨hs, he⟩ := h.elim
  simp only [emit, he]
  refine MRel.bind (hcb e _ _ hs) ?_
  intro a b hab
  exact MRel.pure (WEq.intro hab _)

theorem onScreen_resp {f : Screen → M Screen} (hf : ∀ a b, SEq a b → MRel SEq (f a) (f b)) :
    WResp (fun ws => ws.onScreen f) := by
  intro w1 w2 h
  obtain ⟨hs, he⟩ := h.elim
  simp only [WS.onScreen, he]
  refine MRel.bind (hf _ _ hs) ?_
  intro a b hab
  exact MRel.pure (WEq.intro hab _)

theorem onGrid_resp {f : Screen → Grid → M Grid} (hs : ∀ a b, SEq a b → f a = f b)
    (hf : ∀ s a b, GEq a b → MRel GEq (f s a) (f s b)) :
    WResp (fun ws => ws.onScreen (fun s => s.modifyGrid (f s))) :=
  onScreen_resp (fun a b hab => by rw [hs a b hab]; exact modifyGrid_rel hab (hf b))

theorem fold_resp {α} {step : WS → α → M WS} (xs : List α) (hstep : ∀ x ∈ xs, WResp (fun ws => step ws x)) :
    WResp (fun ws => xs.foldlM step ws) :=
  fun w1 w2 h => foldlM_rel (ok := (· ∈ xs)) (fun x a b hx hab => hstep x hx a b hab) xs (fun _ h => h) w1 w2 h

theorem WEq.mapScreen {w1 w2 : WS} (h : WEq w1 w2) (F : Screen → Screen)
    (hF : ∀ s, (F s).forgetOff = F s.forgetOff) :
    WEq { w1 with screen := F w1.screen } { w2 with screen := F w2.screen } := by
  obtain ⟨hs, he⟩ := h.elim
  show WS.forgetOff _ = WS.forgetOff _
  simp only [WS.forgetOff, hF]
  rw [hs, he]

theorem canon2_fst_eq (p : List (List Nat)) (a b b' : Nat) : (canon2 p a b).1 = (canon2 p a b').1 := rfl

theorem perform_resp (W : Nat → Option Nat) (hcb : CbResp cb) (a : Action) :
    WResp (fun ws => perform W cb ws a) :=
  perform_cases W (C := fun _ F => WResp (F cb))
    (nop := fun _ _ _ h => MRel.pure h)
    (emit := fun _ e _ => emit_resp hcb e)
    (emit2 := fun _ e1 e2 _ _ w1 w2 h => MRel.bind (emit_resp hcb e1 w1 w2 h) (emit_resp hcb e2))
    (draw := fun _ f hf => onGrid_resp (f := fun s => f s.attrs) (fun _ _ h => by rw [h.attrs])
      fun _ _ _ h => (hf _).passes.rel h)
    (deckpam := fun _ _ _ h => MRel.pure (h.mapScreen Screen.deckpam fun _ => rfl))
    (deckpnm := fun _ _ _ h => MRel.pure (h.mapScreen Screen.deckpnm fun _ => rfl))
    (lf := fun _ _ => onScreen_resp fun _ _ h => modifyGrid_rel h fun _ _ h =>
      MRel.bind ((rowIncScroll_passes .any 1).rel h) fun _ _ hpq => MRel.pure (PEq.elim hpq).1)
    (text := fun c _ _ => onGrid_resp (f := fun s g => g.text W s.attrs c) (fun _ _ h => by rw [h.attrs])
      fun _ _ _ h => (text_passes .any W _ _).rel h)
    (su := fun _ _ => onScreen_resp fun _ _ h => modifyGrid_rel h fun _ _ h => (scrollUp_passes .any _).rel h)
    (decsc := fun _ => onScreen_resp fun _ _ h => sSaveCursor_rel h)
    (decrc := fun _ => onScreen_resp fun _ _ h => sRestoreCursor_rel h)
    (ris := fun _ => onScreen_resp fun a b h => by
      show MRel SEq a.ris b.ris
      rw [ris_eq h]
      exact MRel.refl (R := SEq) (fun _ => rfl) _)
    (decstbm := fun ps _ => onScreen_resp fun a b h => by
      have hsz : a.cur.size = b.cur.size := h.size
      simp only [Screen.decstbm, hsz]
      exact MRel.bind_same _ fun _ => MRel.bind_same _ fun _ =>
        modifyGrid_rel h fun _ _ h => (setScrollRegion_passes _ _).rel h)
    (resize := fun _ _ w1 w2 h => by
      have hsz : w1.screen.size = w2.screen.size := h.elim.1.size
      show MRel WEq _ _
      simp only []
      rw [hsz]
      exact emit_resp hcb _ w1 w2 h)
    (seq := fun _ _ _ p h => fold_resp p h)
    (pen := fun _ _ t _ _ _ h => MRel.pure (h.mapScreen (fun s => { s with attrs := t s.attrs }) fun _ => rfl))
    (mode := fun _ _ _ _ E _ _ _ h => MRel.pure (h.mapScreen (fun s => s.setModes (E (C10.modesOf s))) fun _ => rfl))
    (origin := fun _ _ _ _ _ _ => onScreen_resp fun _ _ h => modifyGrid_rel h fun _ _ h => (setOriginMode_passes _).rel h)
    (enter := fun _ _ _ => onScreen_resp fun _ _ h => enterAlternateGrid_rel h)
    (save1049 := fun _ _ _ _ => onScreen_resp fun _ _ h => sSaveCursor_rel h)
    (clear1049 := fun _ _ _ _ => onScreen_resp fun a b h => by
      obtain ⟨k, k', rfl⟩ := h.elim
      exact MRel.bind (clear_rel (by rfl)) fun _ _ hab => MRel.pure (SEq.intro (by rfl) hab))
    (exit := fun _ _ _ _ _ _ h => MRel.pure (h.mapScreen Screen.exitAlternateGrid fun _ => rfl))
    (restore1049 := fun _ _ _ _ => onScreen_resp fun _ _ h => sRestoreCursor_rel h)
    a

end ws

def _root_.Vt.Parser.forgetOff (p : Parser) : Parser := { p with ws := WS.forgetOff p.ws }

/-- two parsers equal up to the scrollback offsets (same vte automaton state, same callback log) -/
abbrev ParEq : Parser → Parser → Prop := Sim Parser.forgetOff

theorem ParEq.elim {p1 p2 : Parser} (h : ParEq p1 p2) : p1.vte = p2.vte ∧ WEq p1.ws p2.ws := by
  cases p1; cases p2
  simp only [ParEq, Sim, Parser.forgetOff, Parser.mk.injEq] at h
  exact h

theorem ParEq.intro {w w' : WS} (h : WEq w w') (v : Vte) : ParEq ⟨v, w⟩ ⟨v, w'⟩ := by
  show Parser.forgetOff _ = Parser.forgetOff _
  simp only [Parser.forgetOff]
  rw [h]

theorem ParEq.setScreen {p1 p2 : Parser} (h : ParEq p1 p2) {a b : Screen} (hab : SEq a b) :
    ParEq { p1 with ws := { p1.ws with screen := a } } { p2 with ws := { p2.ws with screen := b } } := by
  show Parser.forgetOff _ = Parser.forgetOff _
  simp only [Parser.forgetOff, WS.forgetOff]
  rw [hab, h.elim.1, h.elim.2.elim.2]

section machine
variable (W : Nat → Option Nat) {cb : CbPolicy}

theorem actions_resp (hcb : CbResp cb) (acts : List Action) :
    WResp (fun ws => acts.foldlM (perform W cb) ws) :=
  fold_resp acts fun a _ => perform_resp W hcb a

theorem process_rel (hcb : CbResp cb) {p1 p2 : Parser} (h : ParEq p1 p2) (bytes : List Nat) :
    MRel ParEq (p1.process W cb bytes) (p2.process W cb bytes) :=
  (MRel.process h.elim.1 fun acts => actions_resp W hcb acts _ _ h.elim.2).mono fun a b ⟨hv, hw⟩ => by
    cases a; cases b; cases hv; exact ParEq.intro hw _

/-- **C12, offset irrelevance, one action**: two wrapped screens that differ only in the scrollback
offsets give, for every action, the same result up to the offsets: the same panic if any, and
otherwise the same live rows, cursor, pen, modes, histories and the same callback events -/
theorem perform_offset_irrelevant (hcb : CbResp cb) (a : Action) (ws1 ws2 : WS)
    (h : ws1.forgetOff = ws2.forgetOff) :
    (perform W cb ws1 a).map WS.forgetOff = (perform W cb ws2 a).map WS.forgetOff :=
  (MRel.iff_map _ _ _).mp (perform_resp W hcb a ws1 ws2 h)

theorem actions_offset_irrelevant (hcb : CbResp cb) (acts : List Action) (ws1 ws2 : WS)
    (h : ws1.forgetOff = ws2.forgetOff) :
    (acts.foldlM (perform W cb) ws1).map WS.forgetOff = (acts.foldlM (perform W cb) ws2).map WS.forgetOff :=
  (MRel.iff_map _ _ _).mp (actions_resp W hcb acts ws1 ws2 h)

theorem process_offset_irrelevant (hcb : CbResp cb) (p1 p2 : Parser) (h : p1.forgetOff = p2.forgetOff)
    (bytes : List Nat) :
    (p1.process W cb bytes).map Parser.forgetOff = (p2.process W cb bytes).map Parser.forgetOff :=
  (MRel.iff_map _ _ _).mp (process_rel W hcb h bytes)

theorem setSize_offset_irrelevant (s1 s2 : Screen) (h : s1.forgetOff = s2.forgetOff) (r c : Nat) :
    (s1.setSize r c).map Screen.forgetOff = (s2.setSize r c).map Screen.forgetOff :=
  (MRel.iff_map _ _ _).mp (sSetSize_rel h r c)

theorem setScrollback_forgetOff (s : Screen) (k : Nat) :
    ∃ s', s.setScrollback k = .ok s' ∧ s'.forgetOff = s.forgetOff :=
  ⟨_, C13.setScrollback_total s k, by unfold Screen.setCur Screen.cur Screen.forgetOff; cases s.altScreen <;> rfl⟩

open C13 in
theorem applyOp_rel (hcb : CbResp cb) {p1 p2 : Parser} (h : ParEq p1 p2) (op : Op) :
    MRel ParEq (applyOp W cb p1 op) (applyOp W cb p2 op) := by
  have hs := h.elim.2.elim.1
  cases op with
  | process bytes => exact process_rel W hcb h bytes
  | setSize r c => exact MRel.bind (sSetSize_rel hs r c) fun _ _ hab => MRel.pure (h.setScreen hab)
  | setScrollback k => exact MRel.bind (sSetScrollback_rel hs k k) fun _ _ hab => MRel.pure (h.setScreen hab)

open C13 in
theorem applyOp_setScrollback (p : Parser) (k : Nat) :
    ∃ p', applyOp W cb p (.setScrollback k) = .ok p' ∧ ParEq p' p := by
  obtain ⟨s', e, hs'⟩ := setScrollback_forgetOff p.ws.screen k
  exact ⟨_, by simp only [applyOp, e, ok_bind, pure_eq_ok], ParEq.setScreen (p2 := p) rfl hs'⟩

open C13 in
def keepOp : Op → Bool
  | .setScrollback _ => false
  | _ => true

open C13 in
/-- erasing every `set_scrollback` call from a history of API calls changes the outcome only in
the offsets -/
theorem ops_erase_rel (hcb : CbResp cb) (ops : List Op) :
    ∀ p1 p2, ParEq p1 p2 →
      MRel ParEq (ops.foldlM (applyOp W cb) p1) ((ops.filter keepOp).foldlM (applyOp W cb) p2) := by
  induction ops with
  | nil => intro p1 p2 h; exact MRel.pure h
  | cons op rest ih =>
    intro p1 p2 h
    cases op with
    | setScrollback k =>
      obtain ⟨p', e, hp'⟩ := applyOp_setScrollback W (cb := cb) p1 k
      simp only [List.foldlM, e, ok_bind, keepOp, List.filter_cons_of_neg, Bool.false_eq_true,
        not_false_eq_true]
      exact ih p' p2 (Eq.trans hp' h)
    | _ => exact MRel.bind (applyOp_rel W hcb h _) ih

open C13 in
/-- **C12, "the offset is purely a view"**: take two parsers equal up to the offsets (e.g. the
same parser) and run two histories of `process` / `set_size` / `set_scrollback` calls that differ
only in their `set_scrollback` calls (inserted, removed, or with other arguments, anywhere).
Then either both runs panic at the same site or both succeed, and the two final parsers are
equal up to the offsets: same live rows, cursor, pen, modes, histories, same callback events, same
vte state. -/
theorem ops_offset_irrelevant (hcb : CbResp cb) (ops1 ops2 : List Op)
    (hops : ops1.filter keepOp = ops2.filter keepOp) (p1 p2 : Parser)
    (h : p1.forgetOff = p2.forgetOff) :
    (ops1.foldlM (applyOp W cb) p1).map Parser.forgetOff
      = (ops2.foldlM (applyOp W cb) p2).map Parser.forgetOff := by
  have e1 := (MRel.iff_map _ _ _).mp (ops_erase_rel W hcb ops1 p1 p2 h)
  have e2 := (MRel.iff_map _ _ _).mp (ops_erase_rel W hcb ops2 p2 p2 rfl)
  rw [e1, e2, hops]

end machine

theorem SEq.fields {s1 s2 : Screen} (h : s1.forgetOff = s2.forgetOff) :
    s1.grid = { s2.grid with scrollbackOffset := s1.grid.scrollbackOffset } ∧
    s1.altGrid = { s2.altGrid with scrollbackOffset := s1.altGrid.scrollbackOffset } ∧
    s1.attrs = s2.attrs ∧ s1.savedAttrs = s2.savedAttrs ∧ s1.appKeypad = s2.appKeypad ∧
    s1.appCursor = s2.appCursor ∧ s1.hideCursor = s2.hideCursor ∧ s1.altScreen = s2.altScreen ∧
    s1.bracketedPaste = s2.bracketedPaste ∧ s1.mouseMode = s2.mouseMode ∧ s1.mouseEnc = s2.mouseEnc := by
  obtain ⟨k, k', rfl⟩ := SEq.elim h
  exact ⟨rfl, rfl, rfl, rfl, rfl, rfl, rfl, rfl, rfl, rfl, rfl⟩

theorem SEq.live {s1 s2 : Screen} (h : s1.forgetOff = s2.forgetOff) :
    s1.cur.rows = s2.cur.rows ∧ s1.cur.pos = s2.cur.pos ∧ s1.cur.savedPos = s2.cur.savedPos ∧
    s1.cur.size = s2.cur.size ∧ s1.cur.scrollTop = s2.cur.scrollTop ∧
    s1.cur.scrollBottom = s2.cur.scrollBottom ∧ s1.cur.originMode = s2.cur.originMode ∧
    s1.cur.scrollback = s2.cur.scrollback ∧ s1.cur.scrollbackLen = s2.cur.scrollbackLen := by
  obtain ⟨k, hk⟩ := GEq.elim (SEq.cur h)
  rw [hk]
  exact ⟨rfl, rfl, rfl, rfl, rfl, rfl, rfl, rfl, rfl⟩

/-- once both views are set to the same offset the screens show the same thing: the active grids are equal, hence so is
the output of every accessor and emitter (they read `cur`, the pen and the modes only) -/
theorem SEq.same_view {s1 s2 s1' s2' : Screen} (h : s1.forgetOff = s2.forgetOff) (k : Nat)
    (h1 : s1.setScrollback k = .ok s1') (h2 : s2.setScrollback k = .ok s2') :
    s1'.cur = s2'.cur ∧ s1'.attrs = s2'.attrs ∧ s1'.hideCursor = s2'.hideCursor ∧
      s1'.forgetOff = s2'.forgetOff := by
  obtain ⟨k1, k2, rfl⟩ := SEq.elim h
  cases (C13.setScrollback_total _ k).symm.trans h1
  cases (C13.setScrollback_total _ k).symm.trans h2
  unfold Screen.setCur Screen.cur Screen.forgetOff
  cases s2.altScreen <;> exact ⟨rfl, rfl, rfl, rfl⟩

/-- `scrollUp_records` without any assumption on the offset (through offset irrelevance) -/
theorem scrollUp_records_any_offset (g : Grid) (n : Nat) (hN : 0 < g.scrollbackLen)
    (ht : g.scrollTop = 0) (hb : g.scrollBottom = g.size.rows - 1)
    (hlen : g.rows.length = g.size.rows) (hn : n ≤ g.size.rows)
    (hsb : g.scrollback.length ≤ g.scrollbackLen) :
    ∃ g', g.scrollUp n = .ok g' ∧ g'.forgetOff = (recordN g n).forgetOff ∧
      g'.scrollback = lastN g.scrollbackLen (g.scrollback ++ g.rows.take n) ∧
      g'.rows = g.rows.drop n ++ List.replicate n g.newRow := by
  have h0 := scrollUp_records g.forgetOff n hN ht hb hlen hn hsb (Nat.zero_le _)
  have hr := (scrollUp_passes .any n).rel (g1 := g) (g2 := g.forgetOff) rfl
  rw [h0] at hr
  cases hg : g.scrollUp n with
  | error e => rw [hg] at hr; exact hr.elim
  | ok g' =>
    rw [hg] at hr
    have hr' : g'.forgetOff = (recordN g n).forgetOff := hr
    exact ⟨g', rfl, hr', congrArg Grid.scrollback hr', congrArg Grid.rows hr'⟩

/-- the history with its capacity: what the frame statements keep fixed, and `HExt` needs the capacity to say that
it stays and that capacity 0 records nothing -/
def _root_.Vt.Grid.hist (g : Grid) : List Row × Nat := (g.scrollback, g.scrollbackLen)

/-- the grid's history (and capacity) is `h`: what a step that keeps the history carries, `h` being that of the start -/
abbrev GK (h : List Row × Nat) (g : Grid) : Prop := g.hist = h

theorem draws_hist {g g' : Grid} (d : g.Draws g') : g'.hist = g.hist := by
  rw [d]; rfl

theorem GK.of_draws {h : List Row × Nat} (g g' : Grid) (d : g.Draws g') (hg : GK h g) : GK h g' :=
  (draws_hist d).trans hg

section keep
variable {h : List Row × Nat} {g : Grid}

theorem DrawOp.keep {p : Attrs} {f : Grid → M Grid} (hf : DrawOp p f) (hg : GK h g) : MPred (GK h) (f g) :=
  MPred.of_draws GK.of_draws hg (hf.draws g)

theorem appendToPrev_keep (hg : GK h g) (row col c : Nat) : MPred (GK h) (g.appendToPrev row col c) :=
  MPred.of_draws GK.of_draws hg ((appendToPrev_passes row col c).footprint g).draws

theorem clear_keep (hg : GK h g) : MPred (GK h) g.clear :=
  MPred.bind_any _ fun _ => MPred.pure hg

theorem setOriginMode_keep (hg : GK h g) (m : Bool) : MPred (GK h) (g.setOriginMode m) :=
  MPred.of_draws GK.of_draws (g := { g with originMode := m }) hg
    (((setOriginMode_passes m).footprint g).mono fun _ h => h.draws)

theorem setScrollRegion_keep (hg : GK h g) (t b : Nat) : MPred (GK h) (g.setScrollRegion t b) :=
  MPred.mono (fun _ e => by rw [e]; exact hg) ((setScrollRegion_passes t b).footprint g)

theorem setSize_keep (hg : GK h g) (sz : Size) : MPred (GK h) (g.setSize sz) :=
  MPred.iff.mpr fun _ e => (C16.setSize_iff.mp e).2.2.2 ▸ hg

end keep

/-- `h'` extends `h`: the capacity is the same, and the contents are those of `h` with lines
appended at the back and lines dropped at the front (order preserved, nothing modified) -/
def HExt (h h' : List Row × Nat) : Prop :=
  h'.2 = h.2 ∧ (h.2 = 0 → h'.1 = h.1) ∧ ∃ rec k, h'.1 = (h.1 ++ rec).drop k

theorem HExt.refl (h : List Row × Nat) : HExt h h := ⟨rfl, fun _ => rfl, [], 0, by simp⟩

theorem HExt.of_eq {h h' : List Row × Nat} (e : h' = h) : HExt h h' := by subst e; exact HExt.refl _

theorem HExt.trans {h h' h'' : List Row × Nat} (h1 : HExt h h') (h2 : HExt h' h'') : HExt h h'' := by
  obtain ⟨e1, z1, r1, k1, hr1⟩ := h1
  obtain ⟨e2, z2, r2, k2, hr2⟩ := h2
  refine ⟨e2.trans e1, fun hz => (z2 (e1.trans hz)).trans (z1 hz), r1 ++ r2,
    min k1 (h.1 ++ r1).length + k2, ?_⟩
  rw [hr2, hr1, List.drop_eq_drop_min (l := h.1 ++ r1) (i := k1), ← List.drop_drop, ← List.append_assoc,
    List.drop_append_of_le_length (l₁ := h.1 ++ r1) (Nat.min_le_right _ _)]

/-- redrawing keeps the history and scrolling extends it -/
theorem scrolls_ext : Scrolls fun g g' => HExt g.hist g'.hist where
  trans := HExt.trans
  draws d := HExt.of_eq (draws_hist d)
  step g := by
    unfold suF recordF
    split
    · next h => exact ⟨rfl, fun hz => absurd hz (Nat.ne_of_gt h.1), [topLine g], _, rfl⟩
    · exact .refl _

/-- a scroll region is active (`Grid::scroll_region_active`) -/
def RegionActive (g : Grid) : Prop := g.scrollTop ≠ 0 ∨ g.scrollBottom ≠ g.size.rows - 1

/-- `GK` together with an active region: inside a region the scrolling operations keep both -/
abbrev GR (h : List Row × Nat) (g : Grid) : Prop := g.hist = h ∧ RegionActive g

theorem GR.of_draws {h : List Row × Nat} (g g' : Grid) (d : g.Draws g') (hg : GR h g) : GR h g' := by
  rw [d]; exact hg

section region
variable {h : List Row × Nat} {g : Grid}

theorem modifyCellM_reg (hg : GR h g) (site : Nat) (pos : Pos) (f : Cell → M Cell) :
    MPred (GR h) (g.modifyCellM site pos f) :=
  MPred.of_draws GR.of_draws hg ((modifyCellM_passes site pos f).footprint g).draws

theorem appendToPrev_reg (hg : GR h g) (row col c : Nat) : MPred (GR h) (g.appendToPrev row col c) :=
  MPred.of_draws GR.of_draws hg ((appendToPrev_passes row col c).footprint g).draws

end region

/-- inside an active region, or with capacity 0, the history is not touched -/
theorem scrollUp_one_noop_history (g g' : Grid) (hr : 1 ≤ g.size.rows)
    (hno : g.scrollbackLen = 0 ∨ g.scrollTop ≠ 0 ∨ g.scrollBottom ≠ g.size.rows - 1)
    (h : scrollUpStep g = .ok g') :
    g'.scrollback = g.scrollback ∧ g'.scrollbackOffset = g.scrollbackOffset ∧
      g'.scrollbackLen = g.scrollbackLen := by
  rw [((scrollUpStep_iff g g').mp h).2, suF_plain hno]
  exact ⟨rfl, rfl, rfl⟩

/-- while a region is active, redrawing and scrolling keep the history and the region -/
theorem scrolls_reg : Scrolls fun g g' => RegionActive g → GR g.hist g' where
  trans h1 h2 hr := have h := h1 hr; ⟨(h2 h.2).1.trans h.1, (h2 h.2).2⟩
  draws d hr := GR.of_draws _ _ d ⟨rfl, hr⟩
  step g hreg := by rw [suF_plain (Or.inr hreg)]; exact ⟨rfl, hreg⟩

/-- `GK` for a screen: the histories of the primary and the alternate grid are `hg` and `ha` -/
abbrev SK (hg ha : List Row × Nat) (s : Screen) : Prop := s.grid.hist = hg ∧ s.altGrid.hist = ha

section skeep
variable {hg ha : List Row × Nat} {s : Screen}

theorem SK.setCur {g : Grid} (h : g.hist = s.cur.hist) : SK s.grid.hist s.altGrid.hist (s.setCur g) := by
  unfold Screen.setCur; unfold Screen.cur at h
  split <;> rename_i ha <;> simp only [ha, ↓reduceIte, Bool.false_eq_true] at h
  · exact ⟨rfl, h⟩
  · exact ⟨h, rfl⟩

theorem modifyGrid_keep {f : Grid → M Grid} (hf : ∀ h g, GK h g → MPred (GK h) (f g)) (hs : SK hg ha s) :
    MPred (SK hg ha) (s.modifyGrid f) :=
  MPred.modifyGrid (hf _ _ rfl) fun _ h => hs.1 ▸ hs.2 ▸ SK.setCur h

theorem sSetSize_keep (hs : SK hg ha s) (r c : Nat) : MPred (SK hg ha) (s.setSize r c) :=
  MPred.bind (setSize_keep hs.1 _) fun _ h1 => MPred.bind (setSize_keep hs.2 _) fun _ h2 => MPred.pure ⟨h1, h2⟩

theorem sSetScrollback_keep (hs : SK hg ha s) (r : Nat) : MPred (SK hg ha) (s.setScrollback r) :=
  modifyGrid_keep (fun _ _ hk => MPred.pure hk) hs

theorem enterAlternateGrid_keep (hs : SK hg ha s) : MPred (SK hg ha) s.enterAlternateGrid :=
  MPred.bind (modifyGrid_keep (fun _ _ hk => MPred.pure hk) hs) fun a h' =>
    MPred.pure ⟨h'.1, (draws_hist (Grid.DrawsRow.draws (allocateRows_passes.footprint a.altGrid))).trans h'.2⟩

theorem exitAlternateGrid_keep (hs : SK hg ha s) : SK hg ha s.exitAlternateGrid := hs

theorem sSaveCursor_keep (hs : SK hg ha s) : MPred (SK hg ha) s.saveCursor :=
  MPred.bind (modifyGrid_keep (fun _ _ hk => MPred.pure hk) hs) fun _ h' => MPred.pure h'

theorem sRestoreCursor_keep (hs : SK hg ha s) : MPred (SK hg ha) s.restoreCursor :=
  MPred.bind (modifyGrid_keep (fun _ _ hk => MPred.pure hk) hs) fun _ h' => MPred.pure h'

end skeep

/-- a callback policy that leaves both histories alone (the public `Screen` API has no way to
edit them; `set_size` and `set_scrollback` qualify).  Not `C11.CbKeeps` (the primary grid is kept while the
alternate screen is active), which a resizing callback fails. -/
def CbKeeps (cb : CbPolicy) : Prop := ∀ e s hg ha, SK hg ha s → MPred (SK hg ha) (cb e s)

theorem cbSizes_keeps {cb : CbPolicy} (h : CbSizes cb) : CbKeeps cb := fun e s _ _ hs =>
  h.elim e s (MPred.pure hs) fun r c => sSetSize_keep hs r c

theorem cbNone_keeps : CbKeeps cbNone := cbSizes_keeps cbNone_sizes

theorem cbResize_keeps : CbKeeps cbResize := cbSizes_keeps cbResize_sizes

/-- the actions through which a line can be recorded: printing (wrap at the bottom margin),
LF / VT / FF, and SU (`CSI n S`) -/
def mayRecord : Action → Bool
  | .print _ => true
  | .execute b => b == 10 || b == 11 || b == 12
  | .csiDispatch _ ints _ c => ints == [] && c == 83
  | _ => false

/-- RIS (`ESC c`), which replaces both grids by new ones -/
def isRis : Action → Bool
  | .escDispatch ints _ b => ints == [] && b == 99
  | _ => false

/-- **history frame of one action**: the history of the grid that is not active when the action
starts is unchanged; the history of the active grid is extended (`HExt`) -/
def SFrame (s s' : Screen) : Prop :=
  if s.altScreen then s'.grid.hist = s.grid.hist ∧ HExt s.altGrid.hist s'.altGrid.hist
  else s'.altGrid.hist = s.altGrid.hist ∧ HExt s.grid.hist s'.grid.hist

theorem SFrame.setCur {s : Screen} {g : Grid} (h : HExt s.cur.hist g.hist) : SFrame s (s.setCur g) := by
  unfold SFrame Screen.setCur; unfold Screen.cur at h
  split <;> rename_i ha <;> simp only [ha, ↓reduceIte, Bool.false_eq_true] at h <;> exact ⟨rfl, h⟩

theorem SFrame.of_keep {s s' : Screen} (h : SK s.grid.hist s.altGrid.hist s') : SFrame s s' := by
  unfold SFrame
  split
  · exact ⟨h.1, HExt.of_eq h.2⟩
  · exact ⟨h.2, HExt.of_eq h.1⟩

/-- what the history theorems say of a step `f` that `perform` takes for the action `a` -/
structure HistStep (a : Action) (f : WS → M WS) : Prop where
  keep : mayRecord a = false → isRis a = false → ∀ hg ha, WPred (SK hg ha) f
  frame : isRis a = false → ∀ ws, MPred (fun ws' => SFrame ws.screen ws'.screen) (f ws)
  region : isRis a = false → ∀ ws, RegionActive ws.screen.cur →
    MPred (fun ws' => SK ws.screen.grid.hist ws.screen.altGrid.hist ws'.screen) (f ws)

theorem HistStep.of_keep {a : Action} {f : WS → M WS} (h : ∀ hg ha, WPred (SK hg ha) f) : HistStep a f where
  keep _ _ := h
  frame _ ws := (h _ _ ws ⟨rfl, rfl⟩).mono fun _ h' => SFrame.of_keep h'
  region _ ws _ := h _ _ ws ⟨rfl, rfl⟩

/-- a step on the active grid that stays inside every relation scrolling respects: the active
history is extended, and kept while a region is active; the other grid is not touched -/
theorem HistStep.of_scrolls {a : Action} {f : Screen → Grid → M Grid}
    (hf : ∀ {R}, Scrolls R → ∀ s g, MPred (R g) (f s g)) (hrec : mayRecord a = true) :
    HistStep a fun ws => ws.onScreen fun s => s.modifyGrid (f s) where
  keep h := absurd hrec (by simp [h])
  frame _ ws := MPred.bind (MPred.modifyGrid (hf scrolls_ext _ _) fun _ => SFrame.setCur) fun _ h' => MPred.pure h'
  region _ ws hreg := MPred.bind (MPred.modifyGrid (hf scrolls_reg _ _) fun _ h => SK.setCur (h hreg).1)
    fun _ h' => MPred.pure h'

/-- the three history theorems for one action, from one pass over the steps of `perform` -/
theorem perform_hist (W : Nat → Option Nat) {cb : CbPolicy} (hcb : CbKeeps cb) (a : Action) :
    HistStep a fun ws => perform W cb ws a :=
  have hemit (e : Event) (hg ha) : WPred (SK hg ha) (emit cb e) := .emit (fun e s h => hcb e s hg ha h) e
  perform_cases W (C := fun a F => HistStep a (F cb))
    (nop := fun _ => .of_keep fun _ _ => .pure)
    (emit := fun _ e _ => .of_keep (hemit e))
    (emit2 := fun _ e1 e2 _ _ => .of_keep fun hg ha => .bind (hemit e1 hg ha) (hemit e2 hg ha))
    (draw := fun _ f hf => .of_keep fun _ _ => .onScreen fun s hs =>
      modifyGrid_keep (fun _ _ hk => (hf s.attrs).keep hk) hs)
    (deckpam := fun _ => .of_keep fun _ _ _ hs => MPred.pure hs)
    (deckpnm := fun _ => .of_keep fun _ _ _ hs => MPred.pure hs)
    (lf := fun b hb => .of_scrolls (f := fun _ g => do let (g, _) ← g.rowIncScroll 1; pure g)
      (fun hR _ g => MPred.bind (hR.rowIncScroll g 1) fun _ hp => MPred.pure hp)
      (by rcases hb with rfl | rfl | rfl <;> rfl))
    (text := fun c _ _ => .of_scrolls (f := fun s g => g.text W s.attrs c) (fun hR s g => hR.text g W _ c) rfl)
    (su := fun ps _ => .of_scrolls (f := fun _ g => g.scrollUp (canon1 ps 1)) (fun hR _ g => hR.scrollUp g _) rfl)
    (decsc := fun _ => .of_keep fun _ _ => .onScreen fun _ hs => sSaveCursor_keep hs)
    (decrc := fun _ => .of_keep fun _ _ => .onScreen fun _ hs => sRestoreCursor_keep hs)
    (ris := fun _ => ⟨fun _ h => (nomatch h), fun h => (nomatch h), fun h => (nomatch h)⟩)
    (decstbm := fun _ _ => .of_keep fun _ _ => .onScreen fun _ hs => MPred.bind_any _ fun _ => MPred.bind_any _ fun _ =>
      modifyGrid_keep (fun _ _ hk => setScrollRegion_keep hk _ _) hs)
    (resize := fun _ _ => .of_keep fun hg ha ws hs => hemit _ hg ha ws hs)
    -- none of the three loops records or is RIS, so each of their steps keeps both histories
    (seq := fun _ hl _ _ h => .of_keep fun hg ha => .steps fun st hst => by
      cases hl <;> exact (h st hst).keep rfl rfl hg ha)
    (pen := fun _ _ _ _ => .of_keep fun _ _ _ hs => MPred.pure hs)
    (mode := fun _ _ _ _ _ _ => .of_keep fun _ _ _ hs => MPred.pure hs)
    (origin := fun _ _ _ _ _ _ => .of_keep fun _ _ => .onScreen fun _ hs =>
      modifyGrid_keep (fun _ _ hk => setOriginMode_keep hk _) hs)
    (enter := fun _ _ _ => .of_keep fun _ _ => .onScreen fun _ hs => enterAlternateGrid_keep hs)
    (save1049 := fun _ _ _ _ => .of_keep fun _ _ => .onScreen fun _ hs => sSaveCursor_keep hs)
    (clear1049 := fun _ _ _ _ => .of_keep fun _ _ => .onScreen fun _ hs =>
      MPred.bind (clear_keep hs.2) fun _ h2 => MPred.pure ⟨hs.1, h2⟩)
    (exit := fun _ _ _ _ => .of_keep fun _ _ _ hs => MPred.pure hs)
    (restore1049 := fun _ _ _ _ => .of_keep fun _ _ => .onScreen fun _ hs => sRestoreCursor_keep hs)
    a

section frame
variable {cb : CbPolicy}

/-- **C12, history frame, one action** (every action but RIS) -/
theorem perform_frame (W : Nat → Option Nat) (hcb : CbKeeps cb) (a : Action) (hris : isRis a = false)
    (ws : WS) : MPred (fun ws' => SFrame ws.screen ws'.screen) (perform W cb ws a) :=
  (perform_hist W hcb a).frame hris ws

theorem perform_frame_ok (W : Nat → Option Nat) (hcb : CbKeeps cb) (a : Action) (hris : isRis a = false)
    (ws ws' : WS) (h : perform W cb ws a = .ok ws') : SFrame ws.screen ws'.screen :=
  MPred.iff.mp (perform_frame W hcb a hris ws) ws' h

/-- **C12, history frame**: an action that is not printing, LF / VT / FF, SU or RIS changes no
history at all -/
theorem perform_keep_ok (W : Nat → Option Nat) (hcb : CbKeeps cb) (a : Action)
    (hrec : mayRecord a = false) (hris : isRis a = false) (ws ws' : WS)
    (h : perform W cb ws a = .ok ws') :
    ws'.screen.grid.hist = ws.screen.grid.hist ∧ ws'.screen.altGrid.hist = ws.screen.altGrid.hist :=
  MPred.iff.mp ((perform_hist W hcb a).keep hrec hris _ _ ws ⟨rfl, rfl⟩) ws' h

/-- RIS starts two empty histories, the primary one with the old capacity -/
theorem ris_hist (s : Screen) :
    MPred (fun s' => s'.grid.hist = ([], s.grid.scrollbackLen) ∧ s'.altGrid.hist = ([], 0)) s.ris :=
  MPred.iff.mpr fun _ h => (C13.new_of_ok h).2 ▸ ⟨rfl, rfl⟩

abbrev HistsExt (hg ha : List Row × Nat) (s : Screen) : Prop := HExt hg s.grid.hist ∧ HExt ha s.altGrid.hist

theorem SFrame.histsExt {hg ha : List Row × Nat} {s s' : Screen} (hf : SFrame s s') (hx : HistsExt hg ha s) :
    HistsExt hg ha s' := by
  unfold SFrame at hf
  split at hf
  · exact ⟨HExt.trans hx.1 (HExt.of_eq hf.1), HExt.trans hx.2 hf.2⟩
  · exact ⟨HExt.trans hx.1 hf.2, HExt.trans hx.2 (HExt.of_eq hf.1)⟩

/-- **C12, history frame, any input without RIS**: both histories are only ever extended -
lines are appended at the back, in order and unmodified once recorded, and dropped at the
front; the capacities never change; a history of capacity 0 stays as it is -/
theorem actions_ext (W : Nat → Option Nat) (hcb : CbKeeps cb) {hg ha : List Row × Nat} (acts : List Action)
    (hr : ∀ a ∈ acts, isRis a = false) : WPred (HistsExt hg ha) fun ws => acts.foldlM (perform W cb) ws :=
  WPred.foldlM (fun a ha ws hx => (perform_frame W hcb a ha ws).mono fun _ h => h.histsExt hx) acts hr

theorem process_ext (W : Nat → Option Nat) (hcb : CbKeeps cb) (p : Parser) (bytes : List Nat)
    (hr : ∀ a ∈ (p.vte.advance bytes).2, isRis a = false) (p' : Parser)
    (h : p.process W cb bytes = .ok p') :
    HExt p.ws.screen.grid.hist p'.ws.screen.grid.hist ∧
      HExt p.ws.screen.altGrid.hist p'.ws.screen.altGrid.hist :=
  (MPred.iff.mp (MPred.process (actions_ext W hcb _ hr p.ws ⟨HExt.refl _, HExt.refl _⟩)) p' h).2

end frame

/-- **C12, "lines scrolled inside a region are not recorded"**, for the whole machine: while a
scroll region is active on the active grid, no action but RIS changes any history -/
theorem perform_region_keep (W : Nat → Option Nat) {cb : CbPolicy} (hcb : CbKeeps cb) (a : Action)
    (hris : isRis a = false) (ws ws' : WS) (hreg : RegionActive ws.screen.cur)
    (h : perform W cb ws a = .ok ws') :
    ws'.screen.grid.hist = ws.screen.grid.hist ∧ ws'.screen.altGrid.hist = ws.screen.altGrid.hist :=
  MPred.iff.mp ((perform_hist W hcb a).region hris ws hreg) ws' h

/-- a callback that looks at the offset (`Screen::scrollback()` is a public accessor) -/
def cbPeek : CbPolicy := fun _ s =>
  if s.grid.scrollbackOffset = 0 then pure s else pure { s with hideCursor := true }

def cexGrid (off : Nat) : Grid :=
  { size := ⟨1, 1⟩, pos := ⟨0, 0⟩, savedPos := ⟨0, 0⟩, rows := [Row.new 1], scrollTop := 0,
    scrollBottom := 0, originMode := false, savedOriginMode := false, scrollback := [Row.new 1],
    scrollbackLen := 1, scrollbackOffset := off }

def cexWS (off : Nat) : WS :=
  { screen := { grid := cexGrid off, altGrid := cexGrid 0, attrs := Attrs.default,
                savedAttrs := Attrs.default, appKeypad := false, appCursor := false,
                hideCursor := false, altScreen := false, bracketedPaste := false,
                mouseMode := .none, mouseEnc := .default },
    events := [] }

/-- without `CbResp` the statement fails: BEL with a callback that inspects the offset -/
theorem cbResp_needed (W : Nat → Option Nat) :
    (cexWS 0).forgetOff = (cexWS 1).forgetOff ∧
    (perform W cbPeek (cexWS 0) (.execute 7)).map WS.forgetOff
      ≠ (perform W cbPeek (cexWS 1) (.execute 7)).map WS.forgetOff := by
  refine ⟨rfl, ?_⟩
  intro h
  have e : ∀ ws, perform W cbPeek ws (.execute 7) = performExecute cbPeek ws 7 := fun _ => rfl
  rw [e, e] at h
  have := congrArg (fun r => match r with | .ok w => w.screen.hideCursor | .error _ => false) h
  exact absurd this (by decide)

end Vt.C12
