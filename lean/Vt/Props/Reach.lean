/-
  Vt.Props.Reach — C01 and C15 for every REACHABLE screen, with no assumption left on the screen: the
  hypotheses `Inv`, `Inv⁺`, `emitInv` of `full_redraw_fresh_reemit` / `rows_protocol_fresh` are discharged by
  `reachable_emitInv`.

  For every history of `process` / `set_size` / `set_scrollback` calls from `Parser::new` (sizes 1..65535, any
  scrollback capacity, any bytes in any chunking, any callback policy that keeps the three parts), if the screen `S`
  it ends in is not scrolled back, then the bytes of `S.state_formatted()` fed to a new parser of the same size give
  a screen with `obs = obs S`, no event, and byte-identical re-emission (C01); and the row-wise drawing protocol
  over `rows_formatted(0, cols)`, `cursor_state_formatted()`, `attributes_formatted()` shows `S` (C15).
-/
import Vt.Props.InvAll
import Vt.Props.C15full
namespace Vt.Reach
open Vt Vt.C13 Vt.C19 Vt.InvX Vt.InvF Vt.InvAll Vt.Recv

variable {W : Nat → Option Nat}

/-- **C01 for every reachable screen** -/
theorem full_redraw_reachable (hW : WOk W) {cbS cbR : CbPolicy}
    (hcb : CbInv W cbS) (hcx : CbX W cbS) (hcf : CbF W cbS)
    (rows cols sb : Nat) (hr : 1 ≤ rows) (hc : 1 ≤ cols) (hr' : rows ≤ 65535) (hc' : cols ≤ 65535)
    (ops : List Op) (hv : ∀ op ∈ ops, op.Valid) (sbR : Nat) :
    ∃ p, (Parser.new rows cols sb >>= fun p0 => ops.foldlM (applyOp W cbS) p0) = .ok p ∧
      (p.ws.screen.cur.scrollbackOffset = 0 →
        ∃ q bytes q', Parser.new p.ws.screen.cur.size.rows p.ws.screen.cur.size.cols sbR = .ok q ∧
          p.ws.screen.stateFormatted = .ok bytes ∧ q.process W cbR bytes = .ok q' ∧
          obs q'.screen = obs p.ws.screen ∧ q'.ws.events = [] ∧
          q'.screen.stateFormatted = .ok bytes ∧ q'.screen.contentsFormatted = p.ws.screen.contentsFormatted) := by
  obtain ⟨p, e, _, hinv⟩ := reachable_emitInv hW.space hcb hcx hcf rows cols sb hr hc hr' hc' ops hv
  exact ⟨p, e, fun hoff => C01.full_redraw_fresh_reemit (cb := cbR) hW p.ws.screen hinv hoff sbR⟩

/-- **C15 for every reachable screen** -/
theorem rows_protocol_reachable (hW : WOk W) {cbS cbR : CbPolicy}
    (hcb : CbInv W cbS) (hcx : CbX W cbS) (hcf : CbF W cbS)
    (rows cols sb : Nat) (hr : 1 ≤ rows) (hc : 1 ≤ cols) (hr' : rows ≤ 65535) (hc' : cols ≤ 65535)
    (ops : List Op) (hv : ∀ op ∈ ops, op.Valid) (sbR : Nat) :
    ∃ p, (Parser.new rows cols sb >>= fun p0 => ops.foldlM (applyOp W cbS) p0) = .ok p ∧
      (p.ws.screen.cur.scrollbackOffset = 0 →
        ∃ q rb cs q', Parser.new p.ws.screen.cur.size.rows p.ws.screen.cur.size.cols sbR = .ok q ∧
          p.ws.screen.rowsFormatted 0 p.ws.screen.cur.size.cols = .ok rb ∧
          p.ws.screen.cursorStateFormatted = .ok cs ∧
          q.process W cbR (C15.protocolStream p.ws.screen rb cs) = .ok q' ∧ C01.Shows q'.screen p.ws.screen) := by
  obtain ⟨p, e, _, hinv⟩ := reachable_emitInv hW.space hcb hcx hcf rows cols sb hr hc hr' hc' ops hv
  exact ⟨p, e, fun hoff => C15.rows_protocol_fresh (cb := cbR) hW p.ws.screen hinv hoff sbR⟩

/-- non-vacuity: the callback policies `cbNone` and `cbResize` satisfy the three hypotheses (`cbProbe`:
`CbProbe.cbProbe_all`), and the kernel-evaluation width function satisfies `WOk` -/
example : (CbInv W0 cbNone ∧ CbX W0 cbNone ∧ CbF W0 cbNone) ∧ (CbInv W0 cbResize ∧ CbX W0 cbResize ∧ CbF W0 cbResize) ∧
    WOk W0 := ⟨cbNone_all, cbResize_all, C01.wOk_W0⟩

end Vt.Reach
