/-
  Vt.Gen.Tie — the hand-written model (`Vt/Model/*.lean`) agrees with the tables that `bin/gentables`
  regenerates from the Rust source on every run (`Vt/Gen/Tables.lean`).  This module holds what the tie modules
  (`Tie*.lean`, independent of each other) share and says ONCE how a table is tied.
  * A table is read by small functions from an action token (`"screen.bs"`, `"set_mode(MODE_BRACKETED_PASTE)"`, …) to the
    model operation it denotes (`screenOp`, `execOf`, `escOf`, `csiArmOf`, `oscEvent`, `modeOp`, `attrOp`, `colorOp`;
    `lit` / `litAt` / `push` / `evalAt` for the writers of term.rs) and a dispatcher (`interpExec`, `interpEsc`,
    `interpCsi`, `interpOsc`, `interpMode`, `sgrStep`) that does what a Rust `match` does: the FIRST arm whose pattern
    matches, else the `_` arm.  A token the reading does not know evaluates to `unknownAction`, an error no model function
    returns, so nothing is tied by accident.
  * `*_tie`: model function = dispatcher on the generated table, for ALL arguments; `*_interpreted`: every token the table
    holds is known.  A literal, a byte, a default or a method changing in the Rust source changes the table and a proof
    stops compiling; so does a change in the order of two arms: of any two in a table that is read once, in the other
    tables of two whose order matters to the `match`.
  The three ways a table is tied:
  - READ once (`execute`, `esc_dispatch`, `sgr`).  `execArms_read`, `escArms_read`, `sgrArms_read` spell out what the table
    means, arm by arm: the pattern's numbers and the model-level function the token denotes.  A dispatcher depends on its
    table only through such a reading (`findArm_read`, the rules of `SgrRead`, the table a variable), so `*_interpreted` is
    a corollary and `*_tie` compares the model's `match` with the reading on NUMBERS alone.  The table of `sgr` on one
    number is `Sgr.single` (`sgrStep_single`), the description every property of `sgrLoop` rests on, and `sgr_single_tie`
    goes through `sgrLoop_cons`: the model's loop is not split here.
  - ARM BY ARM (`csi_dispatch`, `decset` / `decrst`).  The model's `match` is split; in each arm the arm of the table is
    found by evaluating patterns on numbers (`rfl`) and what its token denotes is looked up there (`rw [modeOp]`,
    `csiArmOf_op1`).  What takes a found arm to the value of the dispatcher is stated with the table a variable
    (`interpMode_of`, `interpMode_implemented`, `interpCsiWith_inner`, `interpCsiWith_default`).  A reading spelled out
    for these tables is longer than the per-arm lookup and no cheaper to check.
  - CLOSED facts (`osc_dispatch`, the writers of term.rs).  `osc_dispatch` (three arms, four tokens) is compared by `rfl`; so
    is a writer with an argument that stays a variable, the colours go through `colorGen_of_table`, and the rest is one
    evaluation per table.
  Strings are the trap: `String.decEq` on two literals encodes BOTH in UTF-8 before it compares anything, whether it is
  the elaborator (`rfl`, `decide`) or the kernel (`decide +kernel`) that evaluates it, and a literal against itself
  costs nothing only where the two meet syntactically (see `csiUnhandled_tie`).  In the readings no string is
  evaluated: a token is looked up by the equation of the reading function for that literal (`with_reducible rw [F]`,
  so that a failed match of two literals does not unfold `F`), a token the function does not know by its last
  equation with the disequalities closed by `String.reduceEq` (a proof term from the first differing character), a
  `List.lookup` through `lookup_ne` / `List.lookup_cons_self`.  Closed facts about a table whose keys are lists of
  strings (the censuses, the literals of term.rs, `csiArms_interpreted`) are one `decide +kernel`: the kernel stops at the
  first differing element.
  Hand-modelled, not read from the source: the bodies of the `Screen` methods, of `canonicalize_params_*`, of the
  `[38]` / `[48]` and `[38, 2, r, g, b]`-style arms of `sgr` and its empty-parameter case, `MoveFromTo` (it only
  calls other writers), `extend_itoa`, and the body of the CSI `t` arm: the table says on which final byte the one
  `special` arm sits, and `xtwinops_text_tie` says its text is the text the model was written from; the
  `sgr_ext_text_tie_*` of `Tie2.lean` say the same of the extended-colour arms of `sgr`.
-/
import Vt.Model.Perform
import Vt.Gen.Tables
namespace Vt.Gen
open Vt

/-- what an action token the interpretation does not know evaluates to.  The site numbers of the model are below 5000:
that none is 4000000 is a convention, not a theorem -/
def unknownAction {α} : M α := .error (.at 4000000)

/-- turn the hypotheses `x = 7 → False` that `split` leaves for the `_` arm of a match on
number literals into rewrite rules `(x == 7) = false` -/
macro "miss_hyps" : tactic =>
  `(tactic| simp only [imp_false, ← ne_eq, ← beq_eq_false_iff_ne] at *)

/-- `List.lookup` on a string key, entry by entry: with `String.reduceEq` for the side condition no `String.decEq` is evaluated -/
theorem lookup_ne {α} {a k : String} {b : α} {es : List (String × α)} (h : a ≠ k) :
    ((k, b) :: es).lookup a = es.lookup a := by
  simp only [List.lookup, beq_eq_false_iff_ne.mpr h]

/-- what the generated tables match on (the readings in the tie modules read `b`, `c`,
`intermediates`, `params` in the action tokens accordingly) -/
theorem scrutinee_tie : execScrutinee = "b" ∧ escScrutinee = "b" ∧
    escGuard.1 = "let Some(i) = intermediates.first()" ∧
    csiScrutinee = "intermediates.first()" ∧ oscScrutinee = "params" ∧
    decsetHead = "param in params / match param" ∧ decrstHead = "param in params / match param" ∧
    sgrScrutinee = "next_param!()" := by decide +kernel

/-- follow `screenDelegations`: a method whose Rust body only calls another method -/
def resolve (tok : String) : String :=
  match screenDelegations.lookup tok with
  | some t => t
  | none => tok

/-- run `f` on the fresh 2×3 screen and test the result.  The examples at the end of the tie modules: the dispatchers on the
generated tables do something; each is carried to the model by its tie and evaluated there (no strings), except `sgrStep`
(TieSgr.lean), which the kernel evaluates on the table itself -/
def onFresh (f : WS → M WS) (test : WS → Bool) : Bool :=
  match Screen.new ⟨2, 3⟩ 0 with
  | .ok s => (match f ⟨s, []⟩ with | .ok ws => test ws | .error _ => false)
  | .error _ => false

end Vt.Gen
