/-
  Vt.Gen.Tie2 — tripwires (DESIGN 10.7): the arms of `Screen::sgr` that `TieSgr.lean` does not interpret — the four
  `[38|48, 2|5, …]` pattern arms and the `[38]` / `[48]` arms, which read further parameters — are, kind, numbers and whole
  normalised text, the constants below.  The model of these arms (`sgrLoop`, Vt/Model/Perform.lean) is hand-written; a change
  to them in the source changes the table and breaks these theorems (a tripwire on the source, like `xtwinops_text_tie`, not
  a statement about the model).
-/
import Vt.Gen.Tables
namespace Vt.Gen

theorem sgr_arm_count : sgrArms.length = 23 := rfl

theorem sgr_ext_text_tie_0 : sgrArms[11]? = some ("pat [38, 2, r, g, b]", [38, 2], "attrs.fgcolor = crate::Color::Rgb(to_u8!(*r), to_u8!(*g), to_u8!(*b))") := rfl

theorem sgr_ext_text_tie_1 : sgrArms[12]? = some ("pat [38, 5, i]", [38, 5], "attrs.fgcolor = crate::Color::Idx(to_u8!(*i))") := rfl

theorem sgr_ext_text_tie_2 : sgrArms[13]? = some ("nums", [38], "match next_param!() { [2] => { let r = next_param_u8!(); let g = next_param_u8!(); let b = next_param_u8!(); self.attrs.fgcolor = crate::Color::Rgb(r, g, b); } [5] => { self.attrs.fgcolor = crate::Color::Idx(next_param_u8!()); } _ => { unhandled(self); return; } }") := rfl

theorem sgr_ext_text_tie_3 : sgrArms[16]? = some ("pat [48, 2, r, g, b]", [48, 2], "attrs.bgcolor = crate::Color::Rgb(to_u8!(*r), to_u8!(*g), to_u8!(*b))") := rfl

theorem sgr_ext_text_tie_4 : sgrArms[17]? = some ("pat [48, 5, i]", [48, 5], "attrs.bgcolor = crate::Color::Idx(to_u8!(*i))") := rfl

theorem sgr_ext_text_tie_5 : sgrArms[18]? = some ("nums", [48], "match next_param!() { [2] => { let r = next_param_u8!(); let g = next_param_u8!(); let b = next_param_u8!(); self.attrs.bgcolor = crate::Color::Rgb(r, g, b); } [5] => { self.attrs.bgcolor = crate::Color::Idx(next_param_u8!()); } _ => { unhandled(self); return; } }") := rfl

end Vt.Gen
