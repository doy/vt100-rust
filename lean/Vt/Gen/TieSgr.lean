/-
  Vt.Gen.TieSgr — one pass of the `loop` of `Screen::sgr` (screen.rs) on a one-number parameter other than `38` / `48`.
  Style (Tie.lean says why): the table is READ once, as a chain of tests on numbers in the order of the source
  (`sgrArms_read`), built arm by arm with the rules of `SgrRead` (`cons`: an arm that matches `test` and does `act`; `skip`:
  an arm no such number reaches; `attr` / `color` / `range` / `ext` / `pat` / `default`: the six kinds of arm the table has),
  the table a variable.  A chain of `if`s is the form its consumer wants: `sgrStep_single` says the chain is `Sgr.single`,
  the description every property of `sgrLoop` rests on; `sgr_single_tie` and `sgrStep_other` are read off it.  The arms that
  read further parameters stay hand-modelled; their texts are pinned in Tie2.lean.
-/
import Vt.Gen.Tie
import Vt.Lemmas.Sgr
namespace Vt.Gen
open Vt

def attrOp : String → Option (Attrs → Attrs)
  | "attrs = crate::attrs::Attrs::default()" => some fun _ => Attrs.default
  | "attrs.set_bold" => some fun a => { a with intensity := .bold }
  | "attrs.set_dim" => some fun a => { a with intensity := .dim }
  | "attrs.set_italic(true)" => some fun a => { a with italic := true }
  | "attrs.set_underline(true)" => some fun a => { a with underline := true }
  | "attrs.set_inverse(true)" => some fun a => { a with inverse := true }
  | "attrs.set_normal_intensity" => some fun a => { a with intensity := .normal }
  | "attrs.set_italic(false)" => some fun a => { a with italic := false }
  | "attrs.set_underline(false)" => some fun a => { a with underline := false }
  | "attrs.set_inverse(false)" => some fun a => { a with inverse := false }
  | _ => none

/-- the arms that set a colour from the number `n` itself.  `to_u8!` (which returns for `n > 255`) and the overflow check of `-`
are left out: neither fires within the bounds of the `range` arms these tokens sit under, which `sgrArms_read` spells out -/
def colorOp : String → Option (Nat → WS → WS)
  | "attrs.fgcolor = crate::Color::Idx(to_u8!(*n) - 30)" => some fun n ws => ws.setFg (.idx (n - 30))
  | "attrs.bgcolor = crate::Color::Idx(to_u8!(*n) - 40)" => some fun n ws => ws.setBg (.idx (n - 40))
  | "attrs.fgcolor = crate::Color::Idx(to_u8!(*n) - 82)" => some fun n ws => ws.setFg (.idx (n - 82))
  | "attrs.bgcolor = crate::Color::Idx(to_u8!(*n) - 92)" => some fun n ws => ws.setBg (.idx (n - 92))
  | "attrs.fgcolor = crate::Color::Default" => some fun _ ws => ws.setFg .default
  | "attrs.bgcolor = crate::Color::Default" => some fun _ ws => ws.setBg .default
  | _ => none

/-- does an arm of `sgr` match the one-number parameter `[n]` (a `pat` arm carries the two literal
numbers of its pattern and never matches one number) -/
def sgrArmMatches (a : String × List Nat × String) (n : Nat) : Bool :=
  match a.1, a.2.1 with
  | "nums", [k] => n == k
  | "range", [lo, hi] => decide (lo ≤ n) && decide (n ≤ hi)
  | "default", [] => true
  | _, _ => false

/-- what one pass of the `loop` of `sgr` does with a one-number parameter `[n]`, `n ∉ {38, 48}` -/
def sgrStep (arms : List (String × List Nat × String)) (unh : WS → M WS) (n : Nat) (ws : WS) : M WS :=
  match arms.find? (sgrArmMatches · n) with
  | some (kind, _, tok) =>
    if kind = "default" then (if tok = "unhandled(self)" then unh ws else unknownAction)
    else
      match attrOp tok with
      | some f => pure (ws.modAttrs f)
      | none =>
        match colorOp tok with
        | some g => pure (g n ws)
        | none => unknownAction
  | none => unknownAction

theorem sgrArmMatches_nums (k n : Nat) (t : String) : sgrArmMatches ("nums", [k], t) n = (n == k) := by
  simp only [sgrArmMatches]
theorem sgrArmMatches_range (lo hi n : Nat) (t : String) :
    sgrArmMatches ("range", [lo, hi], t) n = (decide (lo ≤ n) && decide (n ≤ hi)) := by
  simp only [sgrArmMatches]
theorem sgrArmMatches_default (n : Nat) (t : String) : sgrArmMatches ("default", [], t) n = true := by
  simp only [sgrArmMatches]
theorem sgrArmMatches_pat {kind : String} (h : kind ≠ "range") (a b n : Nat) (t : String) :
    sgrArmMatches (kind, [a, b], t) n = false := by
  unfold sgrArmMatches
  split <;> simp_all

def SgrCovered (a : String × List Nat × String) : Prop :=
  a.1 = "nums" ∧ a.2.1.length = 1 ∧ a.2.1 ≠ [38] ∧ a.2.1 ≠ [48] ∨ a.1 = "range"

/-- a `sgr` table read: on one number other than `38` / `48` it does `chain`, and every token `sgrStep` covers is known -/
def SgrRead (arms : List (String × List Nat × String)) (unh : WS → M WS) (chain : Nat → WS → M WS) : Prop :=
  (∀ n ws, n ≠ 38 → n ≠ 48 → sgrStep arms unh n ws = chain n ws) ∧
  ∀ a ∈ arms, SgrCovered a → (attrOp a.2.2).isSome ∨ (colorOp a.2.2).isSome

namespace SgrRead
variable {arms : List (String × List Nat × String)} {unh : WS → M WS} {chain : Nat → WS → M WS} {tok : String}

theorem step_cons {a : String × List Nat × String} (n : Nat) (ws : WS) :
    sgrStep (a :: arms) unh n ws = if sgrArmMatches a n then sgrStep [a] unh n ws else sgrStep arms unh n ws := by
  simp only [sgrStep, List.find?]
  cases sgrArmMatches a n <;> rfl

theorem nums_ne : "nums" ≠ "default" := by simp only [ne_eq, String.reduceEq, not_false_eq_true]
theorem range_ne : "range" ≠ "default" := by simp only [ne_eq, String.reduceEq, not_false_eq_true]

theorem step_attr {kind : String} {nums : List Nat} {f : Attrs → Attrs} (hk : kind ≠ "default")
    (hf : attrOp tok = some f) {n : Nat} (ws : WS) (hm : sgrArmMatches (kind, nums, tok) n = true) :
    sgrStep [(kind, nums, tok)] unh n ws = pure (ws.modAttrs f) := by
  simp only [sgrStep, List.find?, hm, hk, ↓reduceIte, hf]

theorem step_color {kind : String} {nums : List Nat} {g : Nat → WS → WS} (hk : kind ≠ "default")
    (hf : attrOp tok = none) (hg : colorOp tok = some g) {n : Nat} (ws : WS)
    (hm : sgrArmMatches (kind, nums, tok) n = true) : sgrStep [(kind, nums, tok)] unh n ws = pure (g n ws) := by
  simp only [sgrStep, List.find?, hm, hk, ↓reduceIte, hf, hg]

theorem cons {a : String × List Nat × String} {test : Nat → Bool} {act : Nat → WS → M WS}
    (ht : ∀ n, sgrArmMatches a n = test n)
    (hact : ∀ n ws, sgrArmMatches a n = true → sgrStep [a] unh n ws = act n ws)
    (hcov : (attrOp a.2.2).isSome ∨ (colorOp a.2.2).isSome) (h : SgrRead arms unh chain) :
    SgrRead (a :: arms) unh fun n ws => if test n then act n ws else chain n ws := by
  refine ⟨fun n ws h38 h48 => ?_, List.forall_mem_cons.mpr ⟨fun _ => hcov, h.2⟩⟩
  rw [step_cons, h.1 n ws h38 h48]
  by_cases hm : sgrArmMatches a n = true
  · rw [if_pos hm, hact n ws hm]; exact (if_pos (ht n ▸ hm)).symm
  · rw [if_neg hm]; exact (if_neg (ht n ▸ hm)).symm

theorem skip {a : String × List Nat × String} (hm : ∀ n, n ≠ 38 → n ≠ 48 → sgrArmMatches a n = false)
    (hcov : ¬ SgrCovered a) (h : SgrRead arms unh chain) : SgrRead (a :: arms) unh chain := by
  refine ⟨fun n ws h38 h48 => ?_, List.forall_mem_cons.mpr ⟨fun hc => absurd hc hcov, h.2⟩⟩
  rw [step_cons, hm n h38 h48, h.1 n ws h38 h48]; rfl

theorem attr {k : Nat} {f : Attrs → Attrs} (hf : attrOp tok = some f) (h : SgrRead arms unh chain) :
    SgrRead (("nums", [k], tok) :: arms) unh fun n ws => if n == k then pure (ws.modAttrs f) else chain n ws :=
  cons (sgrArmMatches_nums k · tok) (fun _ ws => step_attr nums_ne hf ws) (.inl (by rw [hf]; rfl)) h

theorem color {k : Nat} {g : Nat → WS → WS} (hf : attrOp tok = none) (hg : colorOp tok = some g)
    (h : SgrRead arms unh chain) :
    SgrRead (("nums", [k], tok) :: arms) unh fun n ws => if n == k then pure (g n ws) else chain n ws :=
  cons (sgrArmMatches_nums k · tok) (fun _ ws => step_color nums_ne hf hg ws) (.inr (by rw [hg]; rfl)) h

theorem range {lo hi : Nat} {g : Nat → WS → WS} (hf : attrOp tok = none) (hg : colorOp tok = some g)
    (h : SgrRead arms unh chain) :
    SgrRead (("range", [lo, hi], tok) :: arms) unh fun n ws =>
      if decide (lo ≤ n) && decide (n ≤ hi) then pure (g n ws) else chain n ws :=
  cons (sgrArmMatches_range lo hi · tok) (fun _ ws => step_color range_ne hf hg ws) (.inr (by rw [hg]; rfl)) h

/-- the arms `[38]` / `[48]` read further parameters: `sgrStep` is not asked about them -/
theorem ext {k : Nat} (hk : k = 38 ∨ k = 48) (h : SgrRead arms unh chain) :
    SgrRead (("nums", [k], tok) :: arms) unh chain := by
  refine skip (fun n h38 h48 => by rw [sgrArmMatches_nums]; exact beq_eq_false_iff_ne.mpr (by omega)) ?_ h
  rintro (⟨-, -, n38, n48⟩ | hr)
  · rcases hk with rfl | rfl
    · exact n38 rfl
    · exact n48 rfl
  · simp only [String.reduceEq] at hr

/-- a several-number pattern never matches one number -/
theorem pat {kind : String} {a b : Nat} (hn : kind ≠ "nums") (hr : kind ≠ "range") (h : SgrRead arms unh chain) :
    SgrRead ((kind, [a, b], tok) :: arms) unh chain :=
  skip (fun n _ _ => sgrArmMatches_pat hr a b n tok) (fun hc => hc.elim (fun hk => hn hk.1) hr) h

theorem default : SgrRead [("default", [], "unhandled(self)")] unh fun _ ws => unh ws := by
  refine ⟨fun n ws _ _ => ?_, ?_⟩
  · simp only [sgrStep, List.find?, sgrArmMatches_default, ↓reduceIte]
  · simp only [List.mem_singleton, forall_eq, SgrCovered, String.reduceEq, false_and, or_self, false_imp_iff]

end SgrRead

theorem attrOp_none {t : String} (h0 : t ≠ "attrs = crate::attrs::Attrs::default()") (h1 : t ≠ "attrs.set_bold")
    (h2 : t ≠ "attrs.set_dim") (h3 : t ≠ "attrs.set_italic(true)") (h4 : t ≠ "attrs.set_underline(true)")
    (h5 : t ≠ "attrs.set_inverse(true)") (h6 : t ≠ "attrs.set_normal_intensity") (h7 : t ≠ "attrs.set_italic(false)")
    (h8 : t ≠ "attrs.set_underline(false)") (h9 : t ≠ "attrs.set_inverse(false)") : attrOp t = none := by
  rw [attrOp] <;> assumption

theorem sgrArms_read (unh : WS → M WS) : SgrRead sgrArms unh fun n ws =>
    if n == 0 then pure (ws.modAttrs fun _ => Attrs.default)
    else if n == 1 then pure (ws.modAttrs fun a => { a with intensity := .bold })
    else if n == 2 then pure (ws.modAttrs fun a => { a with intensity := .dim })
    else if n == 3 then pure (ws.modAttrs fun a => { a with italic := true })
    else if n == 4 then pure (ws.modAttrs fun a => { a with underline := true })
    else if n == 7 then pure (ws.modAttrs fun a => { a with inverse := true })
    else if n == 22 then pure (ws.modAttrs fun a => { a with intensity := .normal })
    else if n == 23 then pure (ws.modAttrs fun a => { a with italic := false })
    else if n == 24 then pure (ws.modAttrs fun a => { a with underline := false })
    else if n == 27 then pure (ws.modAttrs fun a => { a with inverse := false })
    else if decide (30 ≤ n) && decide (n ≤ 37) then pure (ws.setFg (.idx (n - 30)))
    else if n == 39 then pure (ws.setFg .default)
    else if decide (40 ≤ n) && decide (n ≤ 47) then pure (ws.setBg (.idx (n - 40)))
    else if n == 49 then pure (ws.setBg .default)
    else if decide (90 ≤ n) && decide (n ≤ 97) then pure (ws.setFg (.idx (n - 82)))
    else if decide (100 ≤ n) && decide (n ≤ 107) then pure (ws.setBg (.idx (n - 92)))
    else unh ws := by
  unfold sgrArms
  -- arm by arm; the ten disequalities each `attrOp_none` asks for are set aside (`rotate_left`) and closed together at the end
  iterate 10 refine .attr (by with_reducible rw [attrOp]) ?_
  refine .range (attrOp_none ?_ ?_ ?_ ?_ ?_ ?_ ?_ ?_ ?_ ?_) (by with_reducible rw [colorOp]) ?_
  rotate_left 10
  refine .pat ?_ ?_ (.pat ?_ ?_ (.ext (.inl rfl) ?_))
  rotate_left 4
  refine .color (attrOp_none ?_ ?_ ?_ ?_ ?_ ?_ ?_ ?_ ?_ ?_) (by with_reducible rw [colorOp]) ?_
  rotate_left 10
  refine .range (attrOp_none ?_ ?_ ?_ ?_ ?_ ?_ ?_ ?_ ?_ ?_) (by with_reducible rw [colorOp]) ?_
  rotate_left 10
  refine .pat ?_ ?_ (.pat ?_ ?_ (.ext (.inr rfl) ?_))
  rotate_left 4
  refine .color (attrOp_none ?_ ?_ ?_ ?_ ?_ ?_ ?_ ?_ ?_ ?_) (by with_reducible rw [colorOp]) ?_
  rotate_left 10
  refine .range (attrOp_none ?_ ?_ ?_ ?_ ?_ ?_ ?_ ?_ ?_ ?_) (by with_reducible rw [colorOp]) ?_
  rotate_left 10
  refine .range (attrOp_none ?_ ?_ ?_ ?_ ?_ ?_ ?_ ?_ ?_ ?_) (by with_reducible rw [colorOp]) .default
  all_goals simp only [ne_eq, String.reduceEq, not_false_eq_true]

/-- the arms `sgrStep` covers are all interpreted; the other arms are exactly the `[38]` / `[48]`
arms (which read further parameters) and the several-number patterns -/
theorem sgrArms_interpreted :
    (∀ a ∈ sgrArms, a.1 = "nums" ∧ a.2.1.length = 1 ∧ a.2.1 ≠ [38] ∧ a.2.1 ≠ [48] ∨ a.1 = "range" →
      (attrOp a.2.2).isSome ∨ (colorOp a.2.2).isSome) ∧
    (sgrArms.filter (fun a => !(a.1 == "nums" && a.2.1.length == 1) && a.1 != "range")).map (·.1) =
      ["pat [38, 2, r, g, b]", "pat [38, 5, i]", "pat [48, 2, r, g, b]", "pat [48, 5, i]", "default"] :=
  ⟨(sgrArms_read pure).2, by decide +kernel⟩

/-- `Sgr.single` makes the tests of the table in the table's order: the chain `sgrArms_read` spells is `single`, arm for arm -/
theorem sgrStep_single (unh : WS → M WS) (n : Nat) (ws : WS) (h38 : n ≠ 38) (h48 : n ≠ 48) :
    sgrStep sgrArms unh n ws = (Sgr.single n).elim (unh ws) fun f => pure (ws.modAttrs f) := by
  rw [(sgrArms_read unh).1 n ws h38 h48]
  simp only [Sgr.single, apply_ite (Option.elim · (unh ws) fun f => pure (ws.modAttrs f)), Option.elim_some, Option.elim_none,
    beq_iff_eq, Bool.and_eq_true, decide_eq_true_eq]
  rfl

/-- one pass of the `loop` of `Screen::sgr` on a one-number parameter is the generated table, for ALL `n` except `38`
and `48` (whose arms read further parameters and stay hand-modelled) -/
theorem sgr_single_tie : ∀ (unh : WS → M WS) (n : Nat) (rest : List (List Nat)) (ws : WS),
    n ≠ 38 → n ≠ 48 →
    sgrLoop unh ([n] :: rest) ws = sgrStep sgrArms unh n ws >>= sgrLoop unh rest := by
  intro unh n rest ws h38 h48
  rw [sgrLoop_cons, Sgr.step_single _ h38 h48, sgrStep_single unh n ws h38 h48]
  cases Sgr.single n <;> rfl

theorem sgrStep_other (unh : WS → M WS) (n : Nat) (ws : WS)
    (h0 : n ≠ 0) (h1 : n ≠ 1) (h2 : n ≠ 2) (h3 : n ≠ 3) (h4 : n ≠ 4) (h7 : n ≠ 7) (h22 : n ≠ 22)
    (h23 : n ≠ 23) (h24 : n ≠ 24) (h27 : n ≠ 27) (h38 : n ≠ 38) (h39 : n ≠ 39) (h48 : n ≠ 48) (h49 : n ≠ 49) :
    sgrStep sgrArms unh n ws =
      if 30 ≤ n && n ≤ 37 then pure (ws.setFg (.idx (n - 30)))
      else if 40 ≤ n && n ≤ 47 then pure (ws.setBg (.idx (n - 40)))
      else if 90 ≤ n && n ≤ 97 then pure (ws.setFg (.idx (n - 82)))
      else if 100 ≤ n && n ≤ 107 then pure (ws.setBg (.idx (n - 92)))
      else unh ws := by
  rw [(sgrArms_read unh).1 n ws h38 h48]
  miss_hyps
  simp only [*, Bool.false_eq_true, ↓reduceIte]

example : onFresh (sgrStep sgrArms pure 94) (fun ws => ws.screen.attrs.fg == .idx 12) = true := by
  decide +kernel

end Vt.Gen
