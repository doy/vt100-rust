/-
  Vt.Gen.TieTerm — the writers of term.rs (`impl BufWrite`): the model's byte strings are the literals, pushed bytes,
  `extend_itoa` places and `write_param!` numbers of the generated tables (`termLits`, `termPushes`, `termItoa`,
  `termWriteParams`), found by position (`lit`, `push`) and by the chain of conditions they sit under (`litAt`, `pushAt`,
  `evalAt`).
  Style (Tie.lean says why): these are CLOSED facts about tables keyed by lists of strings, so each is one `decide +kernel`
  (the censuses, the `*_tie` / `*_lits` / `*_ctx` of the literal writers) or `rfl` (`moveTo_tie`, `moveRight_tie`,
  `eraseChar_tie`, where an argument stays a variable).  For the colours of the `Attrs` writer, whose numbers `i`, `r`, `g`,
  `b` stay variables, `colorGen_of_table` is stated for any table of `colorShape`, and `colorWP_tie` says ours is one.
-/
import Vt.Gen.Tie
namespace Vt.Gen
open Vt

/-- the literals of `impl BufWrite for name`, with their contexts, in source order -/
def lits (name : String) : List (List String × List Nat) := (termLits.lookup name).getD []

/-- the `i`-th `b".."` literal (source order) of `impl BufWrite for name` -/
def lit (name : String) (i : Nat) : List Nat := ((lits name)[i]?.map (·.2)).getD []

/-- the literal of `impl BufWrite for name` that sits under exactly the conditions `ctx` -/
def litAt (name : String) (ctx : List String) : List Nat := ((lits name).lookup ctx).getD []

def pushes (name : String) : List (List String × Nat) := (termPushes.lookup name).getD []

/-- the `i`-th `buf.push(b'.')` byte (source order) of `impl BufWrite for name` -/
def push (name : String) (i : Nat) : Nat := ((pushes name)[i]?.map (·.2)).getD 0

def pushAt (name : String) (ctx : List String) : Nat := ((pushes name).lookup ctx).getD 0

/-- the `i`-th `extend_itoa(buf, place + addend)` of `impl BufWrite for name` -/
def itoaArg (name : String) (i : Nat) : String × Nat :=
  ((((termItoa.lookup name).getD [])[i]?).map (·.2)).getD ("?", 0)

/-- the context of a literal under `if self.state { .. } else { .. }` -/
def stateCtx (st : Bool) : List String := [if st then "if self.state" else "else"]

/-- no writer type, literal, pushed byte or `extend_itoa` call appears or disappears unnoticed:
the writer types and how many of each kind they contain -/
theorem term_census :
    termLits.map (fun p => (p.1, p.2.length)) =
      [("ClearScreen", 1), ("ClearRowForward", 1), ("Crlf", 1), ("Backspace", 1), ("SaveCursor", 1),
       ("RestoreCursor", 1), ("MoveTo", 2), ("ClearAttrs", 1), ("Attrs", 1), ("MoveRight", 2),
       ("EraseChar", 2), ("HideCursor", 2), ("MoveFromTo", 0), ("ApplicationKeypad", 2),
       ("ApplicationCursor", 2), ("BracketedPaste", 2), ("MouseProtocolMode", 8),
       ("MouseProtocolEncoding", 4)] ∧
    (termPushes.filter (fun p => !p.2.isEmpty)).map (fun p => (p.1, p.2.length)) =
      [("MoveTo", 2), ("Attrs", 2), ("MoveRight", 1), ("EraseChar", 1)] ∧
    (termItoa.filter (fun p => !p.2.isEmpty)).map (fun p => (p.1, p.2.map (·.2))) =
      [("MoveTo", [("self.row", 1), ("self.col", 1)]), ("Attrs", [("$i", 0)]),
       ("MoveRight", [("n", 0)]), ("EraseChar", [("n", 0)])] := by decide +kernel

theorem clearScreen_tie : Term.clearScreen = lit "ClearScreen" 0 := by decide +kernel
theorem clearRowForward_tie : Term.clearRowForward = lit "ClearRowForward" 0 := by decide +kernel
theorem crlf_tie : Term.crlf = lit "Crlf" 0 := by decide +kernel
theorem backspace_tie : Term.backspace = lit "Backspace" 0 := by decide +kernel
theorem saveCursor_tie : Term.saveCursor = lit "SaveCursor" 0 := by decide +kernel
theorem restoreCursor_tie : Term.restoreCursor = lit "RestoreCursor" 0 := by decide +kernel
theorem clearAttrs_tie : Term.clearAttrs = lit "ClearAttrs" 0 := by decide +kernel

/-- `MoveTo`: the `ESC[H` case, the `ESC[` prefix, the `+ 1`s, the `;` and the final `H` -/
theorem moveTo_tie : ∀ p : Pos, Term.moveTo p =
    if p.row == 0 && p.col == 0 then litAt "MoveTo" ["if self.row == 0 && self.col == 0"]
    else litAt "MoveTo" ["else"] ++ Term.itoa (p.row + (itoaArg "MoveTo" 0).2) ++ [push "MoveTo" 0]
      ++ Term.itoa (p.col + (itoaArg "MoveTo" 1).2) ++ [push "MoveTo" 1] := by
  intro p; rfl

theorem moveTo_lits : lit "MoveTo" 0 = litAt "MoveTo" ["if self.row == 0 && self.col == 0"] ∧
    lit "MoveTo" 1 = litAt "MoveTo" ["else"] := by decide +kernel

theorem moveRight_tie : ∀ n, Term.moveRight n =
    match n with
    | 0 => []
    | 1 => litAt "MoveRight" ["match self.count", "1"]
    | n => litAt "MoveRight" ["match self.count", "n"] ++ Term.itoa n ++ [push "MoveRight" 0] := by
  intro n
  match n with
  | 0 | 1 | _ + 2 => rfl

theorem moveRight_lits : lit "MoveRight" 0 = litAt "MoveRight" ["match self.count", "1"] ∧
    lit "MoveRight" 1 = litAt "MoveRight" ["match self.count", "n"] := by decide +kernel

theorem eraseChar_tie : ∀ n, Term.eraseChar n =
    match n with
    | 0 => []
    | 1 => litAt "EraseChar" ["match self.count", "1"]
    | n => litAt "EraseChar" ["match self.count", "n"] ++ Term.itoa n ++ [push "EraseChar" 0] := by
  intro n
  match n with
  | 0 | 1 | _ + 2 => rfl

theorem eraseChar_lits : lit "EraseChar" 0 = litAt "EraseChar" ["match self.count", "1"] ∧
    lit "EraseChar" 1 = litAt "EraseChar" ["match self.count", "n"] := by decide +kernel

theorem hideCursor_tie :
    Term.hideCursor true = lit "HideCursor" 0 ∧ Term.hideCursor false = lit "HideCursor" 1 := by decide +kernel
theorem applicationKeypad_tie : Term.applicationKeypad true = lit "ApplicationKeypad" 0 ∧
    Term.applicationKeypad false = lit "ApplicationKeypad" 1 := by decide +kernel
theorem applicationCursor_tie : Term.applicationCursor true = lit "ApplicationCursor" 0 ∧
    Term.applicationCursor false = lit "ApplicationCursor" 1 := by decide +kernel
theorem bracketedPaste_tie : Term.bracketedPaste true = lit "BracketedPaste" 0 ∧
    Term.bracketedPaste false = lit "BracketedPaste" 1 := by decide +kernel

/-- by condition: the literal under `if self.state` for `true`, the one under `else` for `false`
(swapping the two branches in the source together with their literals keeps this true, swapping only
the literals does not) -/
theorem hideCursor_ctx : ∀ st, Term.hideCursor st = litAt "HideCursor" (stateCtx st) := by decide +kernel
theorem applicationKeypad_ctx :
    ∀ st, Term.applicationKeypad st = litAt "ApplicationKeypad" (stateCtx st) := by decide +kernel
theorem applicationCursor_ctx :
    ∀ st, Term.applicationCursor st = litAt "ApplicationCursor" (stateCtx st) := by decide +kernel
theorem bracketedPaste_ctx :
    ∀ st, Term.bracketedPaste st = litAt "BracketedPaste" (stateCtx st) := by decide +kernel

theorem mouseMode_forall_iff {p : MouseMode → Prop} :
    (∀ m, p m) ↔ p .none ∧ p .press ∧ p .pressRelease ∧ p .buttonMotion ∧ p .anyMotion :=
  ⟨fun h => ⟨h _, h _, h _, h _, h _⟩, fun ⟨a, b, c, d, e⟩ m => by cases m <;> assumption⟩

theorem mouseEnc_forall_iff {p : MouseEnc → Prop} :
    (∀ e, p e) ↔ p .default ∧ p .utf8 ∧ p .sgr :=
  ⟨fun h => ⟨h _, h _, h _⟩, fun ⟨a, b, c⟩ e => by cases e <;> assumption⟩

/-- the Rust path of a mouse protocol mode, as it is written in the patterns of term.rs -/
def mmName : MouseMode → String
  | .none => "crate::MouseProtocolMode::None"
  | .press => "crate::MouseProtocolMode::Press"
  | .pressRelease => "crate::MouseProtocolMode::PressRelease"
  | .buttonMotion => "crate::MouseProtocolMode::ButtonMotion"
  | .anyMotion => "crate::MouseProtocolMode::AnyMotion"

/-- `MouseProtocolMode`: nothing when unchanged; to leave a mode, the literal of the arm
`None => match self.prev { prev => .. }`; to enter one, the literal of the arm `mode => ..` -/
theorem mouseProtocolMode_tie : ∀ mode prev, Term.mouseProtocolMode mode prev =
    if mode = prev then []
    else if mode = .none then
      litAt "MouseProtocolMode" ["match self.mode", mmName .none, "match self.prev", mmName prev]
    else litAt "MouseProtocolMode" ["match self.mode", mmName mode] := by
  simp only [mouseMode_forall_iff]
  decide +kernel

def meName : MouseEnc → String
  | .default => "crate::MouseProtocolEncoding::Default"
  | .utf8 => "crate::MouseProtocolEncoding::Utf8"
  | .sgr => "crate::MouseProtocolEncoding::Sgr"

theorem mouseProtocolEncoding_tie : ∀ enc prev, Term.mouseProtocolEncoding enc prev =
    if enc = prev then []
    else if enc = .default then
      litAt "MouseProtocolEncoding" ["match self.encoding", meName .default, "match self.prev", meName prev]
    else litAt "MouseProtocolEncoding" ["match self.encoding", meName enc] := by
  simp only [mouseEnc_forall_iff]
  decide +kernel

/-- the `write_param!(e)` calls of the `Attrs` writer: context, place, addend -/
def attrsWP : List (List String × String × Nat) := (termWriteParams.lookup "Attrs").getD []

def wpAt (ctx : List String) : List (String × Nat) := (attrsWP.filter (·.1 == ctx)).map (·.2)

/-- `place + addend`; the place `""` is no place: a constant -/
def evalWP (env : String → Option Nat) (e : String × Nat) : Option Nat :=
  if e.1 = "" then some e.2 else (env e.1).map (· + e.2)

def evalAt (ctx : List String) (env : String → Option Nat) : Option (List Nat) :=
  (wpAt ctx).mapM (evalWP env)

def envNone : String → Option Nat := fun _ => none
def envI (i : Nat) : String → Option Nat := fun s => if s = "i" then some i else none
def envRgb (r g b : Nat) : String → Option Nat := fun s =>
  if s = "r" then some r else if s = "g" then some g else if s = "b" then some b else none

/-- what the writer emits for a colour: `which` is `"fgcolor"` or `"bgcolor"` -/
def colorGen (which : String) (c : Color) : Option (List Nat) :=
  let pre := [if which = "fgcolor" then "if let Some(fgcolor) = self.fgcolor"
              else "if let Some(bgcolor) = self.bgcolor", "match " ++ which]
  match c with
  | .default => evalAt (pre ++ ["crate::Color::Default"]) envNone
  | .idx i =>
    if i < 8 then evalAt (pre ++ ["crate::Color::Idx(i)", "if i<8"]) (envI i)
    else if i < 16 then evalAt (pre ++ ["crate::Color::Idx(i)", "else if i<16"]) (envI i)
    else evalAt (pre ++ ["crate::Color::Idx(i)", "else"]) (envI i)
  | .rgb r g b => evalAt (pre ++ ["crate::Color::Rgb(r, g, b)"]) (envRgb r g b)

def colorWP (which : String) : List (List (String × Nat)) :=
  let pre := [if which = "fgcolor" then "if let Some(fgcolor) = self.fgcolor"
              else "if let Some(bgcolor) = self.bgcolor", "match " ++ which]
  [wpAt (pre ++ ["crate::Color::Default"]), wpAt (pre ++ ["crate::Color::Idx(i)", "if i<8"]),
   wpAt (pre ++ ["crate::Color::Idx(i)", "else if i<16"]), wpAt (pre ++ ["crate::Color::Idx(i)", "else"]),
   wpAt (pre ++ ["crate::Color::Rgb(r, g, b)"])]

/-- the shape the five arms have for both colours: a constant, two offsets of `i`, and the extended forms
behind the number `ext` -/
def colorShape (dflt lo hi ext : Nat) : List (List (String × Nat)) :=
  [[("", dflt)], [("i", lo)], [("i", hi)], [("", ext), ("", 5), ("i", 0)],
   [("", ext), ("", 2), ("r", 0), ("g", 0), ("b", 0)]]

theorem colorGen_of_table {which : String} {dflt lo hi ext : Nat}
    (h : colorWP which = colorShape dflt lo hi ext) :
    ∀ c, colorGen which c = some (match c with
      | .default => [dflt]
      | .idx i => if i < 8 then [i + lo] else if i < 16 then [i + hi] else [ext, 5, i]
      | .rgb r g b => [ext, 2, r, g, b]) := by
  simp only [colorWP, colorShape, List.cons.injEq, and_true] at h
  obtain ⟨h1, h2, h3, h4, h5⟩ := h
  intro c
  cases c with
  | default => simp only [colorGen, evalAt, h1]; rfl
  | idx i =>
    simp only [colorGen, evalAt, h2, h3, h4]
    split
    · rfl
    · split <;> rfl
  | rgb r g b => simp only [colorGen, evalAt, h5]; rfl

theorem colorWP_tie : colorWP "fgcolor" = colorShape 39 30 82 38 ∧ colorWP "bgcolor" = colorShape 49 40 92 48 := by
  decide +kernel

theorem fgParams_tie : ∀ c, colorGen "fgcolor" c = some (Term.fgParams c) := by
  intro c
  rw [colorGen_of_table colorWP_tie.1 c]
  cases c <;> rfl

theorem bgParams_tie : ∀ c, colorGen "bgcolor" c = some (Term.bgParams c) := by
  intro c
  rw [colorGen_of_table colorWP_tie.2 c]
  cases c <;> rfl

def intensityGen (i : Intensity) : Option (List Nat) :=
  evalAt ["if let Some(intensity) = self.intensity", "match intensity",
    match i with | .normal => "Intensity::Normal" | .bold => "Intensity::Bold" | .dim => "Intensity::Dim"]
    envNone

/-- `field` is `"italic"`, `"underline"` or `"inverse"` -/
def flagGen (field : String) (b : Bool) : Option (List Nat) :=
  evalAt ["if let Some(" ++ field ++ ") = self." ++ field, if b then "if " ++ field else "else"] envNone

def optGen {α} (f : α → Option (List Nat)) : Option α → Option (List Nat)
  | none => some []
  | some a => f a

/-- the order of the six groups is written here by hand: nothing reads it from the table -/
def attrsGen (a : Term.SgrAttrs) : Option (List Nat) := do
  let l1 ← optGen (colorGen "fgcolor") a.fg
  let l2 ← optGen (colorGen "bgcolor") a.bg
  let l3 ← optGen intensityGen a.intensity
  let l4 ← optGen (flagGen "italic") a.italic
  let l5 ← optGen (flagGen "underline") a.underline
  let l6 ← optGen (flagGen "inverse") a.inverse
  pure (l1 ++ l2 ++ l3 ++ l4 ++ l5 ++ l6)

theorem intensityGen_tie : ∀ i, intensityGen i =
    some (match i with | .normal => [22] | .bold => [1] | .dim => [2]) := by
  obtain ⟨h1, h2, h3⟩ : intensityGen .normal = some [22] ∧ intensityGen .bold = some [1] ∧
    intensityGen .dim = some [2] := by decide +kernel
  intro i
  cases i with
  | normal => exact h1
  | bold => exact h2
  | dim => exact h3

theorem flagGen_tie : flagGen "italic" true = some [3] ∧ flagGen "italic" false = some [23] ∧
    flagGen "underline" true = some [4] ∧ flagGen "underline" false = some [24] ∧
    flagGen "inverse" true = some [7] ∧ flagGen "inverse" false = some [27] := by decide +kernel

/-- `SgrAttrs.params` = the numbers the generated table says the writer emits, for every `Attrs` -/
theorem sgrParams_tie : ∀ a : Term.SgrAttrs, attrsGen a = some a.params := by
  intro ⟨fg, bg, int, it, un, inv⟩
  obtain ⟨it1, it0, un1, un0, inv1, inv0⟩ := flagGen_tie
  have hfg : optGen (colorGen "fgcolor") fg = some (match fg with | some c => Term.fgParams c | none => []) := by
    cases fg <;> simp only [optGen, fgParams_tie]
  have hbg : optGen (colorGen "bgcolor") bg = some (match bg with | some c => Term.bgParams c | none => []) := by
    cases bg <;> simp only [optGen, bgParams_tie]
  have hint : optGen intensityGen int = some (match int with
      | some .normal => [22] | some .bold => [1] | some .dim => [2] | none => []) := by
    rcases int with _ | _ | _ | _ <;> simp only [optGen, intensityGen_tie]
  have flag {w : String} {t f : Nat} (h1 : flagGen w true = some [t]) (h0 : flagGen w false = some [f])
      (o : Option Bool) : optGen (flagGen w) o =
        some (match o with | some true => [t] | some false => [f] | none => []) := by
    rcases o with _ | _ | _ <;> simp only [optGen, h1, h0]
  simp only [attrsGen, hfg, hbg, hint, flag it1 it0, flag un1 un0, flag inv1 inv0, Term.SgrAttrs.params]
  rfl

/-- every `write_param!` of the source is under one of the conditions used above (none elsewhere) -/
theorem attrsWP_census :
    let pre (w : String) := ["if let Some(" ++ w ++ ") = self." ++ w, "match " ++ w]
    let flag (w : String) := [["if let Some(" ++ w ++ ") = self." ++ w, "if " ++ w],
                              ["if let Some(" ++ w ++ ") = self." ++ w, "else"]]
    let used : List (List String) :=
      (["fgcolor", "bgcolor"].flatMap fun w =>
        [pre w ++ ["crate::Color::Default"], pre w ++ ["crate::Color::Idx(i)", "if i<8"],
         pre w ++ ["crate::Color::Idx(i)", "else if i<16"], pre w ++ ["crate::Color::Idx(i)", "else"],
         pre w ++ ["crate::Color::Rgb(r, g, b)"]])
      ++ [pre "intensity" ++ ["Intensity::Normal"], pre "intensity" ++ ["Intensity::Bold"],
          pre "intensity" ++ ["Intensity::Dim"]]
      ++ flag "italic" ++ flag "underline" ++ flag "inverse"
    attrsWP.all (fun e => used.contains e.1) = true ∧ attrsWP.length = 31 := by decide +kernel

def joinWith (sep : Nat) : List Nat → List Nat
  | [] => []
  | [p] => Term.itoa p
  | p :: ps => Term.itoa p ++ [sep] ++ joinWith sep ps

theorem joinParams_tie : ∀ ps, Term.joinParams ps =
    joinWith (pushAt "Attrs" ["macro write_param", "else"]) ps := by
  have h : pushAt "Attrs" ["macro write_param", "else"] = 59 := by decide +kernel
  rw [h]
  intro ps
  fun_induction Term.joinParams ps with
  | case3 p ps hne ih =>
    match ps with
    | [] => exact absurd rfl hne
    | _ :: _ => rw [ih]; rfl
  | _ => rfl

/-- the whole `Attrs` writer: nothing when every field is `None`; else the `ESC[` literal, the
numbers joined by the byte the macro pushes between them, and the final pushed byte -/
theorem sgrWrite_tie : ∀ a : Term.SgrAttrs, a.write =
    if a.isEmpty then []
    else litAt "Attrs" [] ++ joinWith (pushAt "Attrs" ["macro write_param", "else"]) a.params
      ++ [pushAt "Attrs" []] := by
  intro a
  rw [← joinParams_tie]
  rfl

end Vt.Gen
