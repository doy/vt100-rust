/-
  Vt.Gen.TieModes — the arms of `Screen::decset` / `Screen::decrst` (screen.rs).
  Style (Tie.lean says why): tied ARM BY ARM.  `decset_tie` / `decrst_tie` split the model's `match`; `interpMode_of`,
  `interpMode_eq_none_iff`, `interpMode_implemented` are about any table.  `decset_implemented` / `decrst_implemented`: a
  number is handed to `unhandled` iff it is not in the table.
-/
import Vt.Gen.Tie
namespace Vt.Gen
open Vt

def modeOp : String → Option (Screen → M (Option Screen))
  | "set_mode(MODE_APPLICATION_CURSOR)" => some fun s => pure (some { s with appCursor := true })
  | "clear_mode(MODE_APPLICATION_CURSOR)" => some fun s => pure (some { s with appCursor := false })
  | "grid_mut().set_origin_mode(true)" => some fun s => do
      let s ← s.modifyGrid (fun g => g.setOriginMode true); pure (some s)
  | "grid_mut().set_origin_mode(false)" => some fun s => do
      let s ← s.modifyGrid (fun g => g.setOriginMode false); pure (some s)
  | "set_mouse_mode(MouseProtocolMode::Press)" => some fun s => pure (some { s with mouseMode := .press })
  | "set_mouse_mode(MouseProtocolMode::PressRelease)" =>
      some fun s => pure (some { s with mouseMode := .pressRelease })
  | "set_mouse_mode(MouseProtocolMode::ButtonMotion)" =>
      some fun s => pure (some { s with mouseMode := .buttonMotion })
  | "set_mouse_mode(MouseProtocolMode::AnyMotion)" =>
      some fun s => pure (some { s with mouseMode := .anyMotion })
  | "clear_mouse_mode(MouseProtocolMode::Press)" => some fun s => pure (some (s.clearMouseMode .press))
  | "clear_mouse_mode(MouseProtocolMode::PressRelease)" =>
      some fun s => pure (some (s.clearMouseMode .pressRelease))
  | "clear_mouse_mode(MouseProtocolMode::ButtonMotion)" =>
      some fun s => pure (some (s.clearMouseMode .buttonMotion))
  | "clear_mouse_mode(MouseProtocolMode::AnyMotion)" =>
      some fun s => pure (some (s.clearMouseMode .anyMotion))
  | "set_mouse_encoding(MouseProtocolEncoding::Utf8)" => some fun s => pure (some { s with mouseEnc := .utf8 })
  | "set_mouse_encoding(MouseProtocolEncoding::Sgr)" => some fun s => pure (some { s with mouseEnc := .sgr })
  | "clear_mouse_encoding(MouseProtocolEncoding::Utf8)" => some fun s => pure (some (s.clearMouseEnc .utf8))
  | "clear_mouse_encoding(MouseProtocolEncoding::Sgr)" => some fun s => pure (some (s.clearMouseEnc .sgr))
  | "clear_mode(MODE_HIDE_CURSOR)" => some fun s => pure (some { s with hideCursor := false })
  | "set_mode(MODE_HIDE_CURSOR)" => some fun s => pure (some { s with hideCursor := true })
  | "set_mode(MODE_BRACKETED_PASTE)" => some fun s => pure (some { s with bracketedPaste := true })
  | "clear_mode(MODE_BRACKETED_PASTE)" => some fun s => pure (some { s with bracketedPaste := false })
  | "enter_alternate_grid" => some fun s => do let s ← s.enterAlternateGrid; pure (some s)
  | "exit_alternate_grid" => some fun s => pure (some s.exitAlternateGrid)
  | "decsc; alternate_grid.clear; enter_alternate_grid" => some fun s => do
      let s ← s.decsc
      let ag ← s.altGrid.clear
      let s ← ({ s with altGrid := ag }).enterAlternateGrid
      pure (some s)
  | "exit_alternate_grid; decrc" => some fun s => do
      let s ← s.exitAlternateGrid.decrc
      pure (some s)
  | _ => none

/-- one parameter of `decset` / `decrst`: the first arm whose pattern is the parameter, else the
`_` arm (`[]`); `none` = the closure `unhandled` is called -/
def interpMode (arms : List (List Nat × String)) (s : Screen) (p : List Nat) : M (Option Screen) :=
  match (arms.find? (fun a => a.1.isEmpty || p == a.1)).map (·.2) with
  | some "unhandled(self)" => pure none
  | some tok =>
    match modeOp tok with
    | some f => f s
    | none => unknownAction
  | none => unknownAction

theorem modeArms_interpreted : ∀ a ∈ decsetArms ++ decrstArms,
    a.2 = "unhandled(self)" ∨ (modeOp a.2).isSome := by
  -- a conjunct per arm; the two `_` arms are the left alternative, every other token is looked up by its equation
  simp only [decsetArms, decrstArms, List.cons_append, List.nil_append, List.forall_mem_cons, List.not_mem_nil,
    false_imp_iff, implies_true, true_or, true_and, and_true]
  repeat' apply And.intro
  all_goals exact .inr (by rw [modeOp]; rfl)

theorem bind_ne_ok_none {α} (x : M α) (f : α → M (Option Screen)) (hf : ∀ a, f a ≠ .ok none) :
    (x >>= f) ≠ .ok none := by
  cases x with
  | error e => intro h; cases h
  | ok a => exact hf a

/-- no token `modeOp` knows reports `none`: only the `_` arm hands a parameter to `unhandled` -/
theorem modeOp_ne_none {tok : String} {f : Screen → M (Option Screen)} (h : modeOp tok = some f)
    (s : Screen) : f s ≠ .ok none := by
  have hs : ∀ r : Screen, (pure (some r) : M (Option Screen)) ≠ .ok none := fun r h => by cases h
  unfold modeOp at h
  split at h <;> cases h
  all_goals repeat refine bind_ne_ok_none _ _ fun _ => ?_
  all_goals exact hs _

theorem interpMode_eq_none_iff {arms : List (List Nat × String)} {s : Screen} {p : List Nat} :
    interpMode arms s p = .ok none ↔
      (arms.find? (fun a => a.1.isEmpty || p == a.1)).map (·.2) = some "unhandled(self)" := by
  unfold interpMode
  split
  · rename_i h; rw [h]; exact ⟨fun _ => rfl, fun _ => rfl⟩
  · rename_i tok hne h
    rw [h]
    refine ⟨fun hn => ?_, fun ht => absurd (Option.some.inj ht) hne⟩
    split at hn
    · rename_i hf; exact absurd hn (modeOp_ne_none hf s)
    · cases hn
  · rename_i h; rw [h]; exact ⟨fun hn => (nomatch hn), fun ht => (nomatch ht)⟩

theorem interpMode_of {arms : List (List Nat × String)} {p : List Nat} {tok : String}
    {f : Screen → M (Option Screen)}
    (h : (arms.find? (fun a => a.1.isEmpty || p == a.1)).map (·.2) = some tok)
    (hu : tok ≠ "unhandled(self)") (hf : modeOp tok = some f) (s : Screen) :
    interpMode arms s p = f s := by
  unfold interpMode
  rw [h]
  split
  · rename_i heq; exact absurd (Option.some.inj heq) hu
  · rename_i heq; cases heq; rw [hf]
  · rename_i heq; cases heq

/-- `Screen.decsetOne` is the generated table of `fn decset`, for every parameter: the implemented
numbers are exactly the table's, each does what its arm says, every other parameter is unhandled -/
theorem decset_tie : ∀ s p, Screen.decsetOne s p = interpMode decsetArms s p := by
  intro s p
  unfold Screen.decsetOne
  split
  -- the thirteenth arm of `decsetOne` is `_`
  case h_13 =>
    miss_hyps
    exact (interpMode_eq_none_iff.mpr (by simp [decsetArms, List.find?, *])).symm
  -- `rfl` finds the arm (numbers only); the token is looked up by the equation of `modeOp` for it
  all_goals
    symm
    apply interpMode_of
    · rfl
    · simp
    · rw [modeOp]

theorem decrst_tie : ∀ s p, Screen.decrstOne s p = interpMode decrstArms s p := by
  intro s p
  unfold Screen.decrstOne
  split
  -- the thirteenth arm of `decrstOne` is `_`
  case h_13 =>
    miss_hyps
    exact (interpMode_eq_none_iff.mpr (by simp [decrstArms, List.find?, *])).symm
  all_goals
    symm
    apply interpMode_of
    · rfl
    · simp
    · rw [modeOp]

theorem interpMode_implemented {arms : List (List Nat × String)}
    (h : ∀ a ∈ arms, a.1 ≠ [] ∧ a.2 ≠ "unhandled(self)") (s : Screen) (n : Nat) :
    interpMode (arms ++ [([], "unhandled(self)")]) s [n] = .ok none ↔
      [n] ∉ (arms ++ [([], "unhandled(self)")]).map Prod.fst := by
  rw [interpMode_eq_none_iff]
  induction arms with
  | nil => simp
  | cons a t ih =>
    obtain ⟨⟨ha1, ha2⟩, ht⟩ := List.forall_mem_cons.mp h
    by_cases hp : [n] = a.1
    · simp [hp, ha2]
    · have := ih ht
      simp_all

/-- the set of implemented mode numbers is exactly the generated list: a parameter is handed to
`unhandled` iff it is not in the table -/
theorem decset_implemented : ∀ s n,
    Screen.decsetOne s [n] = .ok none ↔ [n] ∉ decsetArms.map (·.1) := by
  intro s n
  rw [decset_tie]
  exact interpMode_implemented (arms := decsetArms.dropLast) (by decide +kernel) s n

theorem decrst_implemented : ∀ s n,
    Screen.decrstOne s [n] = .ok none ↔ [n] ∉ decrstArms.map (·.1) := by
  intro s n
  rw [decrst_tie]
  exact interpMode_implemented (arms := decrstArms.dropLast) (by decide +kernel) s n

example : onFresh (fun ws => do
      let s ← interpMode decsetArms ws.screen [2004]
      pure { ws with screen := s.getD ws.screen }) (·.screen.bracketedPaste) = true := by
  simp only [← decset_tie]; decide +kernel

end Vt.Gen
