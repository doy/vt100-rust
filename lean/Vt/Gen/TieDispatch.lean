/-
  Vt.Gen.TieDispatch — `fn execute`, `fn esc_dispatch` and `fn osc_dispatch` of perform.rs.
  Style (Tie.lean says why): `execute` and `esc_dispatch` are READ once — `screenTok_read` (the argument-free `Screen`
  methods both name), `execArms_read`, `escArms_read` say per arm the bytes and the function the token denotes;
  `findArm_read` / `interpreted_of_read` are what a dispatcher and `*_interpreted` need of a reading, the table a variable;
  `execute_tie`, `esc_tie` then compare the model's `match` with the reading on numbers.  `osc_dispatch` has three arms and
  four tokens: `osc_tie` is `rfl` arm by arm, `oscArms_interpreted` one evaluation.
-/
import Vt.Gen.Tie
namespace Vt.Gen
open Vt

/-- `Screen` methods without argument that `execute` / `esc_dispatch` call -/
def screenOp : String → Option (Screen → M Screen)
  | "screen.bs" => some Screen.bs
  | "screen.tab" => some Screen.tab
  | "screen.lf" => some Screen.lf
  | "screen.cr" => some Screen.cr
  | "screen.decsc" => some Screen.decsc
  | "screen.decrc" => some Screen.decrc
  | "screen.deckpam" => some (fun s => pure s.deckpam)
  | "screen.deckpnm" => some (fun s => pure s.deckpnm)
  | "screen.ri" => some Screen.ri
  | "screen.ris" => some Screen.ris
  | _ => none

theorem screenTok_read :
    ["screen.bs", "screen.tab", "screen.lf", "screen.vt", "screen.ff", "screen.cr", "screen.decsc", "screen.decrc",
      "screen.deckpam", "screen.deckpnm", "screen.ri", "screen.ris"].map (fun t => screenOp (resolve t)) =
    [some Screen.bs, some Screen.tab, some Screen.lf, some Screen.lf, some Screen.lf, some Screen.cr,
      some Screen.decsc, some Screen.decrc, some (fun s => pure s.deckpam), some (fun s => pure s.deckpnm),
      some Screen.ri, some Screen.ris] := by
  simp only [List.map, resolve, screenDelegations, lookup_ne, List.lookup_cons_self, List.lookup_nil, ne_eq, String.reduceEq,
    not_false_eq_true]
  with_reducible rw [screenOp, screenOp, screenOp, screenOp, screenOp, screenOp, screenOp, screenOp, screenOp, screenOp]

/-- the first arm whose byte list contains `b` (`[]` is the `_` arm) -/
def findArm (arms : List (List Nat × String)) (b : Nat) : Option String :=
  (arms.find? (fun a => a.1.isEmpty || a.1.any (b == ·))).map (·.2)

section read
variable {α : Type} {tokOf : String → Option α} {arms : List (List Nat × String)} {R : List (List Nat × Option α)}

/-- a dispatcher sees a byte table only through the reading `R` of its tokens -/
theorem findArm_read (h : arms.map (fun a => (a.1, tokOf a.2)) = R) (b : Nat) :
    (findArm arms b).bind tokOf = (R.find? (fun r => r.1.isEmpty || r.1.any (b == ·))).bind (·.2) := by
  subst h
  rw [findArm, List.find?_map, Option.bind_map, Option.bind_map]
  rfl

theorem interpreted_of_read (h : arms.map (fun a => (a.1, tokOf a.2)) = R) (hR : ∀ r ∈ R, r.2.isSome) :
    ∀ a ∈ arms, (tokOf a.2).isSome := by
  subst h
  exact fun a ha => hR _ (List.mem_map_of_mem (f := fun a => (a.1, tokOf a.2)) ha)
end read

def execOf (tok : String) : Option (CbPolicy → WS → Nat → M WS) :=
  match tok with
  | "nop" => some fun _ ws _ => pure ws
  | "callbacks.audible_bell" => some fun cb ws _ => emit cb .audibleBell ws
  | "callbacks.unhandled_control(b)" => some fun cb ws b => emit cb (.unhandledControl b) ws
  | t => (screenOp (resolve t)).map fun f _ ws _ => ws.onScreen f

def interpExec (arms : List (List Nat × String)) (cb : CbPolicy) (ws : WS) (b : Nat) : M WS :=
  match (findArm arms b).bind execOf with
  | some f => f cb ws b
  | none => unknownAction

theorem execOf_screen {t : String} {f : Screen → M Screen} (h1 : t ≠ "nop") (h2 : t ≠ "callbacks.audible_bell")
    (h3 : t ≠ "callbacks.unhandled_control(b)") (hf : screenOp (resolve t) = some f) :
    execOf t = some fun _ ws _ => ws.onScreen f := by
  rw [execOf, hf]
  · rfl
  all_goals assumption

theorem execArms_read : execArms.map (fun a => (a.1, execOf a.2)) =
    [([7], some fun cb ws _ => emit cb .audibleBell ws), ([8], some fun _ ws _ => ws.onScreen Screen.bs),
     ([9], some fun _ ws _ => ws.onScreen Screen.tab), ([10], some fun _ ws _ => ws.onScreen Screen.lf),
     ([11], some fun _ ws _ => ws.onScreen Screen.lf), ([12], some fun _ ws _ => ws.onScreen Screen.lf),
     ([13], some fun _ ws _ => ws.onScreen Screen.cr), ([14, 15], some fun _ ws _ => pure ws),
     ([], some fun cb ws b => emit cb (.unhandledControl b) ws)] := by
  have hs := screenTok_read
  simp only [List.map, List.cons.injEq, and_true] at hs
  obtain ⟨bs, tab, lf, vt, ff, cr, -⟩ := hs
  simp only [execArms, List.map]
  rw [execOf_screen _ _ _ bs, execOf_screen _ _ _ tab, execOf_screen _ _ _ lf, execOf_screen _ _ _ vt,
    execOf_screen _ _ _ ff, execOf_screen _ _ _ cr]
  · with_reducible rw [execOf, execOf, execOf]
  all_goals simp only [ne_eq, String.reduceEq, not_false_eq_true]

theorem execArms_interpreted : ∀ a ∈ execArms, (execOf a.2).isSome :=
  interpreted_of_read execArms_read (by decide)

/-- `performExecute` is the generated table of `fn execute`, for every byte -/
theorem execute_tie : ∀ cb ws b, performExecute cb ws b = interpExec execArms cb ws b := by
  intro cb ws b
  simp only [interpExec, findArm_read execArms_read]
  -- the reading holds bytes and functions only: every arm of the model is found by evaluating tests on numbers
  unfold performExecute
  split
  -- the tenth arm of `performExecute` is `_`
  case h_10 =>
    miss_hyps
    simp only [List.find?, List.isEmpty, List.any, Bool.or_false, *]
    rfl
  all_goals rfl

def escEvent : String → Option (List Nat → Nat → Event)
  | "callbacks.visual_bell" => some fun _ _ => .visualBell
  | "callbacks.unhandled_escape(None, None, b)" => some fun _ b => .unhandledEscape none none b
  | "callbacks.unhandled_escape(Some(*i), intermediates.get(1).copied(), b)" =>
      some fun ints b => .unhandledEscape ints.head? ints.tail.head? b
  | _ => none

def escOf (tok : String) : Option (CbPolicy → WS → List Nat → Nat → M WS) :=
  match escEvent tok with
  | some e => some fun cb ws ints b => emit cb (e ints b) ws
  | none => (screenOp (resolve tok)).map fun f _ ws _ _ => ws.onScreen f

/-- `if let Some(i) = intermediates.first() { guard.2 } else { match b { arms } }` -/
def interpEsc (guard : String × String) (arms : List (List Nat × String))
    (cb : CbPolicy) (ws : WS) (ints : List Nat) (b : Nat) : M WS :=
  if guard.1 = "let Some(i) = intermediates.first()" then
    match ints with
    | _ :: _ =>
      match escOf guard.2 with
      | some f => f cb ws ints b
      | none => unknownAction
    | [] =>
      match (findArm arms b).bind escOf with
      | some f => f cb ws ints b
      | none => unknownAction
  else unknownAction

theorem escOf_event {t : String} {e : List Nat → Nat → Event} (h : escEvent t = some e) :
    escOf t = some fun cb ws ints b => emit cb (e ints b) ws := by
  simp only [escOf, h]

theorem escOf_screen {t : String} {f : Screen → M Screen} (h1 : t ≠ "callbacks.visual_bell")
    (h2 : t ≠ "callbacks.unhandled_escape(None, None, b)")
    (h3 : t ≠ "callbacks.unhandled_escape(Some(*i), intermediates.get(1).copied(), b)")
    (hf : screenOp (resolve t) = some f) : escOf t = some fun _ ws _ _ => ws.onScreen f := by
  have he : escEvent t = none := by rw [escEvent] <;> assumption
  simp only [escOf, he, hf, Option.map_some]

/-- the arms of the `match`, and the action of the outer `if let` -/
theorem escArms_read : escArms.map (fun a => (a.1, escOf a.2)) =
    [([55], some fun _ ws _ _ => ws.onScreen Screen.decsc), ([56], some fun _ ws _ _ => ws.onScreen Screen.decrc),
     ([61], some fun _ ws _ _ => ws.onScreen fun s => pure s.deckpam),
     ([62], some fun _ ws _ _ => ws.onScreen fun s => pure s.deckpnm),
     ([77], some fun _ ws _ _ => ws.onScreen Screen.ri), ([99], some fun _ ws _ _ => ws.onScreen Screen.ris),
     ([103], some fun cb ws _ _ => emit cb .visualBell ws),
     ([], some fun cb ws _ b => emit cb (.unhandledEscape none none b) ws)] ∧
    escOf escGuard.2 = some fun cb ws ints b => emit cb (.unhandledEscape ints.head? ints.tail.head? b) ws := by
  have hs := screenTok_read
  simp only [List.map, List.cons.injEq, and_true] at hs
  obtain ⟨-, -, -, -, -, -, decsc, decrc, deckpam, deckpnm, ri, ris⟩ := hs
  refine ⟨?_, escOf_event (by with_reducible rw [escGuard, escEvent])⟩
  simp only [escArms, List.map]
  rw [escOf_screen _ _ _ decsc, escOf_screen _ _ _ decrc, escOf_screen _ _ _ deckpam, escOf_screen _ _ _ deckpnm,
    escOf_screen _ _ _ ri, escOf_screen _ _ _ ris, escOf_event (by with_reducible rw [escEvent]),
    escOf_event (by with_reducible rw [escEvent])]
  all_goals simp only [ne_eq, String.reduceEq, not_false_eq_true]

theorem escArms_interpreted : (escOf escGuard.2).isSome ∧ ∀ a ∈ escArms, (escOf a.2).isSome :=
  ⟨by rw [escArms_read.2]; rfl, interpreted_of_read escArms_read.1 (by decide)⟩

/-- `performEsc` is the generated table of `fn esc_dispatch`, for every byte and intermediates -/
theorem esc_tie : ∀ cb ws ints b, performEsc cb ws ints b = interpEsc escGuard escArms cb ws ints b := by
  intro cb ws ints b
  have hg : escGuard.1 = "let Some(i) = intermediates.first()" := rfl
  simp only [interpEsc, hg, ↓reduceIte, escArms_read.2, findArm_read escArms_read.1]
  unfold performEsc
  split
  · rfl
  · split
    -- the eighth arm of the model's `match b` is `_`
    case h_8 =>
      miss_hyps
      simp only [List.find?, List.isEmpty, List.any, Bool.or_false, *]
      rfl
    all_goals rfl

def oscEvent : String → Option (List Nat → Event)
  | "callbacks.set_window_icon_name(s)" => some .setWindowIconName
  | "callbacks.set_window_title(s)" => some .setWindowTitle
  | _ => none

def runCalls (f : WS → String → M WS) : List String → WS → M WS
  | [], ws => pure ws
  | [t], ws => f ws t
  | t :: ts, ws => f ws t >>= runCalls f ts

/-- `match params { [b"..", s] => { calls }, .., _ => dflt }` -/
def interpOsc (arms : List (List Nat × String × List String)) (dflt : String)
    (cb : CbPolicy) (ws : WS) (params : List (List Nat)) : M WS :=
  let dfltAct : M WS :=
    if dflt = "callbacks.unhandled_osc(params)" then emit cb (.unhandledOsc params) ws
    else unknownAction
  match params with
  | [sel, s] =>
    match arms.find? (fun a => sel == a.1) with
    | some a =>
      if a.2.1 = "s" then
        runCalls (fun ws tok =>
          match oscEvent tok with
          | some e => emit cb (e s) ws
          | none => unknownAction) a.2.2 ws
      else unknownAction
    | none => dfltAct
  | _ => dfltAct

theorem oscArms_interpreted : oscDefault = "callbacks.unhandled_osc(params)" ∧
    ∀ a ∈ oscArms, a.2.1 = "s" ∧ ∀ t ∈ a.2.2, (oscEvent t).isSome := by decide +kernel

/-- `performOsc` is the generated table of `fn osc_dispatch`, for every parameter list -/
theorem osc_tie : ∀ cb ws params, performOsc cb ws params = interpOsc oscArms oscDefault cb ws params := by
  intro cb ws params
  unfold performOsc
  split
  iterate 3 rfl
  · rename_i h0 h1 h2
    match params with
    | [] | [_] | _ :: _ :: _ :: _ => rfl
    | [sel, s] =>
      have e0 : (sel == [48]) = false := beq_eq_false_iff_ne.mpr (fun h => h0 s (by rw [h]))
      have e1 : (sel == [49]) = false := beq_eq_false_iff_ne.mpr (fun h => h1 s (by rw [h]))
      have e2 : (sel == [50]) = false := beq_eq_false_iff_ne.mpr (fun h => h2 s (by rw [h]))
      have hf : oscArms.find? (fun a => sel == a.1) = none := by
        simp only [oscArms, List.find?, e0, e1, e2]
      simp only [interpOsc, hf]
      rfl

example : onFresh (fun ws => interpExec execArms cbNone ws 7) (·.events == [.audibleBell]) = true := by
  simp only [← execute_tie]; decide +kernel
example : onFresh (fun ws => interpExec execArms cbNone ws 200) (·.events == [.unhandledControl 200]) = true := by
  simp only [← execute_tie]; decide +kernel
example : onFresh (fun ws => interpEsc escGuard escArms cbNone ws [] 61) (·.screen.appKeypad) = true := by
  simp only [← esc_tie]; decide +kernel
example : onFresh (fun ws => interpOsc oscArms oscDefault cbNone ws [[48], [104, 105]])
    (·.events == [.setWindowIconName [104, 105], .setWindowTitle [104, 105]]) = true := by
  simp only [← osc_tie]; decide +kernel

end Vt.Gen
