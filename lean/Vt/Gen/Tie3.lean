/-
  Vt.Gen.Tie3 — tripwires and one tie for the parts of the source the translator (`bin/gentables`) records without
  interpreting them (DESIGN 10.7, 10.8): statements of the `write_buf` bodies that are not one of the four recognised calls,
  empty arms and early `return`s (`termOther`), the order between calls of different kinds (`termOrder`), the list of
  methods of `impl vte::Perform for WrappedScreen` (`performMethods`), the whole text of `fn print` (`printBody`) and of the
  part of `Screen::sgr` before its `loop` (`sgrPrelude`, `sgrSignature`).

  * `*_pin`: the regenerated table IS the constant written here (the text the model was written from): a tripwire on the
    SOURCE — an edit there changes `Tables.lean` and this file stops building — that says nothing about the model.  By `rfl`
    on two closed list literals: no string is compared character by character.  `termOther_<Type>`: the same per writer
    type, so that the failing type is named.
  * `print_tie` is a real tie: `performPrint` (Vt/Model/Perform.lean) is, for every code point, the interpretation of the
    generated `printConsts` (both bounds of the C1 range, U+FFFD) and `printActions` (the three branch bodies as action
    tokens).  The first action `if let Ok(b) = u8::try_from(u32::from(c)) { self.execute(b); }` is interpreted with its
    conversion: it does nothing for `c ≥ 256`; the proof uses that the generated upper bound is ≤ 256.
  What is NOT tied: the interpretation `printOf` of the three tokens is hand-written (as `execOf` in TieDispatch.lean); the
  texts of `termOther` / `sgrPrelude` are compared with constants, not interpreted.
-/
import Vt.Gen.Tie
namespace Vt.Gen
open Vt

theorem termOther_pin : termOther = [
  ("ClearScreen", []),
  ("ClearRowForward", []),
  ("Crlf", []),
  ("Backspace", []),
  ("SaveCursor", []),
  ("RestoreCursor", []),
  ("MoveTo", []),
  ("ClearAttrs", []),
  ("Attrs", [
    ("stmt", ["if self.fgcolor.is_none() && self.bgcolor.is_none() && self.intensity.is_none() && self.italic.is_none() && self.underline.is_none() && self.inverse.is_none()"], "return"),
    ("stmt", [], "let mut first = true"),
    ("macro", [], "write_param($i:expr)"),
    ("stmt", ["macro write_param", "if first"], "first = false")]),
  ("MoveRight", [
    ("nop", ["match self.count", "0"], "")]),
  ("EraseChar", [
    ("nop", ["match self.count", "0"], "")]),
  ("HideCursor", []),
  ("MoveFromTo", [
    ("stmt", ["if self.to.row == self.from.row + 1 && self.to.col == 0"], "crate::term::Crlf.write_buf(buf)"),
    ("stmt", ["else if self.from.row == self.to.row && self.from.col<self.to.col"], "crate::term::MoveRight::new(self.to.col - self.from.col).write_buf(buf)"),
    ("stmt", ["else if self.to != self.from"], "crate::term::MoveTo::new(self.to).write_buf(buf)")]),
  ("ApplicationKeypad", []),
  ("ApplicationCursor", []),
  ("BracketedPaste", []),
  ("MouseProtocolMode", [
    ("stmt", ["if self.mode == self.prev"], "return"),
    ("nop", ["match self.mode", "crate::MouseProtocolMode::None", "match self.prev", "crate::MouseProtocolMode::None"], "")]),
  ("MouseProtocolEncoding", [
    ("stmt", ["if self.encoding == self.prev"], "return"),
    ("nop", ["match self.encoding", "crate::MouseProtocolEncoding::Default", "match self.prev", "crate::MouseProtocolEncoding::Default"], "")])] := rfl

theorem termOrder_pin : termOrder = [
  ("ClearScreen", ["lit"]),
  ("ClearRowForward", ["lit"]),
  ("Crlf", ["lit"]),
  ("Backspace", ["lit"]),
  ("SaveCursor", ["lit"]),
  ("RestoreCursor", ["lit"]),
  ("MoveTo", ["lit", "lit", "itoa", "push", "itoa", "push"]),
  ("ClearAttrs", ["lit"]),
  ("Attrs", ["stmt", "lit", "stmt", "macro", "stmt", "push", "itoa", "wparam", "wparam", "wparam", "wparam", "wparam", "wparam", "wparam", "wparam", "wparam", "wparam", "wparam", "wparam", "wparam", "wparam", "wparam", "wparam", "wparam", "wparam", "wparam", "wparam", "wparam", "wparam", "wparam", "wparam", "wparam", "wparam", "wparam", "wparam", "wparam", "wparam", "wparam", "push"]),
  ("MoveRight", ["nop", "lit", "lit", "itoa", "push"]),
  ("EraseChar", ["nop", "lit", "lit", "itoa", "push"]),
  ("HideCursor", ["lit", "lit"]),
  ("MoveFromTo", ["stmt", "stmt", "stmt"]),
  ("ApplicationKeypad", ["lit", "lit"]),
  ("ApplicationCursor", ["lit", "lit"]),
  ("BracketedPaste", ["lit", "lit"]),
  ("MouseProtocolMode", ["stmt", "nop", "lit", "lit", "lit", "lit", "lit", "lit", "lit", "lit"]),
  ("MouseProtocolEncoding", ["stmt", "nop", "lit", "lit", "lit", "lit"])] := rfl

theorem performMethods_pin : performMethods = ["print", "execute", "esc_dispatch", "csi_dispatch", "osc_dispatch"] := rfl

theorem printBody_pin : printBody = [
  "if('\\u{80}'..'\\u{a0}').contains(&c) { if let",
  "Ok(b) = u8::try_from(u32::from(c)) {",
  "self.execute(b); } } else if c == '\\u{fffd}' {",
  "self.callbacks.unhandled_char(&mut self.screen,",
  "c); } else { self.screen.text(c); }"] := rfl

theorem printConsts_pin : printConsts = [128, 160, 65533] := rfl

theorem printActions_pin : printActions = ["if let Ok(b) = u8::try_from(u32::from(c)) { self.execute(b); }", "callbacks.unhandled_char(c)", "screen.text(c)"] := rfl

theorem sgrSignature_pin : sgrSignature = "(&mut self, params:&vte::Params, mut unhandled:impl FnMut(&mut Self))" := rfl

theorem sgrPrelude_pin : sgrPrelude = [
  "if params.is_empty() { self.attrs =",
  "crate::attrs::Attrs::default(); return; } let",
  "mut iter = params.iter(); macro_rules!next_param",
  "{ () => { match iter.next() { Some(n) => n, _ =>",
  "return} }; } macro_rules!to_u8 { ($n:expr) => {",
  "if let Some(n) = u16_to_u8($n) { n } else {",
  "return; } }; } macro_rules!next_param_u8 { () =>",
  "{ if let&[n] = next_param!() { to_u8!(n) } else",
  "{ return; } }; }"] := rfl

def other (name : String) : List (String × List String × String) := (termOther.lookup name).getD []

theorem termOther_Attrs : other "Attrs" = [
    ("stmt", ["if self.fgcolor.is_none() && self.bgcolor.is_none() && self.intensity.is_none() && self.italic.is_none() && self.underline.is_none() && self.inverse.is_none()"], "return"),
    ("stmt", [], "let mut first = true"),
    ("macro", [], "write_param($i:expr)"),
    ("stmt", ["macro write_param", "if first"], "first = false")] := by
  simp only [other, termOther, lookup_ne, List.lookup_cons_self, ne_eq, String.reduceEq, not_false_eq_true, Option.getD_some]

theorem termOther_MoveRight : other "MoveRight" = [
    ("nop", ["match self.count", "0"], "")] := by
  simp only [other, termOther, lookup_ne, List.lookup_cons_self, ne_eq, String.reduceEq, not_false_eq_true, Option.getD_some]

theorem termOther_EraseChar : other "EraseChar" = [
    ("nop", ["match self.count", "0"], "")] := by
  simp only [other, termOther, lookup_ne, List.lookup_cons_self, ne_eq, String.reduceEq, not_false_eq_true, Option.getD_some]

theorem termOther_MoveFromTo : other "MoveFromTo" = [
    ("stmt", ["if self.to.row == self.from.row + 1 && self.to.col == 0"], "crate::term::Crlf.write_buf(buf)"),
    ("stmt", ["else if self.from.row == self.to.row && self.from.col<self.to.col"], "crate::term::MoveRight::new(self.to.col - self.from.col).write_buf(buf)"),
    ("stmt", ["else if self.to != self.from"], "crate::term::MoveTo::new(self.to).write_buf(buf)")] := by
  simp only [other, termOther, lookup_ne, List.lookup_cons_self, ne_eq, String.reduceEq, not_false_eq_true, Option.getD_some]

theorem termOther_MouseProtocolMode : other "MouseProtocolMode" = [
    ("stmt", ["if self.mode == self.prev"], "return"),
    ("nop", ["match self.mode", "crate::MouseProtocolMode::None", "match self.prev", "crate::MouseProtocolMode::None"], "")] := by
  simp only [other, termOther, lookup_ne, List.lookup_cons_self, ne_eq, String.reduceEq, not_false_eq_true, Option.getD_some]

theorem termOther_MouseProtocolEncoding : other "MouseProtocolEncoding" = [
    ("stmt", ["if self.encoding == self.prev"], "return"),
    ("nop", ["match self.encoding", "crate::MouseProtocolEncoding::Default", "match self.prev", "crate::MouseProtocolEncoding::Default"], "")] := by
  simp only [other, termOther, lookup_ne, List.lookup_cons_self, ne_eq, String.reduceEq, not_false_eq_true, Option.getD_some]

/-- the writer bodies that consist of recognised calls only -/
theorem termOther_none : ∀ n ∈ ["ClearScreen", "ClearRowForward", "Crlf", "Backspace", "SaveCursor", "RestoreCursor", "MoveTo", "ClearAttrs", "HideCursor", "ApplicationKeypad", "ApplicationCursor", "BracketedPaste"],
    other n = [] := by decide +kernel

/-- the three action tokens of `fn print`.  `u8::try_from(u32::from(c))` succeeds exactly for `c < 256` -/
def printOf (W : Nat → Option Nat) : String → Option (CbPolicy → WS → Nat → M WS)
  | "if let Ok(b) = u8::try_from(u32::from(c)) { self.execute(b); }" =>
      some fun cb ws c => if c < 256 then performExecute cb ws c else pure ws
  | "callbacks.unhandled_char(c)" => some fun cb ws c => emit cb (.unhandledChar c) ws
  | "screen.text(c)" => some fun _ ws c => ws.onScreen (fun s => s.text W c)
  | _ => none

/-- `if ('lo'..'hi').contains(&c) { A } else if c == 'r' { B } else { C }` with `consts = [lo, hi, r]`,
`acts = [A, B, C]` -/
def interpPrint (consts : List Nat) (acts : List String) (W : Nat → Option Nat) (cb : CbPolicy) (ws : WS)
    (c : Nat) : M WS :=
  match consts, acts with
  | [lo, hi, r], [a, b, t] =>
    match printOf W (if lo ≤ c ∧ c < hi then a else if c = r then b else t) with
    | some f => f cb ws c
    | none => unknownAction
  | _, _ => unknownAction

theorem printActions_interpreted : ∀ W, ∀ a ∈ printActions, (printOf W a).isSome := by
  intro W a ha
  simp only [printActions, List.mem_cons, List.not_mem_nil, or_false] at ha
  rcases ha with rfl | rfl | rfl <;> rw [printOf] <;> rfl

/-- `performPrint` is the generated reading of `fn print`, for every code point -/
theorem print_tie : ∀ W cb ws c, performPrint W cb ws c = interpPrint printConsts printActions W cb ws c := by
  intro W cb ws c
  unfold performPrint
  by_cases h1 : 128 ≤ c ∧ c < 160
  · have h2 : c < 256 := by omega
    simp [interpPrint, printConsts, printActions, printOf, h1, h2]
  · by_cases h3 : c = 65533
    · subst h3
      simp [interpPrint, printConsts, printActions, printOf]
    · simp [interpPrint, printConsts, printActions, printOf, h1, h3]

/-- the test of `interpPrint` with the constants of `printConsts_pin` put in by hand: a C1 control, U+FFFD and a letter
take the first, the second and the third branch -/
example : (if 128 ≤ 133 ∧ 133 < 160 then 0 else if 133 = 65533 then 1 else 2) = 0 ∧
    (if 128 ≤ 65533 ∧ 65533 < 160 then 0 else if 65533 = 65533 then 1 else 2) = 1 ∧
    (if 128 ≤ 97 ∧ 97 < 160 then 0 else if 97 = 65533 then 1 else 2) = 2 := by decide

end Vt.Gen
