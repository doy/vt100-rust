/-
  Vt.Gen.TieCsi — `fn csi_dispatch` of perform.rs: the outer `match intermediates.first()` and the two inner
  `match c`.
  Style (Tie.lean says why): tied ARM BY ARM.  `csi_tie` splits the model's `match`; in each arm the arm of the table is
  found by evaluating patterns on numbers (`rfl`) and its token looked up there (`csiArmOf_op1` for the fifteen one-number
  methods, `simp only [csiArmOf, …]` for the rest); `interpCsiWith_inner` / `interpCsiWith_default` take a found arm to the
  value of the dispatcher, the table a variable.  `csiArms_interpreted` is one `decide +kernel`.
-/
import Vt.Gen.Tie
namespace Vt.Gen
open Vt

abbrev CsiArm := Nat × String × String × List Nat × Bool × List String
abbrev CsiOuterArm := (String × List Nat) × String × List CsiArm × String

def screenOp1 : String → Option (Screen → Nat → M Screen)
  | "screen.ich" => some Screen.ich
  | "screen.cuu" => some Screen.cuu
  | "screen.cud" => some Screen.cud
  | "screen.cuf" => some Screen.cuf
  | "screen.cub" => some Screen.cub
  | "screen.cnl" => some Screen.cnl
  | "screen.cpl" => some Screen.cpl
  | "screen.cha" => some Screen.cha
  | "screen.il" => some Screen.il
  | "screen.dl" => some Screen.dl
  | "screen.dch" => some Screen.dch
  | "screen.su" => some Screen.su
  | "screen.sd" => some Screen.sd
  | "screen.ech" => some Screen.ech
  | "screen.vpa" => some Screen.vpa
  | _ => none

/-- the callback calls of `csi_dispatch`, given `params`, `intermediates`, `c`.  `Some(b'?')` and
`Some(*i)` are only written in arms where `intermediates.first()` is that value. -/
def csiEvent : String → Option (List (List Nat) → List Nat → Nat → Event)
  | "callbacks.unhandled_csi(intermediates.first().copied(), intermediates.get(1).copied(), &params.iter().collect::<Vec<_>>(), c)" =>
      some fun params ints c => .unhandledCsi ints.head? ints.tail.head? params c
  | "callbacks.unhandled_csi(None, None, &params.iter().collect::<Vec<_>>(), c)" =>
      some fun params _ c => .unhandledCsi none none params c
  | "callbacks.unhandled_csi(Some(b'?'), intermediates.get(1).copied(), &params.iter().collect::<Vec<_>>(), c)" =>
      some fun params ints c => .unhandledCsi (some 63) ints.tail.head? params c
  | "callbacks.unhandled_csi(Some(*i), intermediates.get(1).copied(), &params.iter().collect::<Vec<_>>(), c)" =>
      some fun params ints c => .unhandledCsi ints.head? ints.tail.head? params c
  | _ => none

/-- the normalised text of the `'t'` arm (XTWINOPS) that the hand-written model of that arm
(`xtOp`, `xtArg`) was transliterated from (cut at spaces into short pieces, as in the table) -/
def xtwinopsBody : List String :=
  [
   "let mut params_iter = params.iter(); let op =",
   "params_iter.next().and_then( | x |",
   "x.first().copied()); if op == Some(8) {",
   "let(screen_rows, screen_cols) =",
   "self.screen.size(); let rows =",
   "params_iter.next().map_or(screen_rows, | x | {",
   "*x.first().unwrap_or(&screen_rows) }); let cols",
   "= params_iter.next().map_or(screen_cols, | x | {",
   "*x.first().unwrap_or(&screen_cols) });",
   "self.callbacks.resize(&mut self.screen, (rows,",
   "cols)); } else {",
   "self.callbacks.unhandled_csi(&mut self.screen,",
   "None, None, &params.iter().collect::<Vec<_>>(),",
   "c); }"]

/-- one inner arm `(final byte, method, canonicaliser, defaults, passes unhandled, text)`:
* `M(canonicalize_params_1(params, d))` for the one-number methods: read entirely off the table;
* `cup` / `ed` / `el` / `sgr` / `decset` / `decrst` / `decstbm` / the `'t'` arm: which method, which
  canonicaliser and which defaults come from the table, the bodies are the model's -/
def csiArmOf (cb : CbPolicy) (unh : WS → M WS) (a : CsiArm) :
    Option (WS → List (List Nat) → Nat → M WS) :=
  match resolve a.2.1, a.2.2.1, a.2.2.2.1, a.2.2.2.2.1, a.2.2.2.2.2 with
  | "screen.cup", "canon2", [d1, d2], false, [] =>
      some fun ws params _ => ws.onScreen (fun s =>
        let (r, c) := canon2 params d1 d2
        s.cup r c)
  | "screen.ed", "canon1", [d], true, [] => some fun ws params _ => ed unh (canon1 params d) ws
  | "screen.el", "canon1", [d], true, [] => some fun ws params _ => el unh (canon1 params d) ws
  | "screen.sgr", "params", [], true, [] => some fun ws params _ => sgr unh params ws
  | "screen.decset", "params", [], true, [] => some fun ws params _ => decset unh params ws
  | "screen.decrst", "params", [], true, [] => some fun ws params _ => decrst unh params ws
  | "screen.decstbm", "decstbm", [], false, ["self.screen.grid().size()"] =>
      some fun ws params _ => ws.onScreen (fun s =>
        let (t, b) := canon2 params 1 s.cur.size.rows
        s.decstbm t b)
  | "", "special", [], false, _ =>
      -- the text of the arm is compared once, in `xtwinops_text_tie`
      some fun ws params c =>
        if xtOp params == some 8 then
          let sz := ws.screen.size
          emit cb (.resize (xtArg params.tail sz.rows) (xtArg params.tail.tail sz.cols)) ws
        else emit cb (.unhandledCsi none none params c) ws
  | m, "canon1", [d], false, [] =>
      (screenOp1 m).map fun f ws params _ => ws.onScreen (fun s => f s (canon1 params d))
  | _, _, _, _, _ => none

def outerMatches (p : String × List Nat) (h : Option Nat) : Bool :=
  match p.1, p.2, h with
  | "none", [], none => true
  | "some", [b], some x => x == b
  | "some-any", [], some _ => true
  | "any", [], _ => true
  | _, _, _ => false

/-- `csi_dispatch` once the closure `unhandled` is known to report the event `ue` -/
def interpCsiWith (outer : List CsiOuterArm) (ue : List (List Nat) → List Nat → Nat → Event)
    (cb : CbPolicy) (ws : WS) (params : List (List Nat)) (ints : List Nat) (c : Nat) : M WS :=
  let unh : WS → M WS := emit cb (ue params ints c)
  match outer.find? (fun o => outerMatches o.1 ints.head?) with
  | none => unknownAction
  | some (_, scrut, inner, dflt) =>
    let dfltAct : M WS :=
      match csiEvent dflt with
      | some e => emit cb (e params ints c) ws
      | none => unknownAction
    if scrut = "" then dfltAct
    else if scrut = "c" then
      match inner.find? (fun a => c == a.1) with
      | some a =>
        match csiArmOf cb unh a with
        | some f => f ws params c
        | none => unknownAction
      | none => dfltAct
    else unknownAction

def interpCsi (outer : List CsiOuterArm) (unhTok : String) (cb : CbPolicy) (ws : WS)
    (params : List (List Nat)) (ints : List Nat) (c : Nat) : M WS :=
  match csiEvent unhTok with
  | none => unknownAction
  | some ue => interpCsiWith outer ue cb ws params ints c

/-- the event the closure `unhandled` of `csi_dispatch` reports -/
theorem csiUnhandled_tie : csiEvent csiUnhandled =
    some (fun params ints c => Event.unhandledCsi ints.head? ints.tail.head? params c) := by
  -- The tokens of `csiEvent` are too long for its equation lemmas to be generated, so its `match` is unfolded to the
  -- chain of `dite`s on `x = "token"` it stands for.  The trap: unfolded where it is APPLIED to a literal, the kernel
  -- checks the unfolding by evaluating `String.decEq` on 130 characters; unfolded as a function under `List.map`, the
  -- literal reaches the chain by rewriting and meets itself syntactically.
  have h : [csiUnhandled].map csiEvent =
      [some fun params ints c => Event.unhandledCsi ints.head? ints.tail.head? params c] := by
    delta csiEvent csiEvent.match_1
    simp only [csiUnhandled, List.map, ↓reduceDIte]
  exact (List.cons.inj h).1

theorem csiArms_interpreted :
    ∀ o ∈ csiOuter, ∀ a ∈ o.2.2.1, (csiArmOf cbNone pure a).isSome := by decide +kernel

/-- the text of the one `special` arm is the text the model of the `'t'` arm was written from
(a tripwire on the source, not a statement about the model) -/
theorem xtwinops_text_tie :
    (csiOuter.flatMap (·.2.2.1)).filterMap
        (fun a => if a.2.2.1 = "special" then some (a.1, a.2.2.2.2.2) else none)
      = [(116, xtwinopsBody)] := rfl

section
variable {outer : List CsiOuterArm} {ue : List (List Nat) → List Nat → Nat → Event} {cb : CbPolicy} {ws : WS}
  {params : List (List Nat)} {ints : List Nat} {c : Nat} {o : CsiOuterArm} {r : M WS}

theorem interpCsiWith_inner {a : CsiArm}
    (ho : outer.find? (fun o => outerMatches o.1 ints.head?) = some o) (hs : o.2.1 = "c")
    (ha : o.2.2.1.find? (fun a => c == a.1) = some a)
    (hr : (csiArmOf cb (emit cb (ue params ints c)) a).map (fun f => f ws params c) = some r) :
    interpCsiWith outer ue cb ws params ints c = r := by
  obtain ⟨pat, scrut, inner, dflt⟩ := o
  cases hs
  simp only at ha
  cases hf : csiArmOf cb (emit cb (ue params ints c)) a <;> rw [hf] at hr <;> cases hr
  simp only [interpCsiWith, ho, String.reduceEq, ↓reduceIte, ha, hf]

theorem interpCsiWith_default {e : List (List Nat) → List Nat → Nat → Event}
    (ho : outer.find? (fun o => outerMatches o.1 ints.head?) = some o)
    (hs : o.2.1 = "" ∨ o.2.1 = "c" ∧ o.2.2.1.find? (fun a => c == a.1) = none)
    (he : csiEvent o.2.2.2 = some e) :
    interpCsiWith outer ue cb ws params ints c = emit cb (e params ints c) ws := by
  obtain ⟨pat, scrut, inner, dflt⟩ := o
  simp only at hs he
  simp only [interpCsiWith, ho, he]
  rcases hs with rfl | ⟨rfl, hn⟩
  · simp only [↓reduceIte]
  · simp only [String.reduceEq, ↓reduceIte, hn]

theorem interpCsi_of {unhTok : String} (h : csiEvent unhTok = some ue) :
    interpCsi outer unhTok cb ws params ints c = interpCsiWith outer ue cb ws params ints c := by
  unfold interpCsi
  rw [h]
end

theorem csiArmOf_op1 {cb : CbPolicy} {unh : WS → M WS} {m : String} {f : Screen → Nat → M Screen}
    (hm : resolve m = m) (hf : screenOp1 m = some f) (n d : Nat) :
    csiArmOf cb unh (n, m, "canon1", [d], false, []) =
      some fun ws params _ => ws.onScreen (fun s => f s (canon1 params d)) := by
  unfold csiArmOf
  simp only [hm, hf, Option.map_some]

/-- the events reported by the `_` arms of the two inner `match`es and by the catch-all arm -/
theorem csiDefault_events : csiOuter.map (fun o => csiEvent o.2.2.2) =
    [some fun params _ c => .unhandledCsi none none params c,
     some fun params ints c => .unhandledCsi (some 63) ints.tail.head? params c,
     some fun params ints c => .unhandledCsi ints.head? ints.tail.head? params c] := by
  delta csiEvent csiEvent.match_1
  simp only [csiOuter, List.map, String.reduceEq, ↓reduceDIte]

theorem csiDefaults_tie : csiOuter.map (fun o => (o.1, (csiEvent o.2.2.2).isSome)) =
    [(("none", []), true), (("some", [63]), true), (("some-any", []), true)] := by
  have h := csiDefault_events
  simp only [csiOuter, List.map, List.cons.injEq, and_true] at h ⊢
  simp only [h, Option.isSome_some, and_self]

/-- `performCsi` is the generated table of `fn csi_dispatch`: for every final byte, parameter
list and intermediates -/
theorem csi_tie : ∀ cb ws params ints c,
    performCsi cb ws params ints c = interpCsi csiOuter csiUnhandled cb ws params ints c := by
  intro cb ws params ints c
  have ho0 : csiOuter.find? (fun o => outerMatches o.1 none) = csiOuter[0]? := rfl
  have ho1 : csiOuter.find? (fun o => outerMatches o.1 (some 63)) = csiOuter[1]? := rfl
  obtain ⟨he0, he1, he2⟩ : _ ∧ _ ∧ _ := by
    simpa only [csiOuter, List.map, List.cons.injEq, and_true] using csiDefault_events
  symm
  rw [interpCsi_of csiUnhandled_tie]
  unfold performCsi
  split
  · split
    -- of the 22 arms of the model's `match c`: 22 is `_`; 9-11 and 19-21 are `cup`, `ed`, `el`, `sgr`, `decstbm`, `'t'`,
    -- the arms that are not one-number methods
    case h_22 =>
      miss_hyps
      exact interpCsiWith_default (ints := []) ho0 (.inr ⟨rfl, by simp [List.find?, *]⟩) he0
    case h_9 | h_10 | h_11 | h_19 | h_20 | h_21 =>
      apply interpCsiWith_inner (ints := []) ho0 rfl rfl
      simp only [csiArmOf, resolve, screenDelegations, List.lookup, String.reduceBEq, Option.map_some]
    all_goals
      apply interpCsiWith_inner (ints := []) ho0 rfl rfl
      rw [csiArmOf_op1 (by simp [resolve, screenDelegations, List.lookup]) (by rw [screenOp1])]
      rfl
  · rename_i rest
    split
    -- the fifth arm is `_`
    case h_5 =>
      miss_hyps
      exact interpCsiWith_default (ints := 63 :: rest) ho1 (.inr ⟨rfl, by simp [List.find?, *]⟩) he1
    all_goals
      apply interpCsiWith_inner (ints := 63 :: rest) ho1 rfl rfl
      simp only [csiArmOf, resolve, screenDelegations, List.lookup, String.reduceBEq, Option.map_some]
  · rename_i i rest hne
    have h63 : (i == 63) = false := beq_eq_false_iff_ne.mpr fun h => by subst h; exact hne rfl
    have ho2 : csiOuter.find? (fun o => outerMatches o.1 (some i)) = csiOuter[2]? := by
      simp only [csiOuter, List.find?, outerMatches, h63]; rfl
    exact interpCsiWith_default (ints := i :: rest) ho2 (.inl rfl) he2

example : onFresh (fun ws => interpCsi csiOuter csiUnhandled cbNone ws [[2], [3]] [] 72)
    (fun ws => ws.screen.cursorPosition == ⟨1, 2⟩) = true := by simp only [← csi_tie]; decide +kernel
example : onFresh (fun ws => interpCsi csiOuter csiUnhandled cbNone ws [[5]] [63, 36] 122)
    (·.events == [.unhandledCsi (some 63) (some 36) [[5]] 122]) = true := by simp only [← csi_tie]; decide +kernel

end Vt.Gen
