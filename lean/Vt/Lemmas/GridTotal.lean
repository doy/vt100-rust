/-
  Vt.Lemmas.GridTotal — every grid operation reachable from `perform` is total on a grid
  satisfying the invariant and keeps it (`Total`), for every parameter value: read off the closed forms of C06
  (cursor movement), C07 (erasing; namespace `C07` of Props/C07b, which comes in through C08c) and C08 (DCH, ICH; LF:
  namespace `C08lfri` of Props/C08grid); ED 2, IL / DL / SU / SD and RI through Lemmas/GridInv.
-/
import Vt.Lemmas.GridInv
import Vt.Props.C06
import Vt.Props.C08c
import Vt.Props.C08grid
namespace Vt
variable {W : Nat → Option Nat}

theorem sized_of {g : Grid} (h : GridInv W g true) : C06.Sized g := ⟨h.rows_pos, h.cols_pos⟩

theorem cuuRow_lt {g : Grid} (h : GridInv W g true) (n : Nat) : C06.cuuRow g n < g.size.rows := by
  simp only [C06.cuuRow]
  have := h.pos_row; have := h.region_lt; have := h.region_le
  split <;> omega

theorem cudRow_lt {g : Grid} (h : GridInv W g true) (n : Nat) : C06.cudRow g n < g.size.rows := by
  simp only [C06.cudRow]
  have := h.rows_pos; have := h.region_lt
  split <;> omega

section
variable {g : Grid} (h : GridInv W g true) (hl : g.rows.length = g.size.rows)
include h hl

theorem total_colDec (n : Nat) : Total W (fun g => pure (g.colDec n)) g :=
  ⟨_, rfl, stepOk_pos W h hl _ h.pos_row (by dsimp only; have := h.pos_col; omega)⟩

theorem total_colSet (n : Nat) : Total W (fun g => g.colSet n) g :=
  ⟨_, C06.cha_spec g (sized_of h) n, stepOk_pos W h hl _ h.pos_row (by dsimp only; have := h.cols_pos; omega)⟩

theorem total_colTab : Total W Grid.colTab g :=
  ⟨_, C06.ht_spec g (sized_of h), stepOk_pos W h hl _ h.pos_row (by dsimp only; have := h.cols_pos; omega)⟩

theorem total_colIncClamp (n : Nat) : Total W (fun g => g.colIncClamp n) g :=
  ⟨_, C06.cuf_spec g (sized_of h) n, stepOk_pos W h hl _ h.pos_row (by dsimp only; have := h.cols_pos; omega)⟩

theorem total_rowDecClamp (n : Nat) : Total W (fun g => pure (g.rowDecClamp n)) g :=
  ⟨{ g with pos := ⟨C06.cuuRow g n, g.pos.col⟩ }, by simp [C06.cuu_spec],
    stepOk_pos W h hl ⟨C06.cuuRow g n, g.pos.col⟩ (cuuRow_lt h n) h.pos_col⟩

theorem total_rowIncClamp (n : Nat) : Total W (fun g => g.rowIncClamp n) g :=
  ⟨_, C06.cud_spec g (sized_of h) n, stepOk_pos W h hl _ (cudRow_lt h n) h.pos_col⟩

theorem total_cnl (n : Nat) : Total W (fun g => g.cnl n) g :=
  ⟨_, C06.cnl_spec g (sized_of h) n, stepOk_pos W h hl _ (cudRow_lt h n) (Nat.zero_le _)⟩

theorem total_cpl (n : Nat) : Total W (fun g => g.cpl n) g :=
  ⟨_, C06.cpl_spec g (sized_of h) n, stepOk_pos W h hl _ (cuuRow_lt h n) (Nat.zero_le _)⟩

theorem total_rowSet (n : Nat) : Total W (fun g => g.rowSet n) g :=
  ⟨_, C06.vpa_spec g (sized_of h) n, stepOk_pos W h hl _ (by dsimp only; have := h.rows_pos; omega) h.pos_col⟩

theorem total_setPos (r c : Nat) : Total W (fun g => g.setPos ⟨r, c⟩) g := by
  refine ⟨_, C06.cup_spec g (sized_of h) r c, stepOk_pos W h hl _ ?_ ?_⟩
  · simp only [C06.cupPos]
    have := h.rows_pos; have := h.region_lt
    split <;> omega
  · simp only [C06.cupPos]; have := h.cols_pos; omega

theorem total_setOriginMode (v : Bool) : Total W (fun g => g.setOriginMode v) g := by
  have h' : GridInv W { g with originMode := v } true := { h with }
  obtain ⟨g', e, s⟩ := total_setPos (g := { g with originMode := v }) h' hl 0 0
  exact ⟨g', by simpa [Grid.setOriginMode] using e, s.of_eq rfl rfl⟩

theorem total_setScrollRegion (t b : Nat) : Total W (fun g => g.setScrollRegion t b) g := by
  refine ⟨_, C06.decstbm_spec g (sized_of h) t b, ?_⟩
  have := h.rows_pos
  split
  · rename_i hlt
    exact ⟨{ h with region_le := by dsimp only; omega, region_lt := by dsimp only; omega,
                    pos_row := by dsimp only; omega, pos_col := by simp }, hl, rfl, rfl⟩
  · exact ⟨{ h with region_le := by simp, region_lt := by dsimp only; omega,
                    pos_row := by dsimp only; omega, pos_col := by simp }, hl, rfl, rfl⟩

theorem total_saveCursor : Total W (fun g => pure g.saveCursor) g :=
  ⟨_, rfl, ⟨{ h with spos_row := h.pos_row, spos_col := h.pos_col }, hl, rfl, rfl⟩⟩

theorem total_restoreCursor : Total W (fun g => pure g.restoreCursor) g :=
  ⟨_, rfl, ⟨{ h with pos_row := h.spos_row, pos_col := h.spos_col }, hl, rfl, rfl⟩⟩

theorem total_setScrollback (k : Nat) : Total W (fun g => pure (g.setScrollback k)) g :=
  ⟨_, rfl, ⟨{ h with sb_off := Nat.min_le_right _ _ }, hl, rfl, rfl⟩⟩

theorem total_eraseAll (a : Attrs) : Total W (fun g => pure (g.eraseAll a)) g :=
  ⟨_, rfl, ⟨gridInv_rows W h _ (by simp) (rowGood_map_clear W h.row_ok), by simpa [Grid.eraseAll] using hl, rfl, rfl⟩⟩

theorem total_insertLines (n : Nat) : Total W (fun g => g.insertLines n) g :=
  let ⟨g', e, s⟩ := insertLines_ok W h hl n; ⟨g', e, s.stepOk⟩
theorem total_deleteLines (n : Nat) : Total W (fun g => g.deleteLines n) g :=
  let ⟨g', e, s⟩ := deleteLines_ok W h hl n; ⟨g', e, s.stepOk⟩
theorem total_scrollUp (n : Nat) : Total W (fun g => g.scrollUp n) g :=
  let ⟨g', e, s⟩ := scrollUp_ok W h hl n; ⟨g', e, s.stepOk⟩
theorem total_scrollDown (n : Nat) : Total W (fun g => g.scrollDown n) g :=
  let ⟨g', e, s⟩ := scrollDown_ok W h hl n; ⟨g', e, s.stepOk⟩

end

/-- RI and its relatives: a cursor move, then `scroll_down` (`rowDecScroll_eq`) -/
theorem total_rowDecScroll_n {g : Grid} (h : GridInv W g true) (hl : g.rows.length = g.size.rows) (n : Nat) :
    Total W (fun g => g.rowDecScroll n) g := by
  show ∃ g', g.rowDecScroll n = .ok g' ∧ StepOk W g g'
  rw [rowDecScroll_eq]
  have hpr := h.pos_row; have hrl := h.region_lt; have hrle := h.region_le
  have hnr : (if g.inScrollRegion then max g.scrollTop (g.pos.row - n) else g.pos.row - n) < g.size.rows := by
    split <;> omega
  exact (total_scrollDown (stepOk_pos W h hl ⟨_, g.pos.col⟩ hnr h.pos_col).inv hl _).imp
    fun _ ⟨e, s⟩ => ⟨e, s.of_eq rfl rfl⟩

/-- LF / the line step of auto-wrap -/
theorem rowIncScroll_ok {g : Grid} (h : GridInv W g true) (hl : g.rows.length = g.size.rows) :
    g.rowIncScroll 1 = .ok (C08lfri.lfClosed g 1) ∧ StepOk W g (C08lfri.lfClosed g 1).1 := by
  have hlive := C08lfri.live_of_inv h hl
  refine ⟨C08lfri.rowIncScroll_spec hlive 1, ?_⟩
  rcases C08lfri.lf1_cases hlive h.rows_u16 with ⟨-, -, e⟩ | ⟨r, hr, e⟩ <;> rw [e]
  · obtain ⟨g', e', s⟩ := scrollUp_ok W h hl 1
    cases (C08lfri.scrollUp_closed hlive 1).symm.trans e'
    exact s.stepOk
  · exact stepOk_pos W h hl ⟨r, g.pos.col⟩ hr h.pos_col

/-- `Grid::clear` (entering ?1049) on an allocated or unallocated grid -/
theorem clear_ok {g : Grid} {un : Bool} (h : GridInv W g un) :
    ∃ g', g.clear = .ok g' ∧ GridInv W g' un ∧ g'.size = g.size ∧ g'.scrollbackLen = g.scrollbackLen ∧
      g'.rows.length = g.rows.length := by
  have hrp := h.rows_pos
  simp only [Grid.clear, subM_ok h.rows_pos, ok_bind, pure_eq_ok]
  refine ⟨_, rfl, ?_, rfl, rfl, by simp⟩
  exact {
    rows_pos := h.rows_pos
    cols_pos := h.cols_pos
    rows_u16 := h.rows_u16
    cols_u16 := h.cols_u16
    rows_len := by
      rcases h.rows_len with ⟨hu, he⟩ | hl
      · left; exact ⟨hu, by simp [he]⟩
      · right; simpa using hl
    row_ok := rowGood_map_clear W h.row_ok
    pos_row := by dsimp only; omega
    pos_col := by simp
    spos_row := by dsimp only; omega
    spos_col := by simp
    region_le := by simp
    region_lt := by dsimp only; omega
    sb_len := h.sb_len
    sb_off := h.sb_off
    sb_ok := h.sb_ok }

theorem allocateRows_inv {g : Grid} (h : GridInv W g true) :
    GridInv W g.allocateRows true ∧ g.allocateRows.rows.length = g.size.rows ∧
      g.allocateRows.size = g.size ∧ g.allocateRows.scrollbackLen = g.scrollbackLen := by
  unfold Grid.allocateRows
  split
  · rename_i he
    refine ⟨?_, by simp, rfl, rfl⟩
    exact { h with
      rows_len := Or.inr (by simp)
      row_ok := by
        intro r hr
        simp only [List.mem_replicate] at hr
        rw [hr.2]; exact rowGood_new W _ h.cols_pos }
  · rename_i hne
    refine ⟨h, ?_, rfl, rfl⟩
    rcases h.rows_len with ⟨_, he⟩ | hl
    · simp [he] at hne
    · exact hl

theorem eraseRange_ok {cols : Nat} {r : Row} (a : Attrs) (lo hi : Nat) (hhi : hi ≤ cols) (h : RowGood W cols r) :
    ∃ r', forRange lo hi (fun col r => r.erase col a) r = .ok r' ∧ RowGood W cols r' :=
  have ⟨e, hci⟩ := C07.erase_row_eq (rowGood_cells W h) lo hi a (h.1 ▸ hhi)
  ⟨_, e, rowGood_of W (by rw [C07.erasedRow, C07.eraseRange_length, h.1]) (rowGood_cols_pos W h) hci⟩

/-- EL 0 -/
theorem total_eraseRowForward {W : Nat → Option Nat} {g : Grid} (h : GridInv W g true)
    (hlen : g.rows.length = g.size.rows) (a : Attrs) : Total W (fun g => g.eraseRowForward a) g := by
  obtain ⟨g', h1, s, _⟩ := modifyCurrentRow_ok W h hlen
    (fun row => forRange g.pos.col g.size.cols (fun col r => r.erase col a) row)
    (fun r hr => eraseRange_ok a _ _ (Nat.le_refl _) hr)
  exact ⟨g', h1, s⟩

/-- EL 1 -/
theorem total_eraseRowBackward {W : Nat → Option Nat} {g : Grid} (h : GridInv W g true)
    (hlen : g.rows.length = g.size.rows) (a : Attrs) : Total W (fun g => g.eraseRowBackward a) g := by
  show ∃ g', g.eraseRowBackward a = .ok g' ∧ StepOk W g g'
  simp only [Grid.eraseRowBackward, subM_ok h.cols_pos, ok_bind]
  obtain ⟨g', h1, s, _⟩ := modifyCurrentRow_ok W h hlen
    (fun row => forRange 0 (min g.pos.col (g.size.cols - 1) + 1) (fun col r => r.erase col a) row)
    (fun r hr => eraseRange_ok a _ _ (by have := h.cols_pos; omega) hr)
  exact ⟨g', h1, s⟩

/-- ECH -/
theorem total_eraseCells {W : Nat → Option Nat} {g : Grid} (h : GridInv W g true)
    (hlen : g.rows.length = g.size.rows) (count : Nat) (a : Attrs) : Total W (fun g => g.eraseCells count a) g := by
  obtain ⟨g', h1, s, _⟩ := modifyCurrentRow_ok W h hlen
    (fun row => forRange g.pos.col (min (satAddU16 g.pos.col count) g.size.cols)
      (fun col r => r.erase col a) row)
    (fun r hr => eraseRange_ok a _ _ (Nat.min_le_right _ _) hr)
  exact ⟨g', h1, s⟩

/-- ED 0 -/
theorem total_eraseAllForward {W : Nat → Option Nat} {g : Grid} (h : GridInv W g true)
    (hlen : g.rows.length = g.size.rows) (a : Attrs) : Total W (fun g => g.eraseAllForward a) g := by
  have hl : (g.rows.take (g.pos.row + 1) ++ (g.rows.drop (g.pos.row + 1)).map (·.clear a)).length = g.rows.length := by
    simp [List.length_take]; omega
  exact (total_eraseRowForward (gridInv_rows W h _ hl (rowGood_clearBelow W h.row_ok _ a)) (hl.trans hlen) a).imp
    fun _ ⟨e, s⟩ => ⟨e, s.of_eq rfl rfl⟩

/-- ED 1 -/
theorem total_eraseAllBackward {W : Nat → Option Nat} {g : Grid} (h : GridInv W g true)
    (hlen : g.rows.length = g.size.rows) (a : Attrs) : Total W (fun g => g.eraseAllBackward a) g := by
  have hl : ((g.rows.take g.pos.row).map (·.clear a) ++ g.rows.drop g.pos.row).length = g.rows.length := by
    simp [List.length_take]; omega
  exact (total_eraseRowBackward (gridInv_rows W h _ hl (rowGood_clearAbove W h.row_ok _ a)) (hl.trans hlen) a).imp
    fun _ ⟨e, s⟩ => ⟨e, s.of_eq rfl rfl⟩

/-- DCH -/
theorem total_deleteCells {W : Nat → Option Nat} {g : Grid} (h : GridInv W g true)
    (hlen : g.rows.length = g.size.rows) (count : Nat) : Total W (fun g => g.deleteCells count) g := by
  obtain ⟨r, L, -, hL, -, hci, e⟩ := C08.deleteCells_run h hlen count
  refine ⟨_, e, gridInv_setRow W h _ _ (rowGood_of W ?_ h.cols_pos hci), by simpa [C08.withRow] using hlen, rfl, rfl⟩
  rw [List.length_append, List.length_replicate, hL]
  have := h.pos_col; omega

/-- ICH -/
theorem total_insertCells {W : Nat → Option Nat} {g : Grid} (h : GridInv W g true)
    (hlen : g.rows.length = g.size.rows) (count : Nat) : Total W (fun g => g.insertCells count) g := by
  obtain ⟨r, L, -, hL, -, hci, e⟩ := C08.insertCells_run h hlen count
  exact ⟨_, e, gridInv_setRow W h _ _ (rowGood_of W hL h.cols_pos hci), by simpa [C08.withRow] using hlen, rfl, rfl⟩

end Vt
