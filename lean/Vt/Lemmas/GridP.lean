/-
  Vt.Lemmas.GridP — what the operations of `grid.rs` do to the lines, in partial-correctness form (whenever the operation
  returns), for the invariants that speak of lines (`GridP P`: `P` of every line, live or in the history; InvX instantiates
  `P` with the per-cell conditions `AllX`, InvF with the wrap-flag condition).  `P` is kept by every operation that only
  moves lines, drops them, flags them unwrapped or adds blank ones (`GScrolled.gridP`), and by `modifyCurrentRow` with a
  function that keeps it; RI is a cursor move followed by such a scroll (`rowDecScroll_eq_ok`).  `text` is `col_wrap`
  followed by one of two branches, each with its cases as a principle for any property of the result (`text_cases`,
  `textZero_cases`; the cell writes: `textWideRow_writes`, Lemmas/TextRow; `col_wrap`: `cwClosed_cases`, Lemmas/TextInv).
-/
import Vt.Lemmas.Lines
import Vt.Lemmas.TextRow
import Vt.Lemmas.MRel
namespace Vt

structure RowPred (P : Row → Prop) : Prop where
  new : ∀ n, P (Row.new n)
  unwrap : ∀ r, P r → P (r.wrap false)

def GridP (P : Row → Prop) (g : Grid) : Prop := (∀ r ∈ g.rows, P r) ∧ (∀ r ∈ g.scrollback, P r)

variable {P : Row → Prop}

open C12 (MPred)

theorem gridP_same {g g' : Grid} (h : GridP P g) (hr : g'.rows = g.rows) (hs : g'.scrollback = g.scrollback) :
    GridP P g' := by
  unfold GridP; rw [hr, hs]; exact h

theorem gridP_visible {g : Grid} (h : GridP P g) {v : List Row} (e : g.visibleRows = .ok v) :
    ∀ r ∈ v, P r := by
  unfold Grid.visibleRows at e
  obtain ⟨_, _, e⟩ := bind_eq_ok.mp e
  cases e
  intro r hr
  rcases List.mem_append.mp hr with hr | hr
  · exact h.2 r (List.mem_of_mem_drop (List.mem_of_mem_take hr))
  · exact h.1 r (List.mem_of_mem_take hr)

theorem gridP_rows {g : Grid} (h : GridP P g) {rows' : List Row} (hr : ∀ r ∈ rows', P r) :
    GridP P { g with rows := rows' } := ⟨hr, h.2⟩

theorem gridP_set {g : Grid} (h : GridP P g) (i : Nat) {r : Row} (hr : P r) :
    GridP P { g with rows := g.rows.set i r } :=
  gridP_rows h (forall_mem_set h.1 hr i)

theorem gridP_modifyCurrentRow {g g' : Grid} (h : GridP P g) {f : Row → M Row}
    (hf : ∀ r r', r ∈ g.rows → f r = .ok r' → P r') (e : g.modifyCurrentRow f = .ok g') : GridP P g' := by
  obtain ⟨r, r', hr, hrr, rfl⟩ := modifyCurrentRow_eq_ok.mp e
  exact gridP_set h _ (hf r r' (List.mem_of_getElem? hr) hrr)

theorem modifyCellM_eq_ok {g g' : Grid} {site : Nat} {pos : Pos} {f : Cell → M Cell} :
    g.modifyCellM site pos f = .ok g' ↔
      ∃ r c c', g.rows[pos.row]? = some r ∧ r.cells[pos.col]? = some c ∧ f c = .ok c' ∧
        g' = { g with rows := g.rows.set pos.row { r with cells := r.cells.set pos.col c' } } := by
  simp only [Grid.modifyCellM, bind_eq_ok, modifyM_eq_ok, pure_eq_ok, Except.ok.injEq]
  constructor
  · rintro ⟨_, ⟨r, _, hr, ⟨_, ⟨c, c', hc, hf, rfl⟩, rfl⟩, rfl⟩, rfl⟩
    exact ⟨r, c, c', hr, hc, hf, rfl⟩
  · rintro ⟨r, c, c', hr, hc, hf, rfl⟩
    exact ⟨_, ⟨r, _, hr, ⟨_, ⟨c, c', hc, hf, rfl⟩, rfl⟩, rfl⟩, rfl⟩

/-- every line of the result, live or in the history, is a line of the argument or a blank one, possibly unflagged -/
theorem GScrolled.gridP (hP : RowPred P) {g g' : Grid} (s : GScrolled g g') (h : GridP P g) : GridP P g' :=
  ⟨fun r hr => (s.moved.mem r hr).of (hP.new _) hP.unwrap h.1,
    fun r hr => (s.hist r hr).elim (h.2 r) (·.of (hP.new _) hP.unwrap h.1)⟩

theorem pure_rows {f : Grid → Grid} (hf : ∀ g, (f g).rows = g.rows ∧ (f g).scrollback = g.scrollback) {g g' : Grid}
    (e : (pure (f g) : M Grid) = .ok g') : g'.rows = g.rows ∧ g'.scrollback = g.scrollback := by
  cases e; exact hf g

theorem rowDecScroll_eq_ok {g g' : Grid} {n : Nat} (e : g.rowDecScroll n = .ok g') :
    ∃ q : Grid, q.rows = g.rows ∧ q.scrollback = g.scrollback ∧ GScrolled q g' := by
  refine ⟨_, ?_, ?_, scrollDown_scrolled ((rowDecScroll_eq g n).symm.trans e)⟩ <;> rfl

variable {W : Nat → Option Nat}

/-- the zero-width branch of `text` appends to one cell, or does nothing -/
theorem textZero_cases {P : Grid → Prop} {g : Grid} {z : Nat} (h0 : P g)
    (h : ∀ site pos, MPred P (g.modifyCellM site pos fun cell => cell.append z)) : MPred P (g.textZero z) := by
  have happ : ∀ row col, MPred P (g.appendToPrev row col z) := fun _ _ =>
    MPred.bind_any _ fun _ => MPred.ite (fun _ => MPred.bind_any _ fun _ => h _ _) (fun _ => h _ _)
  simp only [Grid.textZero]
  refine MPred.ite (fun _ => happ _ _) fun _ => MPred.ite (fun _ => ?_) fun _ => MPred.pure h0
  split
  · exact MPred.ite (fun _ => MPred.bind_any _ fun _ => happ _ _) (fun _ => MPred.pure h0)
  · exact True.intro

/-- `text`: nothing (a control character, or a character wider than the screen); or `col_wrap`, then the zero-width
branch or the cell writes on the cursor line, after which only the cursor moves -/
theorem text_cases {P : Grid → Prop} {g : Grid} {a : Attrs} {c : Nat} (h0 : P g)
    (h : ∀ wrap g1, min ((W c).getD 1) 2 ≤ g.size.cols → g.wrapDecision (min ((W c).getD 1) 2) = .ok wrap →
      g.colWrap (min ((W c).getD 1) 2) wrap = .ok g1 →
      (min ((W c).getD 1) 2 = 0 → MPred P (g1.textZero c)) ∧
      (min ((W c).getD 1) 2 ≠ 0 → MPred (fun g2 => ∀ g', g'.rows = g2.rows → g'.scrollback = g2.scrollback → P g')
        (g1.modifyCurrentRow fun row =>
          Grid.textWideRow W row g1.pos.col g1.size.cols a c (min ((W c).getD 1) 2)))) :
    MPred P (g.text W a c) := by
  rw [text_eq_steps]
  refine MPred.ite (fun _ => MPred.pure h0) fun hfits => ?_
  refine MPred.bind MPred.eq_ok fun wrap hw => MPred.bind MPred.eq_ok fun g1 h1 => ?_
  obtain ⟨hz, hnz⟩ := h wrap g1 (Nat.le_of_not_lt fun h => hfits (Or.inr h)) hw h1
  refine MPred.ite (fun h => hz (by simpa using h)) fun h => ?_
  refine MPred.bind (hnz (by simpa using h)) fun g2 h2 => MPred.pure (h2 _ ?_ ?_)
  all_goals split <;> rfl

end Vt
