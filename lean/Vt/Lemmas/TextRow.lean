/-
  Vt.Lemmas.TextRow — the cell writes of printing a character of width 1 or 2 (`Grid.textWideRow`) in closed form:
  five list updates in the order of the source (`printCells`), each conditional one written as `modifyIf flag …`.
  `textWideRow_total` is the function in full, `textWideRow_eq_ok` says that it succeeds exactly when the cells it
  touches exist; under the row invariant they do (`Links.textWideRow_eq`), and the printed line is the line cut at the
  cursor with one or two cells overwritten (`printNarrow_cut`, `printCells_wide_cut`), hence well linked
  (`printCells_links`).  For a property of the line that is not the row invariant: it holds of the result if it survives
  each of the writes (`textWideRow_writes`).
-/
import Vt.Lemmas.CellInv
import Vt.Lemmas.RowOps
namespace Vt

def modifyIf {α} (b : Bool) (l : List α) (i : Nat) (g : α → α) : List α := if b then l.modify i g else l

theorem modifyIf_false {α} (l : List α) (i : Nat) (g : α → α) : modifyIf false l i g = l := rfl

theorem modifyIf_true {α} (l : List α) (i : Nat) (g : α → α) : modifyIf true l i g = l.modify i g := rfl

@[simp] theorem length_modifyIf {α} (b : Bool) (l : List α) (i : Nat) (g : α → α) :
    (modifyIf b l i g).length = l.length := by
  unfold modifyIf; split <;> simp

theorem getElem?_modifyIf {α} (b : Bool) (l : List α) (i : Nat) (g : α → α) (j : Nat) :
    (modifyIf b l i g)[j]? = l[j]?.map fun x => if b = true ∧ i = j then g x else x := by
  cases b
  · simp [modifyIf]
  · simp only [modifyIf_true, List.getElem?_modify, true_and]
    split <;> simp [*]

theorem getElem?_modifyIf_of_ne {α} {b : Bool} {i j : Nat} (h : ¬ (b = true ∧ i = j)) (l : List α) (g : α → α) :
    (modifyIf b l i g)[j]? = l[j]? := by
  simp [getElem?_modifyIf, h]

theorem mem_modifyIf {α} {b : Bool} {l : List α} {i : Nat} {g : α → α} {x : α} (h : x ∈ modifyIf b l i g) :
    x ∈ l ∨ ∃ y ∈ l, x = g y := by
  obtain ⟨j, hj⟩ := List.getElem?_of_mem h
  rw [getElem?_modifyIf] at hj
  obtain ⟨y, hy, rfl⟩ := Option.map_eq_some_iff.mp hj
  split
  · exact Or.inr ⟨y, List.mem_of_getElem? hy, rfl⟩
  · exact Or.inl (List.mem_of_getElem? hy)

theorem getElem_isWide (l : List Cell) (i : Nat) (h : i < l.length) : l[i].isWide = cellFlag (·.wide) l i := by
  simp [cellFlag, h, Cell.isWide]

theorem getElem_isWideContinuation (l : List Cell) (i : Nat) (h : i < l.length) :
    l[i].isWideContinuation = cellFlag (·.cont) l i := by
  simp [cellFlag, h, Cell.isWideContinuation]

variable (W : Nat → Option Nat)

def Cell.blankCont (x : Cell) : Cell := (x.clear Attrs.default).setWideContinuation true

/-- the first three writes: the other half of a wide character under the cursor is blanked (its first half with
the pen, its second half becomes a space), then the cursor cell is set -/
def printNarrow (cs : List Cell) (col : Nat) (a : Attrs) (c : Nat) : List Cell :=
  (modifyIf (cellFlag (·.wide) cs col)
    (modifyIf (cellFlag (·.cont) cs col) cs (col - 1) (·.clear a)) (col + 1) (setResult W · 32 a)).modify
    col (setResult W · c a)

/-- the cells after printing `c` (`wide`: of width 2) at column `col` with pen `a`: for a wide character the next
cell becomes its second half, after the second half of a wide character standing there has been blanked -/
def printCells (cs : List Cell) (col : Nat) (a : Attrs) (c : Nat) (wide : Bool) : List Cell :=
  modifyIf wide
    (modifyIf (wide && cellFlag (·.wide) (printNarrow W cs col a c) (col + 1)) (printNarrow W cs col a c)
      (col + 2) (·.clear a))
    (col + 1) Cell.blankCont

/-- the wrap flag after printing: cleared when the blanked second half is the last cell -/
def printWrapped (r : Row) (col cols : Nat) (a : Attrs) (c : Nat) (wide : Bool) : Bool :=
  if (wide && cellFlag (·.wide) (printNarrow W r.cells col a c) (col + 1) && col + 2 + 1 == cols) = true then false
  else r.wrapped

@[simp] theorem length_printNarrow (cs : List Cell) (col : Nat) (a : Attrs) (c : Nat) :
    (printNarrow W cs col a c).length = cs.length := by simp [printNarrow]

@[simp] theorem length_printCells (cs : List Cell) (col : Nat) (a : Attrs) (c : Nat) (wide : Bool) :
    (printCells W cs col a c wide).length = cs.length := by simp [printCells]

/-! The model's `do` block binds the rest of the function to a join point `jp` after every conditional write;
the two lemmas below rewrite such a write, with the join point a variable, into its closed form behind the
index check. -/

theorem modifyIf_jp {β} (site : Nat) (b : Bool) (row : Row) (i : Nat) (g : Cell → Cell) (jp : Row → M β) :
    (if b = true then (modifyM site row.cells i (fun x => .ok (g x)) >>= fun cs => jp ⟨cs, row.wrapped⟩) else jp row) =
      if b = true → i < row.cells.length then jp ⟨modifyIf b row.cells i g, row.wrapped⟩ else panic site := by
  cases b
  · simp [modifyIf]
  · by_cases h : i < row.cells.length <;> simp [modifyM_eq, h, modifyIf, panic]

theorem modifyPrev_jp {β} (s1 s2 : Nat) (b : Bool) (row : Row) (i : Nat) (g : Cell → Cell) (jp : Row → M β) :
    (if b = true then (subM s1 i 1 >>= fun c1 => modifyM s2 row.cells c1 (fun x => .ok (g x)) >>= fun cs =>
        jp ⟨cs, row.wrapped⟩) else jp row) =
      if b = true → 1 ≤ i then
        if b = true → i - 1 < row.cells.length then jp ⟨modifyIf b row.cells (i - 1) g, row.wrapped⟩ else panic s2
      else panic s1 := by
  cases b
  · simp [modifyIf]
  · by_cases h1 : 1 ≤ i
    · simpa [subM, h1] using modifyIf_jp s2 true row (i - 1) g jp
    · simp [subM, h1, panic]

/-- `Grid.textWideRow` in full: the five writes behind the five index checks that can fail (with their panic sites); the
model's other sites (532, 533, 535, 539) are not reached once these pass -/
theorem textWideRow_total {row : Row} {col cols : Nat} (a : Attrs) (c width : Nat) :
    Grid.textWideRow W row col cols a c width =
      if col < row.cells.length then
      if cellFlag (·.cont) row.cells col = true → 1 ≤ col then
      if cellFlag (·.wide) row.cells col = true → col + 1 < row.cells.length then
      if width > 1 → col + 1 < row.cells.length then
      if width > 1 → cellFlag (·.wide) (printNarrow W row.cells col a c) (col + 1) = true → col + 2 < row.cells.length then
        .ok ⟨printCells W row.cells col a c (decide (width > 1)), printWrapped W row col cols a c (decide (width > 1))⟩
      else panic 537 else panic 536 else panic 534 else panic 531 else panic 530 := by
  unfold Grid.textWideRow
  by_cases hcol : col < row.cells.length
  case neg => simp only [getM_eq, dif_neg hcol, if_neg hcol]; rfl
  -- the first two writes, with the join points kept as variables
  simp -zeta only [getM_ok hcol, ok_bind, Cell.set_eq, pure_eq_ok, modifyIf_jp, modifyPrev_jp,
    getElem_isWideContinuation, if_pos hcol]
  by_cases hprev : cellFlag (·.cont) row.cells col = true → 1 ≤ col
  case neg => simp only [if_neg hprev]
  have hprev' : cellFlag (·.cont) row.cells col = true → col - 1 < row.cells.length := fun _ => by omega
  have e1 : cellFlag (·.wide) (modifyIf (cellFlag (·.cont) row.cells col) row.cells (col - 1) (·.clear a)) col =
      cellFlag (·.wide) row.cells col := by
    unfold cellFlag
    rw [getElem?_modifyIf_of_ne]
    rintro ⟨hb, he⟩
    have := hprev hb
    omega
  simp only [if_pos hprev, if_pos hprev', getM_ok, length_modifyIf, hcol, ok_bind, getElem_isWide, e1]
  by_cases hnext : cellFlag (·.wide) row.cells col = true → col + 1 < row.cells.length
  case neg => simp only [if_neg hnext]
  simp only [if_pos hnext, modifyM_eq, ↓reduceIte, List.length_modify, length_modifyIf, hcol, ok_bind]
  by_cases hw : width > 1
  · by_cases h1 : col + 1 < row.cells.length
    case neg => simp only [hw, ↓reduceIte, getM_eq, List.length_modify, length_modifyIf, h1, dite_false, forall_const]; rfl
    simp only [hw, ↓reduceIte, getM_ok, List.length_modify, length_modifyIf, h1, ok_bind, getElem_isWide, forall_const]
    simp only [printCells, printWrapped, decide_true, Bool.true_and]
    cases hb : cellFlag (·.wide) (printNarrow W row.cells col a c) (col + 1)
    all_goals unfold printNarrow at hb ⊢
    · simp only [hb, modifyIf_true, modifyIf_false, Bool.false_and, Bool.false_eq_true, ↓reduceIte, false_imp_iff]
      rfl
    · by_cases h2 : col + 2 < row.cells.length
      · simp only [h2, ok_bind, Row.wrap, List.length_modify, length_modifyIf, h1, ↓reduceIte, hb,
        modifyIf_true, Bool.true_and, forall_const]
        split <;> rfl
      · simp only [h2, ↓reduceIte, hb, forall_const]; rfl
  · simp only [hw, ↓reduceIte, printCells, printWrapped, decide_false, Bool.false_and, Bool.false_eq_true,
      modifyIf_false, printNarrow, false_imp_iff]

theorem textWideRow_eq_ok {row row' : Row} {col cols : Nat} {a : Attrs} {c width : Nat} :
    Grid.textWideRow W row col cols a c width = .ok row' ↔
      col < row.cells.length ∧ (cellFlag (·.cont) row.cells col = true → 1 ≤ col) ∧
      (cellFlag (·.wide) row.cells col = true → col + 1 < row.cells.length) ∧
      (width > 1 → col + 1 < row.cells.length) ∧
      (width > 1 → cellFlag (·.wide) (printNarrow W row.cells col a c) (col + 1) = true →
        col + 2 < row.cells.length) ∧
      ⟨printCells W row.cells col a c (decide (width > 1)), printWrapped W row col cols a c (decide (width > 1))⟩ = row' := by
  simp only [textWideRow_total, ite_panic_eq_ok, Except.ok.injEq]

/-- the `!`: the second half of a wide character under the cursor has become a space -/
theorem printNarrow_wide_next (hW32 : W 32 = some 1) (cs : List Cell) (col : Nat) (a : Attrs) (c : Nat) :
    cellFlag (·.wide) (printNarrow W cs col a c) (col + 1) =
      (!cellFlag (·.wide) cs col && cellFlag (·.wide) cs (col + 1)) := by
  unfold printNarrow
  rw [← modifyIf_true]
  simp only [cellFlag, getElem?_modifyIf, show ¬ col = col + 1 by omega, show ¬ col - 1 = col + 1 by omega, and_false,
    and_true, if_false]
  cases (cs[col]?.map (·.wide)).getD false
  · simp
  · cases cs[col + 1]? <;> simp [setResult, hW32]

/-- the cell after a wide one is a second half, hence not wide -/
theorem Links.wide_next {cs : List Cell} (h : Links cs) (col : Nat) :
    (!cellFlag (·.wide) cs col && cellFlag (·.wide) cs (col + 1)) = cellFlag (·.wide) cs (col + 1) := by
  cases hw : cellFlag (·.wide) cs col
  · rfl
  · exact (h.excl _ (by rw [h.link, hw])).symm

theorem Links.textWideRow_eq {row : Row} {col : Nat} (h : Links row.cells) (hW32 : W 32 = some 1) (cols : Nat)
    (a : Attrs) (c width : Nat) (hcol : col < row.cells.length) (hw1 : width > 1 → col + 1 < row.cells.length) :
    Grid.textWideRow W row col cols a c width =
      .ok ⟨printCells W row.cells col a c (decide (width > 1)), printWrapped W row col cols a c (decide (width > 1))⟩ := by
  have hnext : ∀ j, cellFlag (·.wide) row.cells j = true → j + 1 < row.cells.length :=
    fun j hw => cellFlag_lt (f := (·.cont)) (by rw [h.link, hw])
  refine (textWideRow_eq_ok W).mpr ⟨hcol, fun hc => (h.prev hc).1, hnext col, hw1, fun _ hw => hnext _ ?_, rfl⟩
  rwa [printNarrow_wide_next W hW32, h.wide_next] at hw

/-! The first three writes are a cut at the cursor (`Links.cut`, the blanking functions being the pen-blank and the space)
with the cursor cell overwritten; a wide character also cuts at the next cell and makes it its second half, so that the
character and its second half stand between the two parts. -/

theorem modify_append_left {α} {A L : List α} {i : Nat} (f : α → α) (h : i < A.length) :
    (A ++ L).modify i f = A.modify i f ++ L := by
  refine List.ext_getElem? fun j => ?_
  rw [List.getElem?_modify]
  by_cases hj : j < A.length
  · rw [List.getElem?_append_left hj, List.getElem?_append_left (by simpa using hj), List.getElem?_modify]
  · rw [List.getElem?_append_right (by omega), List.getElem?_append_right (by simp; omega), List.length_modify]
    have : ¬ i = j := by omega
    simp [this]

theorem modify_append_right {α} {A L : List α} (k : Nat) (f : α → α) :
    (A ++ L).modify (A.length + k) f = A ++ L.modify k f := by
  refine List.ext_getElem? fun j => ?_
  rw [List.getElem?_modify]
  by_cases hj : j < A.length
  · rw [List.getElem?_append_left hj, List.getElem?_append_left hj]
    have : ¬ A.length + k = j := by omega
    simp [this]
  · obtain ⟨n, rfl⟩ := Nat.exists_eq_add_of_le (Nat.le_of_not_lt hj)
    rw [List.getElem?_append_right (by omega), List.getElem?_append_right (by omega), Nat.add_sub_cancel_left,
      List.getElem?_modify]
    simp only [Nat.add_left_cancel_iff]

theorem noFlags_space (hW32 : W 32 = some 1) (a : Attrs) : NoFlags (setResult W · 32 a) := fun _ => by
  simp [setResult, hW32]

theorem modifyIf_append_last {A : List Cell} {b : Bool} (hA : b = true → A ≠ []) (L : List Cell) (f : Cell → Cell) :
    modifyIf b (A ++ L) (A.length - 1) f = cutLastF f b A ++ L := by
  cases b with
  | false => rfl
  | true =>
    have := List.length_pos_iff.mpr (hA rfl)
    simp only [modifyIf_true, cutLastF, if_true]
    exact modify_append_left _ (by omega)

theorem modifyIf_append_head (A : List Cell) (b : Bool) (Y : List Cell) (f : Cell → Cell) :
    modifyIf b (A ++ Y) A.length f = A ++ cutHeadF f b Y := by
  cases b with
  | false => rfl
  | true =>
    simp only [modifyIf_true, cutHeadF, if_true]
    rw [← Nat.add_zero A.length, modify_append_right]
    cases Y <;> rfl

theorem printNarrow_cut {A Y : List Cell} {x : Cell} (hA : x.cont = true → A ≠ []) (a : Attrs) (c : Nat) :
    printNarrow W (A ++ x :: Y) A.length a c =
      cutLastF (·.clear a) x.cont A ++ setResult W x c a :: cutHeadF (setResult W · 32 a) x.wide Y := by
  have hflag : ∀ f : Cell → Bool, cellFlag f (A ++ x :: Y) A.length = f x := fun f => by simp [cellFlag]
  unfold printNarrow
  rw [hflag, hflag, modifyIf_append_last hA]
  have hl := length_cutLastF (·.clear a) x.cont A
  generalize cutLastF (·.clear a) x.cont A = A' at hl ⊢
  rw [← hl, List.append_cons, show A'.length + 1 = (A' ++ [x]).length by simp, modifyIf_append_head, ← List.append_cons,
    ← Nat.add_zero A'.length, modify_append_right]
  rfl

/-- `if x.wide …`: the next cell has become a space first if it was the second half of a wide character under the cursor -/
theorem printCells_wide_cut {A Y : List Cell} {x y : Cell} (hA : x.cont = true → A ≠ []) (a : Attrs) (c : Nat) :
    printCells W (A ++ x :: y :: Y) A.length a c true =
      cutLastF (·.clear a) x.cont A ++ setResult W x c a ::
        Cell.blankCont (if x.wide then setResult W y 32 a else y) ::
          cutHeadF (·.clear a) (if x.wide then setResult W y 32 a else y).wide Y := by
  have hY1 : cutHeadF (setResult W · 32 a) x.wide (y :: Y) = (if x.wide then setResult W y 32 a else y) :: Y := by
    unfold cutHeadF; split <;> rfl
  unfold printCells
  rw [printNarrow_cut W hA, hY1]
  generalize (if x.wide then setResult W y 32 a else y) = y1
  have hl := length_cutLastF (·.clear a) x.cont A
  generalize cutLastF (·.clear a) x.cont A = A' at hl ⊢
  rw [← hl]
  have hflag : cellFlag (·.wide) (A' ++ setResult W x c a :: y1 :: Y) (A'.length + 1) = y1.wide := by
    simp [cellFlag]
  rw [hflag, Bool.true_and, modifyIf_true]
  have e : A' ++ setResult W x c a :: y1 :: Y = (A' ++ [setResult W x c a, y1]) ++ Y := by simp
  rw [e, show A'.length + 2 = (A' ++ [setResult W x c a, y1]).length by simp, modifyIf_append_head,
    List.append_assoc, modify_append_right]
  rfl
theorem printCells_links {cs : List Cell} {col : Nat} (a : Attrs) (c : Nat) {wide : Bool}
    (hW32 : W 32 = some 1) (h : Links cs) (hwide : wide = decide ((W c).getD 1 > 1))
    (hfit : col + (if wide then 2 else 1) ≤ cs.length) : Links (printCells W cs col a c wide) := by
  have hcol : col < cs.length := by split at hfit <;> omega
  have hx := List.getElem?_eq_getElem hcol
  generalize cs[col] = x at hx
  cases wide with
  | false =>
    obtain ⟨A, Y, rfl, rfl⟩ := decomp1 hx
    obtain ⟨hA, -, -⟩ := h.split
    show Links (printNarrow W (A ++ x :: Y) A.length a c)
    rw [printNarrow_cut W fun hc hn => by subst hn; rw [hc] at hA; cases hA]
    exact h.cut (noFlags_clear a) (g := (setResult W · c a)) (fun _ => ⟨rfl, hwide.symm⟩) (noFlags_space W hW32 a) [x]
  | true =>
    have hy := List.getElem?_eq_getElem (show col + 1 < cs.length by simp at hfit; omega)
    generalize cs[col + 1] = y at hy
    obtain ⟨A, Y, rfl, rfl⟩ := decomp2 hx hy
    obtain ⟨hA, hY, hex⟩ := h.split
    obtain ⟨hyc, hY'⟩ := pairThrough_cons.mp hY
    rw [printCells_wide_cut W fun hc hn => by subst hn; rw [hc] at hA; cases hA]
    -- the character and its second half are a closed segment; the next cell was a second half (then it is a space now) or
    -- the pairing went through it
    refine (links_cutLastF (noFlags_clear a) (fun z hz => hex z (by simp [hz])) hA).append
      (Links.append (a := [setResult W x c a, Cell.blankCont _]) ((links_iff _).mpr ⟨?_, ?_⟩)
        (links_cutHeadF (noFlags_clear a) (fun z hz => hex z (by simp [hz])) ?_))
    · simp [pairThrough, setResult, ← hwide, Cell.blankCont, Cell.setWideContinuation, Cell.clear]
    · simp [setResult, Cell.blankCont, Cell.setWideContinuation, Cell.clear]
    · cases hw : x.wide with
      | false => simpa using hY'
      | true =>
        rw [hw] at hyc
        rw [hex y (by simp) hyc] at hY'
        simpa [setResult, hW32] using hY'

variable {W}

def WriteKeeps (P : Row → Prop) (i : Nat) (f : Cell → Cell) : Prop :=
  ∀ r : Row, i < r.cells.length → P r → P { r with cells := r.cells.modify i f }

theorem writeKeeps_cells {Q : Cell → Prop} {i : Nat} {f : Cell → Cell} (hf : ∀ x, Q x → Q (f x)) :
    WriteKeeps (fun r => ∀ x ∈ r.cells, Q x) i f :=
  fun _ _ hr x hx => (mem_modifyIf (b := true) hx).elim (hr x) fun ⟨y, hy, e⟩ => e ▸ hf y (hr y hy)

/-- a property of the line that survives each of the five writes of `printCells` (`hafter`: with the unflagging of
`printWrapped`) holds of the result -/
theorem textWideRow_writes {P : Row → Prop} {row row' : Row} {col cols : Nat} {a : Attrs} {c width : Nat}
    (h : P row)
    (hbefore : 1 ≤ col → WriteKeeps P (col - 1) (·.clear a))
    (hpad : WriteKeeps P (col + 1) (setResult W · 32 a))
    (hchar : WriteKeeps P col (setResult W · c a))
    (hafter : ∀ r : Row, col + 2 < r.cells.length → P r →
      P ⟨r.cells.modify (col + 2) (·.clear a), if col + 2 + 1 = cols then false else r.wrapped⟩)
    (hcont : WriteKeeps P (col + 1) Cell.blankCont)
    (e : Grid.textWideRow W row col cols a c width = .ok row') : P row' := by
  obtain ⟨hcol, hprev, hnext, hw1, hw2, rfl⟩ := (textWideRow_eq_ok W).mp e
  have s1 : P ⟨modifyIf (cellFlag (·.cont) row.cells col) row.cells (col - 1) (·.clear a), row.wrapped⟩ := by
    cases hb : cellFlag (·.cont) row.cells col
    · exact h
    · exact hbefore (hprev hb) row (by have := hprev hb; omega) h
  have s2 : P ⟨modifyIf (cellFlag (·.wide) row.cells col)
      (modifyIf (cellFlag (·.cont) row.cells col) row.cells (col - 1) (·.clear a)) (col + 1) (setResult W · 32 a),
      row.wrapped⟩ := by
    cases hb : cellFlag (·.wide) row.cells col
    · exact s1
    · exact hpad _ (by simpa using hnext hb) s1
  have s3 : P ⟨printNarrow W row.cells col a c, row.wrapped⟩ := hchar _ (by simpa using hcol) s2
  cases hw : decide (width > 1)
  · exact s3
  · have hw := of_decide_eq_true hw
    cases hf : cellFlag (·.wide) (printNarrow W row.cells col a c) (col + 1)
    · simp only [printCells, printWrapped, hf, Bool.and_false, Bool.false_and, Bool.false_eq_true, ↓reduceIte, modifyIf_false]
      exact hcont _ (by simpa using hw1 hw) s3
    · simp only [printCells, printWrapped, hf, Bool.and_true, Bool.true_and, beq_iff_eq]
      exact hcont _ (by simpa using hw1 hw) (hafter _ (by simpa using hw2 hw hf) s3)

end Vt
