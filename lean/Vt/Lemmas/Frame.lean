/-
  Vt.Lemmas.Frame — which fields of a `Grid` an operation can change, and that the scrollback offset does not
  matter to it.

  `Grid.Draws g g'`: `g'` is `g` with other live rows and another cursor position; `Grid.DrawsRow g g'`: the
  cursor has moved within its column at most; `Grid.Moves`, `Grid.MovesRow`: the same with the rows unchanged.
  `Passes D fo f`: the operation `f` writes within the footprint `D`, and run with another scrollback offset it
  returns the same up to the offset.  One lemma (`*_passes`) per operation of `grid.rs` that `perform` applies to the
  active grid: one walk through its `do` block gives both (`Passes.footprint`, `Passes.rel`); the operations that can
  scroll a line off the top are in Vt/Lemmas/Scrolls.lean.  A predicate on grids that does not read `rows` and `pos` is
  kept by all of `DrawOp` (`MPred.of_draws`), one that reads the cursor column by those of `RowOp`.
-/
import Vt.Lemmas.MRel
import Vt.Model.Screen
namespace Vt.Grid

def Draws (g g' : Grid) : Prop := g' = { g with rows := g'.rows, pos := g'.pos }

def DrawsRow (g g' : Grid) : Prop := g' = { g with rows := g'.rows, pos := { g.pos with row := g'.pos.row } }

def Moves (g g' : Grid) : Prop := g' = { g with pos := g'.pos }

def MovesRow (g g' : Grid) : Prop := g' = { g with pos := { g.pos with row := g'.pos.row } }

def forgetOff (g : Grid) : Grid := { g with scrollbackOffset := 0 }

variable {g g' g'' : Grid}

namespace Draws

theorem refl (g : Grid) : g.Draws g := rfl

theorem trans (h : g.Draws g') (h' : g'.Draws g'') : g.Draws g'' := by
  unfold Draws at *
  rw [h', h]

theorem setRows (g : Grid) (rows : List Row) : g.Draws { g with rows := rows } := rfl
theorem setPos (g : Grid) (pos : Pos) : g.Draws { g with pos := pos } := rfl

end Draws

namespace DrawsRow

theorem refl (g : Grid) : g.DrawsRow g := rfl

theorem trans (h : g.DrawsRow g') (h' : g'.DrawsRow g'') : g.DrawsRow g'' := by
  unfold DrawsRow at *
  rw [h', h]

theorem setRow (g : Grid) (row : Nat) : g.DrawsRow { g with pos := { g.pos with row := row } } := rfl

theorem draws (h : g.DrawsRow g') : g.Draws g' := by
  unfold DrawsRow at h
  rw [h]
  rfl

end DrawsRow

namespace Moves

theorem trans (h : g.Moves g') (h' : g'.Moves g'') : g.Moves g'' := by
  unfold Moves at *
  rw [h', h]

theorem draws (h : g.Moves g') : g.Draws g' := by
  unfold Moves at h
  rw [h]
  rfl

theorem rows (h : g.Moves g') : g'.rows = g.rows ∧ g'.scrollback = g.scrollback := by
  unfold Moves at h
  rw [h]
  exact ⟨rfl, rfl⟩

end Moves

namespace MovesRow

theorem trans (h : g.MovesRow g') (h' : g'.MovesRow g'') : g.MovesRow g'' := by
  unfold MovesRow at *
  rw [h', h]

theorem moves (h : g.MovesRow g') : g.Moves g' := by
  unfold MovesRow at h
  rw [h]
  rfl

theorem drawsRow (h : g.MovesRow g') : g.DrawsRow g' := by
  unfold MovesRow at h
  rw [h]
  rfl

end MovesRow
end Vt.Grid

namespace Vt.C12
open Vt

theorem MPred.of_draws {P : Grid → Prop} (hP : ∀ g g', g.Draws g' → P g → P g') {g : Grid}
    (hg : P g) {m : M Grid} (h : MPred g.Draws m) : MPred P m :=
  h.mono fun g' d => hP g g' d hg

theorem MPred.draws {g : Grid} {m : M Grid} (h : MPred g.DrawsRow m) : MPred g.Draws m :=
  h.mono fun _ d => d.draws

abbrev Sim {α γ} (fo : α → γ) (a b : α) : Prop := fo a = fo b

abbrev GEq : Grid → Grid → Prop := Sim Grid.forgetOff

abbrev PEq : Grid × Nat → Grid × Nat → Prop := Sim (fun p => (Grid.forgetOff p.1, p.2))

theorem GEq.elim {g1 g2 : Grid} (h : GEq g1 g2) : ∃ k, g1 = { g2 with scrollbackOffset := k } := by
  refine ⟨g1.scrollbackOffset, ?_⟩
  cases g1; cases g2
  simp only [GEq, Sim, Grid.forgetOff, Grid.mk.injEq] at h ⊢
  simp [h]

theorem PEq.elim {p q : Grid × Nat} (h : PEq p q) : GEq p.1 q.1 ∧ p.2 = q.2 := by
  simp only [PEq, Sim, Prod.mk.injEq] at h
  exact h

/-- `f` reads the scrollback offset only to compute the new offset (`fo` forgets it), and writes what `D` allows -/
def Passes {α γ} (D : Grid → α → Prop) (fo : α → γ) (f : Grid → M α) : Prop :=
  ∀ g k, MRel (fun a b => Sim fo a b ∧ D g b) (f { g with scrollbackOffset := k }) (f g)

abbrev PassesG (D : Grid → Grid → Prop) (f : Grid → M Grid) : Prop := Passes D Grid.forgetOff f

abbrev PassesP (D : Grid → Grid → Prop) (f : Grid → M (Grid × Nat)) : Prop :=
  Passes (fun g p => D g p.1) (fun p => (Grid.forgetOff p.1, p.2)) f

namespace Passes
variable {α γ} {D E : Grid → α → Prop} {fo : α → γ} {f : Grid → M α}

theorem footprint (hf : Passes D fo f) (g : Grid) : MPred (D g) (f g) :=
  MRel.diag (fun _ _ h => h.2) (hf g g.scrollbackOffset)

theorem of_geq (hf : Passes D fo f) {g1 g2 : Grid} (h : GEq g1 g2) :
    MRel (fun a b => Sim fo a b ∧ D g2 b) (f g1) (f g2) := by
  obtain ⟨k, rfl⟩ := h.elim
  exact hf g2 k

theorem rel (hf : Passes D fo f) {g1 g2 : Grid} (h : GEq g1 g2) : MRel (Sim fo) (f g1) (f g2) :=
  (hf.of_geq h).mono fun _ _ h => h.1

theorem mono (h : ∀ {g b}, D g b → E g b) (hf : Passes D fo f) : Passes E fo f :=
  fun g k => (hf g k).mono fun _ _ hab => ⟨hab.1, h hab.2⟩

theorem bind {D : Grid → Grid → Prop} {f : Grid → M Grid} {f' : Grid → M α} (hf : PassesG D f)
    (hf' : Passes E fo f') (trans : ∀ {a b c}, D a b → E b c → E a c) : Passes E fo fun g => f g >>= f' :=
  fun g k => MRel.bind (hf g k) fun _ _ hab =>
    (hf'.of_geq hab.1).mono fun _ _ h => ⟨h.1, trans hab.2 h.2⟩

theorem iterate {D : Grid → Grid → Prop} (refl : ∀ g, D g g) (trans : ∀ {a b c}, D a b → D b c → D a c)
    {f : Grid → M Grid} (hf : PassesG D f) : ∀ n, PassesG D (iterateM n f)
  | 0 => fun g _ => MRel.pure ⟨rfl, refl g⟩
  | n + 1 => hf.bind (iterate refl trans hf n) trans

theorem rows {f : Grid → M Grid} (hf : PassesG Grid.Moves f) {g g' : Grid} (e : f g = .ok g') :
    g'.rows = g.rows ∧ g'.scrollback = g.scrollback :=
  (MPred.iff.mp (hf.footprint g) g' e).rows

end Passes

theorem rowClamp_passes : PassesG Grid.MovesRow Grid.rowClamp :=
  fun _ _ => MRel.bind_same _ fun _ => MRel.pure (by split <;> exact ⟨rfl, rfl⟩)

theorem colClamp_passes : PassesG Grid.Moves Grid.colClamp :=
  fun _ _ => MRel.bind_same _ fun _ => MRel.pure (by split <;> exact ⟨rfl, rfl⟩)

/-- `rowClampTop` is pure, so there is no `Passes` to state: the two facts as a conjunction -/
theorem rowClampTop_passes (g : Grid) (k : Nat) (l : Bool) :
    PEq ({ g with scrollbackOffset := k }.rowClampTop l) (g.rowClampTop l) ∧ g.MovesRow (g.rowClampTop l).1 := by
  unfold Grid.rowClampTop; split <;> exact ⟨rfl, rfl⟩

theorem rowClampBottom_passes (l : Bool) : PassesP Grid.MovesRow (·.rowClampBottom l) := by
  intro g k
  have clamp (b : Nat) : MRel (fun p q => PEq p q ∧ g.MovesRow q.1)
      (if g.pos.row > b then
        pure ({ g with scrollbackOffset := k, pos := { g.pos with row := b } }, g.pos.row - b)
       else pure ({ g with scrollbackOffset := k }, 0))
      (if g.pos.row > b then pure ({ g with pos := { g.pos with row := b } }, g.pos.row - b) else pure (g, 0)) :=
    MRel.ite (fun _ => MRel.pure ⟨rfl, rfl⟩) (fun _ => MRel.pure ⟨rfl, rfl⟩)
  simp only [Grid.rowClampBottom]
  exact MRel.ite (fun _ => clamp _) (fun _ => MRel.bind_same _ clamp)

theorem allocateRows_passes : PassesG Grid.DrawsRow fun g => pure g.allocateRows :=
  fun _ _ => MRel.pure (by unfold Grid.allocateRows; split <;> exact ⟨rfl, rfl⟩)

theorem modifyCurrentRow_passes (f : Row → M Row) : PassesG Grid.DrawsRow (·.modifyCurrentRow f) :=
  fun _ _ => MRel.bind_same _ fun _ => MRel.pure ⟨rfl, rfl⟩

theorem modifyCellM_passes (site : Nat) (pos : Pos) (f : Cell → M Cell) :
    PassesG Grid.DrawsRow (·.modifyCellM site pos f) :=
  fun _ _ => MRel.bind_same _ fun _ => MRel.pure ⟨rfl, rfl⟩

theorem eraseAll_passes (a : Attrs) : PassesG Grid.DrawsRow fun g => pure (g.eraseAll a) :=
  fun _ _ => MRel.pure ⟨rfl, rfl⟩

theorem eraseRowForward_passes (a : Attrs) : PassesG Grid.DrawsRow (·.eraseRowForward a) :=
  fun g k => modifyCurrentRow_passes _ g k

theorem eraseRowBackward_passes (a : Attrs) : PassesG Grid.DrawsRow (·.eraseRowBackward a) :=
  fun g k => MRel.bind_same _ fun _ => modifyCurrentRow_passes _ g k

theorem eraseAllForward_passes (a : Attrs) : PassesG Grid.DrawsRow (·.eraseAllForward a) :=
  fun g k => eraseRowForward_passes a { g with rows := _ } k

theorem eraseAllBackward_passes (a : Attrs) : PassesG Grid.DrawsRow (·.eraseAllBackward a) :=
  fun g k => eraseRowBackward_passes a { g with rows := _ } k

theorem eraseRow_passes (a : Attrs) : PassesG Grid.DrawsRow (·.eraseRow a) :=
  fun g k => modifyCurrentRow_passes _ g k

theorem insertCells_passes (n : Nat) : PassesG Grid.DrawsRow (·.insertCells n) := fun g k => by
  simp only [Grid.insertCells, pure_bind']
  exact MRel.ite (fun _ => MRel.bind_same _ fun _ => modifyCurrentRow_passes _ g k)
    (fun _ => modifyCurrentRow_passes _ g k)

theorem deleteCells_passes (n : Nat) : PassesG Grid.DrawsRow (·.deleteCells n) :=
  fun g k => modifyCurrentRow_passes _ g k

theorem eraseCells_passes (n : Nat) (a : Attrs) : PassesG Grid.DrawsRow (·.eraseCells n a) :=
  fun g k => modifyCurrentRow_passes _ g k

theorem iterate_passes {f : Grid → M Grid} (hf : PassesG Grid.DrawsRow f) (n : Nat) :
    PassesG Grid.DrawsRow (iterateM n f) :=
  hf.iterate Grid.DrawsRow.refl Grid.DrawsRow.trans n

theorem insertLines_passes (n : Nat) : PassesG Grid.DrawsRow (·.insertLines n) :=
  fun g k => iterate_passes (fun _ _ => MRel.bind_same _ fun (_, _) => MRel.bind_same _ fun _ =>
    MRel.bind_same _ fun _ => MRel.pure ⟨rfl, rfl⟩) _ g k

theorem deleteLines_passes (n : Nat) : PassesG Grid.DrawsRow (·.deleteLines n) :=
  fun g k => MRel.bind_same _ fun _ => iterate_passes (fun _ _ => MRel.bind_same _ fun _ =>
    MRel.bind_same _ fun (_, _) => MRel.pure ⟨rfl, rfl⟩) _ g k

theorem scrollDown_passes (n : Nat) : PassesG Grid.DrawsRow (·.scrollDown n) :=
  fun g k => iterate_passes (fun _ _ => MRel.bind_same _ fun (_, _) => MRel.bind_same _ fun _ =>
    MRel.bind_same _ fun _ => MRel.pure ⟨rfl, rfl⟩) _ g k

theorem rowIncClamp_passes (n : Nat) : PassesG Grid.MovesRow (·.rowIncClamp n) :=
  fun g k => MRel.bind (rowClampBottom_passes _ { g with pos := _ } k) fun _ _ h =>
    MRel.pure ⟨congrArg Prod.fst h.1, h.2⟩

theorem rowDecClamp_passes (n : Nat) : PassesG Grid.MovesRow fun g => pure (g.rowDecClamp n) :=
  fun g k => have h := rowClampTop_passes { g with pos := _ } k _; MRel.pure ⟨congrArg Prod.fst h.1, h.2⟩

theorem rowDecScroll_passes (n : Nat) : PassesG Grid.DrawsRow (·.rowDecScroll n) := fun g k => by
  simp only [Grid.rowDecScroll, Grid.inScrollRegion]
  refine (fun p q h => ?_ : ∀ p q : Grid × Nat, PEq p q ∧ g.MovesRow q.1 →
    MRel (fun a b => GEq a b ∧ g.DrawsRow b) (p.1.scrollDown (p.2 + _)) (q.1.scrollDown (q.2 + _))) _ _
    (rowClampTop_passes { g with pos := _ } k _)
  obtain ⟨h1, h2⟩ := h.1.elim
  rw [h2]
  exact ((scrollDown_passes _).of_geq h1).mono fun _ _ h' => ⟨h'.1, h.2.drawsRow.trans h'.2⟩

theorem rowSet_passes (i : Nat) : PassesG Grid.MovesRow (·.rowSet i) :=
  fun g k => rowClamp_passes { g with pos := _ } k

theorem appendToPrev_passes (row col c : Nat) : PassesG Grid.DrawsRow (·.appendToPrev row col c) :=
  fun g k => MRel.bind_same _ fun _ => MRel.ite
    (fun _ => MRel.bind_same _ fun _ => modifyCellM_passes _ _ _ g k) (fun _ => modifyCellM_passes _ _ _ g k)

theorem textZero_passes (c : Nat) : PassesG Grid.DrawsRow (·.textZero c) := fun g k => by
  simp only [Grid.textZero, Grid.drawingRow]
  refine MRel.ite (fun _ => appendToPrev_passes _ _ _ g k) fun _ =>
    MRel.ite (fun _ => ?_) fun _ => MRel.pure ⟨rfl, .refl g⟩
  split
  · exact MRel.ite (fun _ => MRel.bind_same _ fun _ => appendToPrev_passes _ _ _ g k)
      (fun _ => MRel.pure ⟨rfl, .refl g⟩)
  · exact (rfl : Panic.at 523 = Panic.at 523)

theorem colDec_passes (n : Nat) : PassesG Grid.Moves fun g => pure (g.colDec n) :=
  fun _ _ => MRel.pure ⟨rfl, rfl⟩

theorem colIncClamp_passes (n : Nat) : PassesG Grid.Moves (·.colIncClamp n) :=
  fun g k => colClamp_passes { g with pos := _ } k

theorem colTab_passes : PassesG Grid.Moves Grid.colTab := fun g k => colClamp_passes { g with pos := _ } k

theorem colSet_passes (i : Nat) : PassesG Grid.Moves (·.colSet i) :=
  fun g k => colClamp_passes { g with pos := _ } k

@[simp] theorem rowClampTop_originMode (g : Grid) (l : Bool) :
    (g.rowClampTop l).1.originMode = g.originMode := by
  simp only [Grid.rowClampTop]; split <;> rfl

theorem setPos_passes (pos : Pos) : PassesG Grid.Moves (·.setPos pos) := fun g k => by
  simp only [Grid.setPos, rowClampTop_originMode]
  have h0 := rowClampTop_passes
    { g with pos := if g.originMode then { pos with row := satAddU16 pos.row g.scrollTop } else pos } k g.originMode
  refine MRel.bind ((rowClampBottom_passes _).of_geq h0.1.elim.1) fun _ _ h1 => ?_
  exact (colClamp_passes.of_geq (PEq.elim h1.1).1).mono fun _ _ h2 =>
    ⟨h2.1, Grid.Moves.trans (g := g) (h0.2.trans h1.2).moves h2.2⟩

theorem cnl_passes (n : Nat) : PassesG Grid.Moves (·.cnl n) :=
  (colSet_passes 0).bind ((rowIncClamp_passes n).mono Grid.MovesRow.moves) Grid.Moves.trans

theorem cpl_passes (n : Nat) : PassesG Grid.Moves (·.cpl n) :=
  (colSet_passes 0).bind ((rowDecClamp_passes n).mono Grid.MovesRow.moves) Grid.Moves.trans

theorem textWide_passes (W : Nat → Option Nat) (a : Attrs) (c w : Nat) :
    PassesG Grid.Draws (·.textWide W a c w) :=
  fun g k => MRel.bind (modifyCurrentRow_passes _ g k) fun _ _ h => by
    obtain ⟨k', rfl⟩ := GEq.elim h.1
    exact MRel.pure (by split <;> exact ⟨rfl, h.2.draws.trans rfl⟩)

theorem setOriginMode_passes (m : Bool) :
    PassesG (fun g g' => ({ g with originMode := m }).Moves g') (·.setOriginMode m) :=
  fun g k => setPos_passes _ { g with originMode := m } k

theorem setScrollRegion_passes (t b : Nat) :
    PassesG (fun g g' => g' = { g with scrollTop := g'.scrollTop, scrollBottom := g'.scrollBottom, pos := ⟨g'.scrollTop, 0⟩ })
      (·.setScrollRegion t b) :=
  fun _ _ => MRel.bind_same _ fun _ => MRel.pure (by split <;> exact ⟨rfl, rfl⟩)

/-- the operations `perform` applies to the active grid that draw and leave the cursor in its column; `p`: the pen the
erasing ones use -/
inductive RowOp (p : Attrs) : (Grid → M Grid) → Prop
  | rowDecClamp (n : Nat) : RowOp p fun g => pure (g.rowDecClamp n)
  | rowIncClamp (n : Nat) : RowOp p fun g => g.rowIncClamp n
  | rowDecScroll (n : Nat) : RowOp p fun g => g.rowDecScroll n
  | rowSet (i : Nat) : RowOp p fun g => g.rowSet i
  | insertCells (n : Nat) : RowOp p fun g => g.insertCells n
  | deleteCells (n : Nat) : RowOp p fun g => g.deleteCells n
  | insertLines (n : Nat) : RowOp p fun g => g.insertLines n
  | deleteLines (n : Nat) : RowOp p fun g => g.deleteLines n
  | scrollDown (n : Nat) : RowOp p fun g => g.scrollDown n
  | eraseCells (n : Nat) : RowOp p fun g => g.eraseCells n p
  | eraseAllForward : RowOp p fun g => g.eraseAllForward p
  | eraseAllBackward : RowOp p fun g => g.eraseAllBackward p
  | eraseAll : RowOp p fun g => pure (g.eraseAll p)
  | eraseRowForward : RowOp p fun g => g.eraseRowForward p
  | eraseRowBackward : RowOp p fun g => g.eraseRowBackward p
  | eraseRow : RowOp p fun g => g.eraseRow p

theorem RowOp.passes {p : Attrs} {f : Grid → M Grid} (hf : RowOp p f) : PassesG Grid.DrawsRow f := by
  cases hf with
  | rowDecClamp n => exact (rowDecClamp_passes n).mono Grid.MovesRow.drawsRow
  | rowIncClamp n => exact (rowIncClamp_passes n).mono Grid.MovesRow.drawsRow
  | rowDecScroll n => exact rowDecScroll_passes n
  | rowSet i => exact (rowSet_passes i).mono Grid.MovesRow.drawsRow
  | insertCells n => exact insertCells_passes n
  | deleteCells n => exact deleteCells_passes n
  | insertLines n => exact insertLines_passes n
  | deleteLines n => exact deleteLines_passes n
  | scrollDown n => exact scrollDown_passes n
  | eraseCells n => exact eraseCells_passes n p
  | eraseAllForward => exact eraseAllForward_passes p
  | eraseAllBackward => exact eraseAllBackward_passes p
  | eraseAll => exact eraseAll_passes p
  | eraseRowForward => exact eraseRowForward_passes p
  | eraseRowBackward => exact eraseRowBackward_passes p
  | eraseRow => exact eraseRow_passes p

theorem RowOp.drawsRow {p : Attrs} {f : Grid → M Grid} (hf : RowOp p f) (g : Grid) : MPred g.DrawsRow (f g) :=
  hf.passes.footprint g

/-- the operations `perform` applies to the active grid that only draw -/
inductive DrawOp (p : Attrs) : (Grid → M Grid) → Prop
  | row {f : Grid → M Grid} (h : RowOp p f) : DrawOp p f
  | colDec (n : Nat) : DrawOp p fun g => pure (g.colDec n)
  | colTab : DrawOp p Grid.colTab
  | colSet (i : Nat) : DrawOp p fun g => g.colSet i
  | colIncClamp (n : Nat) : DrawOp p fun g => g.colIncClamp n
  | setPos (pos : Pos) : DrawOp p fun g => g.setPos pos
  | cnl (n : Nat) : DrawOp p fun g => g.cnl n
  | cpl (n : Nat) : DrawOp p fun g => g.cpl n

theorem DrawOp.passes {p : Attrs} {f : Grid → M Grid} (hf : DrawOp p f) : PassesG Grid.Draws f := by
  cases hf with
  | row h => exact h.passes.mono Grid.DrawsRow.draws
  | colDec n => exact (colDec_passes n).mono Grid.Moves.draws
  | colTab => exact colTab_passes.mono Grid.Moves.draws
  | colSet i => exact (colSet_passes i).mono Grid.Moves.draws
  | colIncClamp n => exact (colIncClamp_passes n).mono Grid.Moves.draws
  | setPos pos => exact (setPos_passes pos).mono Grid.Moves.draws
  | cnl n => exact (cnl_passes n).mono Grid.Moves.draws
  | cpl n => exact (cpl_passes n).mono Grid.Moves.draws

theorem DrawOp.draws {p : Attrs} {f : Grid → M Grid} (hf : DrawOp p f) (g : Grid) : MPred g.Draws (f g) :=
  hf.passes.footprint g

end Vt.C12
