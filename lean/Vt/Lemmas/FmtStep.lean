/-
  Vt.Lemmas.FmtStep — the cell loop of `Row::write_contents_formatted` / `write_contents_diff`, taken apart once.

  * The per-cell body is `flush` (end a pending erase run when this cell ends it) followed by `emitCell` (type the cell, or start a
    run): `fmtCellStep_eq`; `flushed` is the state after a run is ended, `written` the state after a cell is typed.
  * `All A B E O st`: a condition on the emitter's state stated part by part — `A` of the pen, `B` of the position, `E` of a
    pending erase run, `O` of the bytes written.  Where flushing a run is harmless (`Kept`) and the cell is good (`CellOk`), a
    cell keeps it: `fmtCellStep_all`.  "The output consists of bytes" (`kept_bytes`), "the pen is well formed", "the column is at
    most `cols`" (`DiffRow.kept_line`), "a pending run started left of here" (`C03.kept_run`), "the cursor stays or moves onto this
    line" (`C02.moved_kept`) are instances.
  * `wcf_eq`: `write_contents_formatted` = where the cursor is taken to be (`wcfPos`), the start state (`wcfStart`), the loop,
    `fmtFinish`, for every window and every optional argument; `wcf_all` carries an `All` through it, `wcd_all` through
    `write_contents_diff` (`diffStart`, the loop, `fmtFinish`, `diffEnd`).
  * The two ends of `write_contents_diff` in closed form: `diffStart_quiet` / `diffStart_eq`, `diffEnd_flag_kept` / `diffEnd_eq`.

  The split of the step and the two ends are in namespace `Vt.C03` (where Props/C03b uses them), everything between in `Vt.Fmt`.
-/
import Vt.Lemmas.Window
import Vt.Lemmas.BytesTerm
import Vt.Lemmas.MRel
namespace Vt.C03

def EraseLe (col : Nat) (st : Row.FmtSt) : Prop := ∀ pc a, st.erase = some (pc, a) → pc ≤ col

theorem eraseMove_erase (n row : Nat) (w : Bool) (st : Row.FmtSt) (pc : Nat) (a : Attrs) :
    (Row.eraseMove n row w st pc a).erase = st.erase := by
  unfold Row.eraseMove
  simp only

/-- The first half of `Row.fmtCellStep`, in the model's words (331 is the model's number for the panic site of this subtraction);
`emitCell` is the second half. -/
def flush (n row : Nat) (w : Bool) (st : Row.FmtSt) (col : Nat) (c : Cell) : M Row.FmtSt :=
  match st.erase with
  | some (prevCol, attrs) =>
    if c.hasContents || c.attrs != attrs then do
      let st := Row.eraseMove n row w st prevCol attrs
      let k ← subM 331 col prevCol
      pure { st with out := st.out ++ Term.eraseChar k, erase := none }
    else pure st
  | none => pure st

def emitCell (n row : Nat) (w : Bool) (st : Row.FmtSt) (col : Nat) (cell : Cell) (differs : Bool) : M Row.FmtSt :=
  let pos : Pos := { row := row, col := col }
  if differs then
    let attrs := cell.attrs
    if cell.hasContents then do
      let st :=
        if pos != st.prevPos then
          let mv :=
            if !w || st.prevPos.row + 1 != pos.row
                || st.prevPos.col < n - (if cell.isWide then 1 else 0)
                || pos.col != 0 then
              Term.moveFromTo st.prevPos pos
            else []
          { st with out := st.out ++ mv, prevPos := pos }
        else st
      let st :=
        if st.prevAttrs != attrs then
          { st with out := st.out ++ attrs.writeEscapeCodeDiff st.prevAttrs, prevAttrs := attrs }
        else st
      let bs ← cell.contentsBytes
      pure { st with
        prevPos := { st.prevPos with col := st.prevPos.col + (if cell.isWide then 2 else 1) },
        out := st.out ++ bs }
    else if st.erase.isNone then pure { st with erase := some (pos.col, attrs) }
    else pure st
  else pure st

theorem fmtCellStep_eq (n row : Nat) (w : Bool) (st : Row.FmtSt) (col : Nat) (c : Cell) (d : Bool) :
    Row.fmtCellStep n row w st col c d = (flush n row w st col c >>= fun st1 => emitCell n row w st1 col c d) := by
  unfold Row.fmtCellStep flush
  cases st.erase with
  | none => rfl
  | some pa =>
    obtain ⟨pc, a⟩ := pa
    show (if (c.hasContents || c.attrs != a) = true then _ else _) =
      (if (c.hasContents || c.attrs != a) = true then _ else _) >>= _
    cases (c.hasContents || c.attrs != a)
    · rfl
    · cases subM 331 col pc <;> rfl

end Vt.C03
namespace Vt.Fmt
open Vt Vt.C03 Vt.Bytes
open Vt.C12 (MPred foldlM_pred)

/-- the emitter's pen change, written as a pair in the source -/
theorem pen_pair (pa a : Attrs) (X : List Nat) :
    (if (pa != a) = true then (X, a) else (([] : List Nat), pa)) = ((if (pa != a) = true then X else []), a) := by
  by_cases hp : (pa != a) = true
  · rw [if_pos hp, if_pos hp]
  · rw [if_neg hp, if_neg hp]
    have : pa = a := by simpa using hp
    rw [this]

theorem eraseMove_eq (n i : Nat) (w : Bool) (st : Row.FmtSt) (e : Nat) (a : Attrs) :
    Row.eraseMove n i w st e a =
      { st with
        prevPos := ⟨i, e⟩, prevAttrs := a
        out := st.out ++
          (if (w && st.prevPos.row + 1 == i && decide (st.prevPos.col ≥ n)) = true then
            (if e > 0 then List.replicate e 32 else [32] ++ Term.backspace)
           else Term.moveFromTo st.prevPos ⟨i, e⟩) ++
          (if (st.prevAttrs != a) = true then a.writeEscapeCodeDiff st.prevAttrs else []) } := by
  simp only [Row.eraseMove, pen_pair]

def flushed (n row : Nat) (w : Bool) (st : Row.FmtSt) (pc : Nat) (a : Attrs) (col : Nat) : Row.FmtSt :=
  { Row.eraseMove n row w st pc a with
    out := (Row.eraseMove n row w st pc a).out ++ Term.eraseChar (col - pc), erase := none }

def written (n row : Nat) (w : Bool) (st : Row.FmtSt) (col : Nat) (c : Cell) (bs : List Nat) : Row.FmtSt :=
  { prevWasWide := st.prevWasWide
    prevPos := ⟨row, col + (if c.isWide then 2 else 1)⟩
    prevAttrs := c.attrs
    erase := st.erase
    out := st.out ++
      (if (({ row := row, col := col } : Pos) != st.prevPos) = true then
        (if (!w || st.prevPos.row + 1 != row || decide (st.prevPos.col < n - (if c.isWide then 1 else 0))
              || col != 0) = true then Term.moveFromTo st.prevPos ⟨row, col⟩ else [])
       else []) ++
      (if (st.prevAttrs != c.attrs) = true then c.attrs.writeEscapeCodeDiff st.prevAttrs else []) ++ bs }

section
variable (n row : Nat) (w : Bool) (st : Row.FmtSt) (col : Nat) (c : Cell)

theorem flush_none (he : st.erase = none) : flush n row w st col c = .ok st := by
  simp only [flush, he]; rfl

/-- the only way `flush` fails: the run starts right of `col` -/
theorem flush_some {pc : Nat} {a : Attrs} (he : st.erase = some (pc, a)) :
    flush n row w st col c =
      if (c.hasContents || c.attrs != a) = true then subM 331 col pc >>= fun _ => pure (flushed n row w st pc a col)
      else .ok st := by
  simp only [flush, he]
  split
  · cases h : subM 331 col pc with
    | error e => rfl
    | ok k =>
      obtain rfl : k = col - pc := (subM_eq_ok.mp h).2
      rfl
  · rfl

/-- the only way `emitCell` fails: the cell's live bytes are not UTF-8 -/
theorem emit_text (hh : c.hasContents = true) :
    C03.emitCell n row w st col c true = (c.contentsBytes >>= fun bs => pure (written n row w st col c bs)) := by
  simp only [C03.emitCell, ↓reduceIte, hh]
  refine bind_congr fun bs => ?_
  by_cases h1 : st.prevPos = ⟨row, col⟩ <;> by_cases h2 : st.prevAttrs = c.attrs <;>
    simp [written, h1, h2, eq_comm (a := (⟨row, col⟩ : Pos))]

theorem emit_blank (hh : c.hasContents = false) :
    C03.emitCell n row w st col c true = .ok (if st.erase.isNone then { st with erase := some (col, c.attrs) } else st) := by
  simp only [C03.emitCell, ↓reduceIte, hh, Bool.false_eq_true]
  split <;> rfl

end

structure All (A : Attrs → Prop) (B : Pos → Prop) (E : Nat → Attrs → Prop) (O : List Nat → Prop)
    (st : Row.FmtSt) : Prop where
  pen : A st.prevAttrs
  pos : B st.prevPos
  run : ∀ pc a, st.erase = some (pc, a) → E pc a
  out : O st.out

/-- what makes `All A B E O` an invariant on line `row`; `run`: flushing goes to the start of the run and takes its attributes
as pen -/
structure Kept (row : Nat) (A : Attrs → Prop) (B : Pos → Prop) (E : Nat → Attrs → Prop) (O : List Nat → Prop) :
    Prop where
  app : ∀ {l bs}, O l → Bytes bs → O (l ++ bs)
  run : ∀ {pc a}, E pc a → A a ∧ B ⟨row, pc⟩

/-- the cell may become the pen, the position behind it is good, and it may start a run -/
def CellOk (row : Nat) (A : Attrs → Prop) (B : Pos → Prop) (E : Nat → Attrs → Prop) (col : Nat) (c : Cell) : Prop :=
  A c.attrs ∧ B ⟨row, col + (if c.isWide then 2 else 1)⟩ ∧ E col c.attrs

def RowOk (row : Nat) (A : Attrs → Prop) (B : Pos → Prop) (E : Nat → Attrs → Prop) (r : Row) : Prop :=
  ∀ j (hj : j < r.cells.length), CellOk row A B E j r.cells[j]

theorem contentsBytes_ret (c : Cell) : MPred Bytes c.contentsBytes := MPred.iff.mpr fun _ e => contentsBytes_bytes e

section
variable {A : Attrs → Prop} {B : Pos → Prop} {E : Nat → Attrs → Prop} {O : List Nat → Prop} {row : Nat}

theorem Kept.bytes (K : Kept row A B E O) (hO : O []) {bs : List Nat} (h : Bytes bs) : O bs :=
  K.app (l := []) hO h

theorem All.wide {st : Row.FmtSt} (h : All A B E O st) (b : Bool) : All A B E O { st with prevWasWide := b } :=
  ⟨h.pen, h.pos, h.run, h.out⟩

theorem RowOk.get {r : Row} (hr : RowOk row A B E r) {j : Nat} {c : Cell} (h : r.cells[j]? = some c) :
    CellOk row A B E j c := by
  obtain ⟨hj, e⟩ := List.getElem?_eq_some_iff.mp h
  exact e ▸ hr j hj

theorem eraseMove_all (K : Kept row A B E O) (n : Nat) (w : Bool) {st : Row.FmtSt} (h : All A B E O st)
    {pc : Nat} {a : Attrs} (he : st.erase = some (pc, a)) : All A B E O (Row.eraseMove n row w st pc a) := by
  rw [eraseMove_eq]
  exact ⟨(K.run (h.run pc a he)).1, (K.run (h.run pc a he)).2, h.run,
    K.app (K.app h.out (ite_bytes (ite_bytes (bytes_replicate (by omega)) (Bytes.cons (by omega) backspace_bytes))
      (moveFromTo_bytes _ _))) (ite_bytes (writeEscapeCodeDiff_bytes _ _) Bytes.nil)⟩

theorem flush_all (K : Kept row A B E O) (n : Nat) (w : Bool) {st : Row.FmtSt} (h : All A B E O st) (col : Nat)
    (c : Cell) : MPred (All A B E O) (flush n row w st col c) := by
  cases he : st.erase with
  | none => rw [flush_none _ _ _ _ _ _ he]; exact h
  | some pa =>
    have hm := eraseMove_all K n w h he
    rw [flush_some _ _ _ _ _ _ he]
    exact .ite (fun _ => .bind_any _ fun _ => .pure
      ⟨hm.pen, hm.pos, fun _ _ h' => (nomatch h'), K.app hm.out (eraseChar_bytes _)⟩) fun _ => h

theorem emit_all (K : Kept row A B E O) (n : Nat) (w : Bool) {st : Row.FmtSt} (h : All A B E O st) {col : Nat}
    {c : Cell} (hc : CellOk row A B E col c) (d : Bool) : MPred (All A B E O) (C03.emitCell n row w st col c d) := by
  cases d with
  | false => exact h
  | true =>
    cases hh : c.hasContents with
    | true =>
      rw [emit_text _ _ _ _ _ _ hh]
      exact .bind (contentsBytes_ret c) fun bs hbs => .pure ⟨hc.1, hc.2.1, h.run, K.app (K.app (K.app h.out
        (ite_bytes (ite_bytes (moveFromTo_bytes _ _) Bytes.nil) Bytes.nil))
        (ite_bytes (writeEscapeCodeDiff_bytes _ _) Bytes.nil)) hbs⟩
    | false =>
      rw [emit_blank _ _ _ _ _ _ hh]
      split
      · exact ⟨h.pen, h.pos, fun _ _ h' => by cases h'; exact hc.2.2, h.out⟩
      · exact h

theorem fmtCellStep_all (K : Kept row A B E O) (n : Nat) (w : Bool) {st : Row.FmtSt} (h : All A B E O st) {col : Nat}
    {c : Cell} (hc : CellOk row A B E col c) (d : Bool) :
    MPred (All A B E O) (Row.fmtCellStep n row w st col c d) := by
  rw [fmtCellStep_eq]
  exact .bind (flush_all K n w h col c) fun _ h1 => emit_all K n w h1 hc d

theorem diffStep_all (K : Kept row A B E O) (n : Nat) (w : Bool) {st : Row.FmtSt} (h : All A B E O st)
    {p : Nat × (Cell × Cell)} (hc : CellOk row A B E p.1 p.2.1) : MPred (All A B E O) (Row.diffStep n row w st p) :=
  .ite (fun _ => .pure (h.wide _)) fun _ => fmtCellStep_all K n w (h.wide _) hc _

theorem fmtStep_all (K : Kept row A B E O) (n : Nat) (w : Bool) {st : Row.FmtSt} (h : All A B E O st) {p : Nat × Cell}
    (hc : CellOk row A B E p.1 p.2) : MPred (All A B E O) (Row.fmtStep n row w st p) :=
  diffStep_all K n w h (p := (p.1, (p.2, Cell.new))) hc

theorem fmtFinish_all (K : Kept row A B E O) (n : Nat) (w : Bool) {st : Row.FmtSt} (h : All A B E O st) :
    All A B E O (Row.fmtFinish n row w st) := by
  unfold Row.fmtFinish
  split
  · rename_i pc a he
    have hm := eraseMove_all K n w h he
    exact ⟨hm.pen, hm.pos, hm.run, K.app hm.out clearRowForward_bytes⟩
  · exact h

end

/-- the emitter state at the start of a line that is not wrapped onto -/
def start (pp : Pos) (pa : Attrs) : Row.FmtSt :=
  { prevWasWide := false, prevPos := pp, prevAttrs := pa, erase := none, out := [] }

/-- the emitter state after the preamble of a wrapped-onto line whose first cell is the blank default cell -/
def preamble (i : Nat) (pa : Attrs) : Row.FmtSt :=
  { prevWasWide := false
    prevPos := ⟨i, 0⟩
    prevAttrs := Attrs.default
    erase := none
    out := (if (pa != Attrs.default) = true then Attrs.default.writeEscapeCodeDiff pa else []) ++ [32] ++
      Term.backspace ++ Term.eraseChar 1 }

def wcfPos (r : Row) (start row : Nat) (w : Bool) : Option Pos → M Pos
  | some p => pure p
  | none => if w then do let r1 ← subM 332 row 1; pure ⟨r1, r.cols⟩ else pure ⟨row, start⟩

def wcfStart (r : Row) (start row : Nat) (w : Bool) (p : Pos) (pa : Attrs) : Row.FmtSt :=
  if (w && r.firstIsDefault start) = true then preamble row pa else Fmt.start p pa

theorem wcf_eq (r : Row) (start width row : Nat) (w : Bool) (pp : Option Pos) (pa : Option Attrs) :
    r.writeContentsFormatted start width row w pp pa =
      (wcfPos r start row w pp >>= fun p =>
        (Row.window r.cells start width).foldlM (Row.fmtStep r.cols row w)
            (wcfStart r start row w p (pa.getD Attrs.default)) >>= fun st =>
          pure ((Row.fmtFinish r.cols row w st).out, (Row.fmtFinish r.cols row w st).prevPos,
            (Row.fmtFinish r.cols row w st).prevAttrs)) := by
  have hpre : ∀ a : Attrs, (⟨false, ⟨row, 0⟩,
      (if (a != Cell.new.attrs) = true then (Cell.new.attrs.writeEscapeCodeDiff a, Cell.new.attrs) else ([], a)).2, none,
      (if (a != Cell.new.attrs) = true then (Cell.new.attrs.writeEscapeCodeDiff a, Cell.new.attrs) else ([], a)).1
        ++ [32] ++ Term.backspace ++ Term.eraseChar 1⟩ : Row.FmtSt) = preamble row a := fun a => by
    rw [pen_pair]; rfl
  unfold Row.writeContentsFormatted wcfStart
  simp only [hpre]
  cases pp with
  | some p => rfl
  | none => cases w <;> simp [wcfPos, Fmt.start]

theorem wcfPos_get (r : Row) (start row : Nat) (w : Bool) (pp : Option Pos) :
    MPred (fun p => pp.getD p = p) (wcfPos r start row w pp) := by
  cases pp with
  | some p => exact .pure rfl
  | none => exact .ite (fun _ => .bind_any _ fun _ => .pure rfl) fun _ => .pure rfl

section
variable {A : Attrs → Prop} {B : Pos → Prop} {E : Nat → Attrs → Prop} {O : List Nat → Prop} {row : Nat}

theorem start_all (hO : O []) {p : Pos} (hp : B p) {pa : Attrs} (ha : A pa) : All A B E O (Fmt.start p pa) :=
  ⟨ha, hp, fun _ _ h => (nomatch h), hO⟩

theorem preamble_all (K : Kept row A B E O) (hO : O []) (hd : A Attrs.default) (h0 : B ⟨row, 0⟩) (pa : Attrs) :
    All A B E O (preamble row pa) :=
  ⟨hd, h0, fun _ _ h => (nomatch h), K.bytes hO (Bytes.append (Bytes.append (Bytes.append
    (ite_bytes (writeEscapeCodeDiff_bytes _ _) Bytes.nil) (Bytes.cons (by omega) Bytes.nil)) backspace_bytes)
    (eraseChar_bytes 1))⟩

/-- **`Row::write_contents_formatted`**, any window: from a good pen and position (those given, or the defaults) over a line
of good cells it returns good bytes, position and pen -/
theorem wcf_all (K : Kept row A B E O) (hO : O []) (hd : A Attrs.default) (h0 : B ⟨row, 0⟩) {r : Row}
    (hr : RowOk row A B E r) (start width : Nat) (w : Bool) {pp : Option Pos} {pa : Option Attrs}
    (hpp : ∀ p, pp.getD p = p → B p) (hpa : A (pa.getD Attrs.default)) :
    MPred (fun res => O res.1 ∧ B res.2.1 ∧ A res.2.2) (r.writeContentsFormatted start width row w pp pa) := by
  rw [wcf_eq]
  refine .bind (wcfPos_get r start row w pp) fun p hp =>
    .bind (foldlM_pred _ _ (fun q hq s hs => fmtStep_all K _ _ hs (hr.get (mem_window hq))) ?_) fun _ hs =>
      .pure ⟨(fmtFinish_all K _ _ hs).out, (fmtFinish_all K _ _ hs).pos, (fmtFinish_all K _ _ hs).pen⟩
  unfold wcfStart
  split
  · exact preamble_all K hO hd h0 _
  · exact start_all hO (hpp p hp) hpa

theorem pen_all {pa a : Attrs} (X : List Nat) (ha : A a) :
    A (if (pa != a) = true then (X, a) else (([] : List Nat), pa)).2 := by
  rw [pen_pair]; exact ha

theorem diffStart_all (K : Kept row A B E O) (hO : O []) (h0 : B ⟨row, 0⟩) {r : Row} (hr : RowOk row A B E r)
    (prev : Row) (start : Nat) (w pw : Bool) {pp : Pos} (hpp : B pp) {pa : Attrs} (hpa : A pa) :
    MPred (All A B E O) (Row.diffStart r prev start row w pw pp pa) := by
  unfold Row.diffStart
  split
  · rename_i fc _ hfc _
    refine .ite (fun _ => .bind (contentsBytes_ret _) fun _ hcc => .pure ⟨?_, h0, fun _ _ h => (nomatch h), K.bytes hO ?_⟩)
      fun _ => .pure (start_all hO hpp hpa)
    · exact pen_all _ (hr.get hfc).1
    · exact Bytes.append (Bytes.append (Bytes.append (Bytes.append
        (ite_fst_bytes (writeEscapeCodeDiff_bytes _ _) Bytes.nil) (ite_fst_bytes (Bytes.cons (by omega) Bytes.nil) hcc))
        backspace_bytes) (ite_bytes backspace_bytes Bytes.nil)) (ite_bytes (eraseChar_bytes 1) Bytes.nil)
  · exact .pure (start_all hO hpp hpa)

theorem diffEnd_all (K : Kept row A B E O) {r : Row} (hr : RowOk row A B E r) (prev : Row) {st : Row.FmtSt}
    (h : All A B E O st) :
    MPred (fun res => O res.1 ∧ B res.2.1 ∧ A res.2.2) (Row.diffEnd r prev row st) := by
  have hout : ∀ endPos : Pos, O (if (!r.wrapped) = true then
      st.out ++ Term.moveFromTo st.prevPos endPos ++ Term.eraseChar 1
      else st.out ++ Term.moveFromTo st.prevPos endPos) := fun endPos => by
    split
    · exact K.app (K.app h.out (moveFromTo_bytes _ _)) (eraseChar_bytes 1)
    · exact K.app h.out (moveFromTo_bytes _ _)
  unfold Row.diffEnd
  refine .ite (fun _ => .bind_any _ fun _ => .bind_any _ fun _ => ?_) fun _ => .pure ⟨h.out, h.pos, h.pen⟩
  -- the cell re-typed is a cell of the row, in whichever column it is found
  extract_lets jp
  have hjp : ∀ c : Nat, MPred (fun res => O res.1 ∧ B res.2.1 ∧ A res.2.2) (jp ⟨row, c⟩) := fun c =>
    .bind MPred.eq_ok fun endCell he =>
      have hc := hr.get (getM_eq_ok.mp he)
      .ite (fun _ => .bind (contentsBytes_ret endCell) fun _ hbs => .pure
        ⟨K.app (K.app (hout _) (ite_fst_bytes (writeEscapeCodeDiff_bytes _ _) Bytes.nil)) hbs, hc.2.1, pen_all _ hc.1⟩)
        fun _ => .pure ⟨hout _, (K.run hc.2.2).2, h.pen⟩
  exact .ite (fun _ => .bind_any _ fun c2 => hjp c2) fun _ => hjp _

/-- **`Row::write_contents_diff`**, any window, any previous line: as `wcf_all` -/
theorem wcd_all (K : Kept row A B E O) (hO : O []) (h0 : B ⟨row, 0⟩) {r : Row} (hr : RowOk row A B E r) (prev : Row)
    (start width : Nat) (w pw : Bool) {pp : Pos} (hpp : B pp) {pa : Attrs} (hpa : A pa) :
    MPred (fun res => O res.1 ∧ B res.2.1 ∧ A res.2.2) (r.writeContentsDiff prev start width row w pw pp pa) :=
  .bind (diffStart_all K hO h0 hr prev start w pw hpp hpa) fun _ h1 =>
    .bind (foldlM_pred _ _ (fun _ hq _ hs => diffStep_all K _ _ hs
      (hr.get (List.getElem?_zip_eq_some.mp (mem_window hq)).1)) h1) fun _ h2 =>
      diffEnd_all K hr prev (fmtFinish_all K _ _ h2)

end

theorem kept_bytes (row : Nat) : Kept row (fun _ => True) (fun _ => True) (fun _ _ => True) Bytes :=
  ⟨Bytes.append, fun _ => ⟨trivial, trivial⟩⟩

end Vt.Fmt
namespace Vt.C03
open Vt.Fmt (pen_pair)

/-- `diffStart` writes nothing unless its condition for re-typing the first cell holds -/
theorem diffStart_quiet (r prev : Row) (start row : Nat) (w pw : Bool) (pp : Pos) (pa : Attrs)
    (h : ∀ fc pc, r.cells[start]? = some fc → prev.cells[start]? = some pc →
      (w && !pw && fc.eq pc && pp.row + 1 == row && decide (pp.col ≥ r.cols - if pc.isWide = true then 1 else 0)) = false) :
    Row.diffStart r prev start row w pw pp pa = .ok ⟨false, pp, pa, none, []⟩ := by
  unfold Row.diffStart
  split
  · rename_i fc pc h1 h2
    rw [if_neg (by rw [h fc pc h1 h2]; simp)]; rfl
  · rfl

/-- the closed form of `diffStart` when it re-types the first cell -/
theorem diffStart_eq {r prev : Row} {start : Nat} {fc pc : Cell} (h1 : r.cells[start]? = some fc)
    (h2 : prev.cells[start]? = some pc) (row : Nat) {w pw : Bool} {pp : Pos} (pa : Attrs)
    (hc : (w && !pw && fc.eq pc && pp.row + 1 == row && decide (pp.col ≥ r.cols - if pc.isWide = true then 1 else 0)) = true)
    (hf : CellFine pc) :
    Row.diffStart r prev start row w pw pp pa = .ok ⟨false, ⟨row, 0⟩, fc.attrs, none,
      (if (pa != fc.attrs) = true then fc.attrs.writeEscapeCodeDiff pa else []) ++
        (if (pc.contents.take pc.len).isEmpty = true then [32] else pc.contents.take pc.len) ++ Term.backspace ++
        (if pc.isWide = true then Term.backspace else []) ++
        (if (pc.contents.take pc.len).isEmpty = true then Term.eraseChar 1 else [])⟩ := by
  unfold Row.diffStart
  rw [h1, h2]
  simp only [hc, ↓reduceIte, contentsBytes_ok hf, ok_bind, pure_eq_ok, pen_pair]
  cases (pc.contents.take pc.len).isEmpty <;> rfl

theorem diffEnd_flag_kept (r pr : Row) (row : Nat) (st : Row.FmtSt) (h : r.wrapped = pr.wrapped) :
    Row.diffEnd r pr row st = .ok (st.out, st.prevPos, st.prevAttrs) :=
  if_neg (by rw [h]; cases pr.wrapped <;> simp)

theorem out_ech (w : Bool) (A X : List Nat) : (if (!w) = true then A ++ X else A) = A ++ if w = false then X else [] := by
  cases w <;> simp

/-- the closed form of `diffEnd` when the wrap flags differ; `c` is the column of the line's last character -/
theorem diffEnd_eq (sr pr : Row) (i : Nat) (st : Row.FmtSt)
    (hcond : ((!sr.wrapped && pr.wrapped) || (!pr.wrapped && sr.wrapped)) = true) (hne : 0 < sr.cells.length)
    (c : Nat) (hc : c < sr.cells.length)
    (hce : c = (if (sr.cells[sr.cells.length - 1]'(by omega)).cont = true then sr.cells.length - 2 else sr.cells.length - 1))
    (h2 : (sr.cells[sr.cells.length - 1]'(by omega)).cont = true → 2 ≤ sr.cells.length) (hf : CellFine sr.cells[c]) :
    Row.diffEnd sr pr i st = .ok (
      if sr.cells[c].hasContents = true then
        ((((st.out ++ Term.moveFromTo st.prevPos ⟨i, c⟩) ++ (if sr.wrapped = false then Term.eraseChar 1 else [])) ++
            (if (st.prevAttrs != sr.cells[c].attrs) = true then sr.cells[c].attrs.writeEscapeCodeDiff st.prevAttrs else [])) ++
            sr.cells[c].contents.take sr.cells[c].len,
          ⟨i, c + (if sr.cells[c].wide = true then 2 else 1)⟩, sr.cells[c].attrs)
      else
        ((st.out ++ Term.moveFromTo st.prevPos ⟨i, c⟩) ++ (if sr.wrapped = false then Term.eraseChar 1 else []),
          ⟨i, c⟩, st.prevAttrs)) := by
  unfold Row.diffEnd
  rw [if_pos hcond]
  have hl1 : sr.cells.length - 1 < sr.cells.length := by omega
  simp only [Row.cols, subM_ok (show 1 ≤ sr.cells.length by omega), getM_ok hl1, ok_bind, pure_bind', pen_pair, out_ech,
    Cell.isWide, Cell.isWideContinuation]
  by_cases hcont : (sr.cells[sr.cells.length - 1]'hl1).cont = true
  · rw [if_pos hcont] at hce
    subst hce
    simp only [hcont, ↓reduceIte, subM_ok (h2 hcont), ok_bind, getM_ok hc, contentsBytes_ok hf, pure_eq_ok]
    exact (apply_ite Except.ok _ _ _).symm
  · rw [if_neg hcont] at hce
    subst hce
    simp only [hcont, Bool.false_eq_true, ↓reduceIte, contentsBytes_ok hf, ok_bind, pure_eq_ok]
    exact (apply_ite Except.ok _ _ _).symm

end Vt.C03
