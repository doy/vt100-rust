/-
  Vt.Lemmas.Canvas — the receiving grid during a redraw, and what each emitted piece does to it.

  `Canvas g`: a live grid with the full screen as scroll region and origin mode off — what a new parser
  is, and what every full redraw leaves behind. On it: cursor moves (`goto_eq`) and typing one character.
-/
import Vt.Lemmas.Recv
import Vt.Props.C06
import Vt.Props.C08
import Vt.Props.C05
import Vt.Lemmas.RowInv
namespace Vt.Recv
open Vt

variable (W : Nat → Option Nat) (cb : CbPolicy)

structure Canvas (g : Grid) : Prop where
  rows_pos : 1 ≤ g.size.rows
  cols_pos : 1 ≤ g.size.cols
  rows_u16 : g.size.rows ≤ 65535
  cols_u16 : g.size.cols ≤ 65535
  top : g.scrollTop = 0
  bottom : g.scrollBottom = g.size.rows - 1
  origin : g.originMode = false
  alloc : g.rows.length = g.size.rows
  width : ∀ r ∈ g.rows, r.cells.length = g.size.cols

theorem Canvas.of_frame {g g' : Grid} (h : Canvas g) (hs : g'.size = g.size) (ht : g'.scrollTop = g.scrollTop)
    (hb : g'.scrollBottom = g.scrollBottom) (ho : g'.originMode = g.originMode) (hl : g'.rows.length = g.rows.length)
    (hw : ∀ r ∈ g'.rows, r.cells.length = g.size.cols) : Canvas g' :=
  ⟨by rw [hs]; exact h.rows_pos, by rw [hs]; exact h.cols_pos, by rw [hs]; exact h.rows_u16, by rw [hs]; exact h.cols_u16,
    by rw [ht]; exact h.top, by rw [hb, hs]; exact h.bottom, by rw [ho]; exact h.origin, by rw [hl, hs]; exact h.alloc,
    by rw [hs]; exact hw⟩

def withPos (g : Grid) (p : Pos) : Grid := { g with pos := p }

theorem setPos_eq {g : Grid} (h : Canvas g) (p : Pos) (hr : p.row < g.size.rows) (hc : p.col < g.size.cols) :
    g.setPos p = .ok (withPos g p) := by
  rw [C06.cup_spec g ⟨h.rows_pos, h.cols_pos⟩]
  simp only [C06.cupPos, h.origin, Bool.false_eq_true, ↓reduceIte, Bool.false_and, withPos]
  have e1 : min p.row (g.size.rows - 1) = p.row := by omega
  have e2 : min p.col (g.size.cols - 1) = p.col := by omega
  rw [e1, e2]

theorem Canvas.lf {g : Grid} (h : Canvas g) (c : Nat) (hrow : g.pos.row + 1 < g.size.rows) :
    ({ g with pos := ⟨g.pos.row, c⟩ } : Grid).rowIncScroll 1 = .ok (withPos g ⟨g.pos.row + 1, c⟩, 0) := by
  have hin : ({ g with pos := ⟨g.pos.row, c⟩ } : Grid).inScrollRegion = true := by
    simp [Grid.inScrollRegion, h.top, h.bottom]; omega
  exact C08.lf_inside _ h.rows_pos (by rw [hin]; simp only [↓reduceIte, h.bottom]; omega)
    (by have := h.rows_u16; simp only; omega) (by simp [h.top])

theorem crlf_eq {g : Grid} (h : Canvas g) (hrow : g.pos.row + 1 < g.size.rows) :
    (g.colSet 0 >>= fun g => g.rowIncScroll 1 >>= fun q => pure q.1) = .ok (withPos g ⟨g.pos.row + 1, 0⟩) := by
  rw [C06.cr_spec g ⟨h.rows_pos, h.cols_pos⟩, ok_bind, h.lf 0 hrow]
  rfl

theorem cuf_eq {g : Grid} (h : Canvas g) (n : Nat) (hn : g.pos.col + n < g.size.cols) :
    g.colIncClamp n = .ok (withPos g ⟨g.pos.row, g.pos.col + n⟩) := by
  rw [C06.cuf_spec g ⟨h.rows_pos, h.cols_pos⟩]
  have := h.cols_u16
  have e : min (min (g.pos.col + n) 65535) (g.size.cols - 1) = g.pos.col + n := by omega
  rw [e]; rfl

/-- what `Term.moveFromTo frm to` does to the receiver: the function the bytes stand for -/
def gotoF (frm to : Pos) (r : RS) : M RS :=
  if to.row == frm.row + 1 && to.col == 0 then
    (r.g.colSet 0 >>= fun g => g.rowIncScroll 1 >>= fun q => pure q.1) >>= fun g' => pure { r with g := g' }
  else if frm.row == to.row && frm.col < to.col then
    (if to.col - frm.col = 0 then pure r.g else r.g.colIncClamp (to.col - frm.col)) >>= fun g' => pure { r with g := g' }
  else if to != frm then r.g.setPos to >>= fun g' => pure { r with g := g' }
  else pure r

theorem step_moveFromTo (frm to : Pos) (hr : to.row + 1 ≤ 65535) (hc : to.col + 1 ≤ 65535) :
    Step W cb (Term.moveFromTo frm to) (gotoF frm to) := by
  unfold Term.moveFromTo gotoF
  split
  · exact step_crlf W cb
  · split
    · exact step_moveRight W cb _ (by omega)
    · split
      · exact step_moveTo W cb to hr hc
      · exact step_nil W cb

/-- **goto**: with the cursor at `frm` (any column up to the pending-wrap one) and `to` on the screen,
`MoveFromTo` (term.rs) leaves the cursor at `to`; nothing else changes -/
theorem goto_eq {r : RS} (h : Canvas r.g) (frm to : Pos) (hfrm : r.g.pos = frm)
    (hto_r : to.row < r.g.size.rows) (hto_c : to.col < r.g.size.cols) :
    gotoF frm to r = .ok { r with g := withPos r.g to } := by
  unfold gotoF
  by_cases h1 : (to.row == frm.row + 1 && to.col == 0) = true
  · simp only [h1, ↓reduceIte]
    simp only [Bool.and_eq_true, beq_iff_eq] at h1
    rw [crlf_eq h (by rw [hfrm]; omega)]
    simp only [ok_bind, pure_eq_ok, Except.ok.injEq, hfrm]
    obtain ⟨tr, tc⟩ := to
    simp only at h1
    simp [h1.1, h1.2]
  · simp only [h1, Bool.false_eq_true, ↓reduceIte]
    by_cases h2 : (frm.row == to.row && decide (frm.col < to.col)) = true
    · simp only [h2, ↓reduceIte]
      simp only [Bool.and_eq_true, beq_iff_eq, decide_eq_true_eq] at h2
      have hne : ¬ to.col - frm.col = 0 := by omega
      simp only [hne, ↓reduceIte]
      rw [cuf_eq h _ (by rw [hfrm]; omega)]
      simp only [ok_bind, pure_eq_ok, Except.ok.injEq, hfrm]
      obtain ⟨tr, tc⟩ := to
      simp only at h2
      have : frm.col + (tc - frm.col) = tc := by omega
      simp [h2.1, this]
    · simp only [h2, Bool.false_eq_true, ↓reduceIte]
      by_cases h3 : (to != frm) = true
      · simp only [h3, ↓reduceIte]
        rw [setPos_eq h to hto_r hto_c]
        rfl
      · simp only [h3, Bool.false_eq_true, ↓reduceIte, pure_eq_ok, Except.ok.injEq]
        have : to = frm := by simpa using h3
        rw [this, ← hfrm]
        rfl

def typed (g : Grid) (row : Row) (cells : List Cell) (c' : Nat) : Grid :=
  { g with rows := g.rows.set g.pos.row { row with cells := cells }, pos := ⟨g.pos.row, c'⟩ }

/-- the second half written after a wide character -/
def contCell (c : Cell) : Cell := (c.clear Attrs.default).setWideContinuation true

theorem type_narrow {g : Grid} (hu : g.size.cols ≤ 65535) (a : Attrs) (c : Nat) (row : Row) (cell : Cell)
    (hw : (W c).getD 1 = 1) (hnc : ¬ (W c = none ∧ c < 256))
    (hcol : g.pos.col + 1 ≤ g.size.cols) (hrow : g.rows[g.pos.row]? = some row)
    (hcell : row.cells[g.pos.col]? = some cell) (hcw : cell.wide = false) (hcc : cell.cont = false) :
    ∃ cell', cell.set W c a = .ok cell' ∧
      g.text W a c = .ok (typed g row (row.cells.set g.pos.col cell') (g.pos.col + 1)) := by
  obtain ⟨cell', e1, e2⟩ := C05.text_narrow_fits W g a c row cell hw hnc hcol hrow hcell hcw hcc
  refine ⟨cell', e1, ?_⟩
  rw [e2]
  have : min (g.pos.col + 1) 65535 = g.pos.col + 1 := by omega
  simp [typed, this]

theorem type_wide {g : Grid} (hu : g.size.cols ≤ 65535) (a : Attrs) (c w : Nat) (row : Row) (cell0 cell1 : Cell)
    (hw : min ((W c).getD 1) 2 = w) (hw2 : 2 ≤ w) (hnc : ¬ (W c = none ∧ c < 256))
    (hcol : g.pos.col + w ≤ g.size.cols) (hrow : g.rows[g.pos.row]? = some row)
    (hcell0 : row.cells[g.pos.col]? = some cell0) (h0w : cell0.wide = false) (h0c : cell0.cont = false)
    (hcell1 : row.cells[g.pos.col + 1]? = some cell1) (h1w : cell1.wide = false) :
    ∃ cell', cell0.set W c a = .ok cell' ∧
      g.text W a c = .ok (typed g row ((row.cells.set g.pos.col cell').set (g.pos.col + 1) (contCell cell1))
        (g.pos.col + 2)) := by
  refine ⟨_, Cell.set_eq W cell0 c a, ?_⟩
  have hi0 := getElem?_lt hcell0
  have hi1 := getElem?_lt hcell1
  obtain rfl : w = 2 := by omega
  rw [C05.text_fits W hu a c 2 row _ hw (by omega) hnc hcol hrow (by
    simp only [Grid.textWideRow, getM, hcell0, ok_bind, Cell.isWideContinuation, h0c, Bool.false_eq_true, ↓reduceIte,
      pure_bind', Cell.isWide, h0w, modifyM, Cell.set_eq, show (2 > 1) by omega,
      List.getElem?_set, hi0, hcell1, show ¬ (g.pos.col = g.pos.col + 1) by omega, h1w]
    rfl)]
  rfl

/-- `t`: the cell before the cursor, or the first half when that cell is the second half of a wide character -/
theorem type_zero {g : Grid} (a : Attrs) (z : Nat) (row : Row) (prev tc tc' : Cell) (t : Nat)
    (hw : W z = some 0) (hcol0 : 0 < g.pos.col) (hcol : g.pos.col ≤ g.size.cols)
    (hrow : g.rows[g.pos.row]? = some row) (hprev : row.cells[g.pos.col - 1]? = some prev)
    (ht : t = if prev.cont then g.pos.col - 2 else g.pos.col - 1) (h2 : prev.cont = true → 2 ≤ g.pos.col)
    (htc : row.cells[t]? = some tc) (happ : tc.append z = .ok tc') :
    g.text W a z = .ok { g with rows := g.rows.set g.pos.row { row with cells := row.cells.set t tc' } } := by
  have hw' : C05.effWidth W z = 0 := by simp [C05.effWidth, hw]
  rw [C05.text_of_fits g a z (by simp [hw]) (by rw [hw']; exact hcol), hw']
  simp only [beq_self_eq_true, ↓reduceIte, Grid.textZero, hcol0, Grid.appendToPrev, Grid.drawingCellM, Grid.drawingCell,
    Grid.drawingRow, hrow, Option.bind_some, Row.get, hprev, Cell.isWideContinuation, pure_bind']
  by_cases hc : prev.cont = true
  · have h2' := h2 hc
    simp only [hc, ↓reduceIte] at ht ⊢
    subst ht
    have e : g.pos.col - 1 - 1 = g.pos.col - 2 := by omega
    simp only [subM_ok (show 1 ≤ g.pos.col - 1 by omega), ok_bind, Grid.modifyCellM, modifyM, hrow, e, htc, happ,
      pure_eq_ok]
  · have hc' : prev.cont = false := by simpa using hc
    simp only [hc', Bool.false_eq_true, ↓reduceIte] at ht ⊢
    subst ht
    simp only [Grid.modifyCellM, modifyM, hrow, htc, happ, ok_bind, pure_eq_ok]

def wrapNext (g : Grid) (row : Row) : Grid :=
  { g with rows := g.rows.set g.pos.row (row.wrap true), pos := ⟨g.pos.row + 1, 0⟩ }

/-- a character typed where it does not fit (the pending-wrap column; for a wide character also the last column):
the wrap happens first, flagging the line -/
theorem text_wraps_gen {g : Grid} (h : Canvas g) (a : Attrs) (c w : Nat) (row : Row) (last : Cell)
    (hw : min ((W c).getD 1) 2 = w) (hwc : w ≤ g.size.cols) (hnc : ¬ (W c = none ∧ c < 256))
    (hlim : g.pos.col > g.size.cols - w) (hrow : g.rows[g.pos.row]? = some row) (hnext : g.pos.row + 1 < g.size.rows)
    (hlast : row.cells[g.size.cols - 1]? = some last) (hocc : (last.hasContents || last.cont) = true) :
    g.text W a c = (wrapNext g row).text W a c := by
  have hw' : C05.effWidth W c = w := hw
  have hdec : g.wrapDecision w = .ok true := by
    simp only [Grid.wrapDecision, subM_ok hwc, ok_bind, hlim, ↓reduceIte, subM_ok h.cols_pos,
      drawingCellM_of _ hrow hlast, Cell.isWideContinuation, pure_eq_ok, Except.ok.injEq]
    exact hocc
  have hcw : g.colWrap w true = .ok (wrapNext g row) := by
    simp only [Grid.colWrap, subM_ok hwc, ok_bind, hlim, ↓reduceIte]
    have : ({ g with pos := { g.pos with col := 0 } } : Grid) = { g with pos := ⟨g.pos.row, 0⟩ } := rfl
    rw [this, h.lf 0 hnext]
    simp only [withPos, ok_bind, Nat.lt_irrefl, gt_iff_lt, decide_false, Bool.false_and, Bool.false_eq_true, ↓reduceIte,
      subM_ok (Nat.zero_le _), Nat.sub_zero, modifyM, hrow, pure_eq_ok, beq_self_eq_true, Bool.and_self]
    rfl
  rw [C05.text_eq g a c hnc (by rw [hw']; exact hwc), hw', hdec, ok_bind, hcw, ok_bind,
    C05.text_of_fits (wrapNext g row) a c hnc (by rw [hw']; show 0 + w ≤ g.size.cols; omega), hw']

theorem text_wraps {g : Grid} (h : Canvas g) (a : Attrs) (c w : Nat) (row : Row) (last : Cell)
    (hw : min ((W c).getD 1) 2 = w) (hw1 : 1 ≤ w) (hwc : w ≤ g.size.cols) (hnc : ¬ (W c = none ∧ c < 256))
    (hcol : g.pos.col = g.size.cols) (hrow : g.rows[g.pos.row]? = some row) (hnext : g.pos.row + 1 < g.size.rows)
    (hlast : row.cells[g.size.cols - 1]? = some last) (hocc : (last.hasContents || last.cont) = true) :
    g.text W a c = (wrapNext g row).text W a c :=
  text_wraps_gen W h a c w row last hw hwc hnc (by omega) hrow hnext hlast hocc

end Vt.Recv
