/-
  Vt.Lemmas.Modes — the parameters of DECSET / DECRST (`CSI ? … h` / `CSI ? … l`).

  `Screen::decset` / `decrst` match one parameter against twelve numbers (`handledParam`, `handledParam_cases`): off the
  table the answer is `none` (`decsetOne_unhandled`, `decrstOne_unhandled`), on it an arm that does not fail answers
  `some`.
  Nine of the twelve only assign one of the six terminal modes (`C10.Modes`, `modeParam`): their arms cannot fail and
  are the effect tables `setEff` / `rstEff` written back into the screen (`decsetOne_flag`, `decrstOne_flag`); the other
  three are origin mode (6) and the alternate screen (47, 1049) (`paramKind_cases`).
-/
import Vt.Model.Screen
import Vt.Lemmas.Except
namespace Vt

namespace C10

def handledParam (p : List Nat) : Bool :=
  p == [1] || p == [6] || p == [9] || p == [25] || p == [47] || p == [1000] || p == [1002] ||
    p == [1003] || p == [1005] || p == [1006] || p == [1049] || p == [2004]

theorem handledParam_cases {motive : List Nat → Prop}
    (h1 : motive [1]) (h6 : motive [6]) (h9 : motive [9]) (h25 : motive [25]) (h47 : motive [47])
    (h1000 : motive [1000]) (h1002 : motive [1002]) (h1003 : motive [1003]) (h1005 : motive [1005])
    (h1006 : motive [1006]) (h1049 : motive [1049]) (h2004 : motive [2004])
    (other : ∀ p, handledParam p = false → motive p) (p : List Nat) : motive p := by
  cases h : handledParam p with
  | false => exact other p h
  | true =>
    simp only [handledParam, Bool.or_eq_true, beq_iff_eq, or_assoc] at h
    rcases h with rfl | rfl | rfl | rfl | rfl | rfl | rfl | rfl | rfl | rfl | rfl | rfl <;> assumption

end C10

namespace Screen
open C10 (handledParam)

theorem decsetOne_unhandled (s : Screen) (p : List Nat) (h : handledParam p = false) : s.decsetOne p = .ok none := by
  unfold decsetOne
  split <;> first | rfl | cases h

theorem decrstOne_unhandled (s : Screen) (p : List Nat) (h : handledParam p = false) : s.decrstOne p = .ok none := by
  unfold decrstOne
  split <;> first | rfl | cases h

theorem some_of_bind_some {α} {m : M α} {r : Option α} (h : (m >>= fun a => pure (some a)) = .ok r) :
    ∃ a, r = some a := by
  obtain ⟨a, _, h2⟩ := bind_eq_ok.mp h
  cases h2; exact ⟨a, rfl⟩

theorem decsetOne_some (s : Screen) {p : List Nat} (h : handledParam p = true) {r : Option Screen}
    (hr : s.decsetOne p = .ok r) : ∃ s', r = some s' := by
  induction p using C10.handledParam_cases with
  | h6 | h47 => exact some_of_bind_some hr
  | h1049 =>
    obtain ⟨_, _, h2⟩ := bind_eq_ok.mp hr
    obtain ⟨_, _, h3⟩ := bind_eq_ok.mp h2
    exact some_of_bind_some h3
  | other p hp => rw [hp] at h; cases h
  | _ => cases hr; exact ⟨_, rfl⟩

theorem decrstOne_some (s : Screen) {p : List Nat} (h : handledParam p = true) {r : Option Screen}
    (hr : s.decrstOne p = .ok r) : ∃ s', r = some s' := by
  induction p using C10.handledParam_cases with
  | h6 | h1049 => exact some_of_bind_some hr
  | other p hp => rw [hp] at h; cases h
  | _ => cases hr; exact ⟨_, rfl⟩

end Screen

namespace C10

/-- the six mode components of a screen; `C10.InputModes` (Props/C10) is these without `hideCursor` -/
structure Modes where
  appKeypad : Bool
  appCursor : Bool
  hideCursor : Bool
  bracketedPaste : Bool
  mouseMode : MouseMode
  mouseEnc : MouseEnc
  deriving DecidableEq, Repr

def modesOf (s : Screen) : Modes :=
  ⟨s.appKeypad, s.appCursor, s.hideCursor, s.bracketedPaste, s.mouseMode, s.mouseEnc⟩

def setEff (p : List Nat) (m : Modes) : Modes :=
  match p with
  | [1] => { m with appCursor := true }
  | [9] => { m with mouseMode := .press }
  | [25] => { m with hideCursor := false }
  | [1000] => { m with mouseMode := .pressRelease }
  | [1002] => { m with mouseMode := .buttonMotion }
  | [1003] => { m with mouseMode := .anyMotion }
  | [1005] => { m with mouseEnc := .utf8 }
  | [1006] => { m with mouseEnc := .sgr }
  | [2004] => { m with bracketedPaste := true }
  | _ => m

def clrMode (m : Modes) (x : MouseMode) : Modes := if m.mouseMode = x then { m with mouseMode := .none } else m
def clrEnc (m : Modes) (x : MouseEnc) : Modes := if m.mouseEnc = x then { m with mouseEnc := .default } else m

def rstEff (p : List Nat) (m : Modes) : Modes :=
  match p with
  | [1] => { m with appCursor := false }
  | [9] => clrMode m .press
  | [25] => { m with hideCursor := true }
  | [1000] => clrMode m .pressRelease
  | [1002] => clrMode m .buttonMotion
  | [1003] => clrMode m .anyMotion
  | [1005] => clrEnc m .utf8
  | [1006] => clrEnc m .sgr
  | [2004] => { m with bracketedPaste := false }
  | _ => m

def modeParam (p : List Nat) : Bool :=
  p == [1] || p == [9] || p == [25] || p == [1000] || p == [1002] || p == [1003] || p == [1005] ||
    p == [1006] || p == [2004]

theorem modeParam_cases {motive : List Nat → Prop}
    (h1 : motive [1]) (h9 : motive [9]) (h25 : motive [25]) (h1000 : motive [1000]) (h1002 : motive [1002])
    (h1003 : motive [1003]) (h1005 : motive [1005]) (h1006 : motive [1006]) (h2004 : motive [2004])
    (other : ∀ p, modeParam p = false → motive p) (p : List Nat) : motive p := by
  cases h : modeParam p with
  | false => exact other p h
  | true =>
    simp only [modeParam, Bool.or_eq_true, beq_iff_eq, or_assoc] at h
    rcases h with rfl | rfl | rfl | rfl | rfl | rfl | rfl | rfl | rfl <;> assumption

theorem modeParam_ne {p : List Nat} (h : modeParam p = false) (q : List Nat) (hq : modeParam q = true) :
    p ≠ q := by
  rintro rfl
  rw [h] at hq
  cases hq

theorem setEff_other (p : List Nat) (h : modeParam p = false) (m : Modes) : setEff p m = m := by
  unfold setEff
  split <;> first | cases h | rfl

theorem rstEff_other (p : List Nat) (h : modeParam p = false) (m : Modes) : rstEff p m = m := by
  unfold rstEff
  split <;> first | cases h | rfl

theorem handled_of_modeParam (p : List Nat) (h : handledParam p = false) : modeParam p = false := by
  induction p using modeParam_cases with
  | other p h' => exact h'
  | _ => cases h

end C10

namespace Screen
open C10

def setModes (s : Screen) (m : Modes) : Screen :=
  { s with appKeypad := m.appKeypad, appCursor := m.appCursor, hideCursor := m.hideCursor,
           bracketedPaste := m.bracketedPaste, mouseMode := m.mouseMode, mouseEnc := m.mouseEnc }

theorem clearMouseMode_set (s : Screen) (x : MouseMode) : s.clearMouseMode x = s.setModes (clrMode (modesOf s) x) := by
  unfold clearMouseMode clrMode
  by_cases h : s.mouseMode = x <;> simp [h, modesOf, setModes]

theorem clearMouseEnc_set (s : Screen) (x : MouseEnc) : s.clearMouseEnc x = s.setModes (clrEnc (modesOf s) x) := by
  unfold clearMouseEnc clrEnc
  by_cases h : s.mouseEnc = x <;> simp [h, modesOf, setModes]

theorem decsetOne_flag (s : Screen) {p : List Nat} (h : modeParam p = true) :
    s.decsetOne p = .ok (some (s.setModes (setEff p (modesOf s)))) := by
  induction p using modeParam_cases with
  | other p h' => rw [h'] at h; cases h
  | _ => rfl

theorem decrstOne_flag (s : Screen) {p : List Nat} (h : modeParam p = true) :
    s.decrstOne p = .ok (some (s.setModes (rstEff p (modesOf s)))) := by
  induction p using modeParam_cases with
  | other p h' => rw [h'] at h; cases h
  | h9 | h1000 | h1002 | h1003 => exact congrArg (fun x => Except.ok (some x)) (clearMouseMode_set s _)
  | h1005 | h1006 => exact congrArg (fun x => Except.ok (some x)) (clearMouseEnc_set s _)
  | _ => rfl

end Screen

namespace C10

theorem paramKind_cases {motive : List Nat → Prop} (flag : ∀ p, modeParam p = true → motive p)
    (h6 : motive [6]) (h47 : motive [47]) (h1049 : motive [1049])
    (other : ∀ p, handledParam p = false → motive p) (p : List Nat) : motive p := by
  induction p using handledParam_cases with
  | h6 => exact h6
  | h47 => exact h47
  | h1049 => exact h1049
  | other p h => exact other p h
  | _ => exact flag _ rfl

end C10
end Vt
