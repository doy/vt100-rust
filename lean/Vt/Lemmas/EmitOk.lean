/-
  Vt.Lemmas.EmitOk — what `cellOk` + `cellEmitOk` say about a cell that holds text, in the form the
  redraw proofs use (`TextCell`).
-/
import Vt.Spec.EmitOk
import Vt.Lemmas.TypeCell
namespace Vt.Recv
open Vt Vt.C19

/-- assumed of `unicode_width::UnicodeWidthChar::width` (bin/check tests it on the table the harness dumps from the crate) -/
structure WOk (W : Nat → Option Nat) : Prop where
  space : W 32 = some 1
  c0 : ∀ c, c < 0x20 → W c = none
  c1 : ∀ c, 0x7F ≤ c → c < 0xA0 → W c = none
  repl : W 0xFFFD ≠ some 0

theorem prefixOk_of_B : ∀ (n : Nat) (zs : List Nat), prefixOkB n zs = true → prefixOk n zs
  | _, [], _ => trivial
  | n, z :: zs, h => by
    simp only [prefixOkB, Bool.and_eq_true, decide_eq_true_eq] at h
    exact ⟨h.1, prefixOk_of_B _ zs h.2⟩

theorem ascii_byte_is_char (bs : List Nat) (h : (Utf8.fromUtf8 bs).err = none) (b : Nat) (hb : b ∈ bs) (h7 : b < 0x80) :
    b ∈ (Utf8.fromUtf8 bs).chars := by
  rw [← decode_encode bs h] at hb
  obtain ⟨c, hc, hbc⟩ := List.mem_flatMap.mp hb
  rcases (Utf8.Enc.of_scalar (Utf8.fromUtf8_chars_scalar bs c hc)).bytes with ⟨_, e⟩ | ⟨_, _, hx⟩
  · rw [e] at hbc; exact List.mem_singleton.mp hbc ▸ hc
  · have := hx b hbc; omega

structure TextCell (W : Nat → Option Nat) (cols col : Nat) (c : Cell) (f : Nat) (zs : List Nat) : Prop where
  chars : (Utf8.fromUtf8 (c.contents.take c.len)).chars = f :: zs
  valid : (Utf8.fromUtf8 (c.contents.take c.len)).err = none
  bytes : c.contents.take c.len = Utf8.encode f ++ zs.flatMap Utf8.encode
  plain : ∀ x ∈ f :: zs, Plain x
  noesc : ∀ b ∈ c.contents.take c.len, b ≠ 0x1B
  first : ¬ (W f = none ∧ f < 256)
  width : 1 ≤ (W f).getD 1
  wide : c.wide = decide ((W f).getD 1 > 1)
  cont : c.cont = false
  fits : col + min ((W f).getD 1) 2 ≤ cols
  zero : ∀ z ∈ zs, W z = some 0
  pre : prefixOk (Utf8.encode f).length zs
  view : view c = typedView W c.attrs f zs

theorem TextCell.eff {W : Nat → Option Nat} {cols col : Nat} {c : Cell} {f : Nat} {zs : List Nat}
    (ht : TextCell W cols col c f zs) : min ((W f).getD 1) 2 = if c.wide then 2 else 1 := by
  have h1 := ht.width
  rw [ht.wide]
  by_cases h : (W f).getD 1 > 1 <;> simp [h] <;> omega

theorem textCell_of {W : Nat → Option Nat} (hW : WOk W) {cols col : Nat} {c : Cell} (hok : cellOk W c = true)
    (hem : cellEmitOk W cols col c = true) (hh : c.hasContents = true) :
    ∃ f zs, TextCell W cols col c f zs := by
  have hlen : c.len ≠ 0 := by simp [Cell.hasContents] at hh; omega
  obtain ⟨h22, hl22, -⟩ := cellOk_fields W hok
  have hvalid := cellOk_valid W hok
  have hlen' : (c.len == 0) = false := by rw [beq_eq_false_iff_ne]; exact hlen
  simp only [cellEmitOk, Bool.and_eq_true, hlen', Bool.false_eq_true, ↓reduceIte] at hem
  obtain ⟨_, hem⟩ := hem
  cases hcs : (Utf8.fromUtf8 (c.contents.take c.len)).chars with
  | nil => rw [hcs] at hem; simp at hem
  | cons f zs =>
    rw [hcs] at hem
    simp only [Bool.and_eq_true, bne_iff_ne, ne_eq, decide_eq_true_eq] at hem
    obtain ⟨⟨hffd, hfit⟩, hpre⟩ := hem
    obtain ⟨hf, hwide, hzs⟩ := cellOk_chars W hok hcs
    have hcont' : c.cont = false := by
      cases hc : c.cont
      · rfl
      · exact absurd (cellOk_cont W c hok hc).2 hlen
    have hb : c.contents.take c.len = Utf8.encode f ++ zs.flatMap Utf8.encode := by
      have hde := decode_encode _ hvalid
      rw [hcs] at hde
      rw [← hde]; simp [List.flatMap_cons]
    have hfirst : ¬ (W f = none ∧ f < 256) := by
      rintro ⟨h1, h2⟩
      rcases hf with rfl | ⟨_, h3⟩
      · rw [hW.space] at h1; simp at h1
      · rcases h3 with h3 | h3
        · exact h3 h1
        · omega
    have hf20 : 0x20 ≤ f := by
      rcases Nat.lt_or_ge f 0x20 with h | h
      · exact absurd ⟨hW.c0 f h, by omega⟩ hfirst
      · exact h
    have hfc1 : ¬ (0x80 ≤ f ∧ f ≤ 0x9F) := by
      intro h; exact hfirst ⟨hW.c1 f (by omega) (by omega), by omega⟩
    have hzplain : ∀ z ∈ zs, Plain z := by
      intro z hz
      have hz0 := hzs z hz
      refine ⟨?_, ?_, ?_⟩
      · rcases Nat.lt_or_ge z 0x20 with h | h
        · rw [hW.c0 z h] at hz0; simp at hz0
        · exact h
      · intro h; rw [hW.c1 z (by omega) (by omega)] at hz0; simp at hz0
      · intro h; subst h; exact hW.repl hz0
    have hw1 : 1 ≤ (W f).getD 1 := by
      rcases hf with rfl | ⟨h0, _⟩
      · rw [hW.space]; simp
      · cases hWf : W f with
        | none => simp
        | some w => simp only [Option.getD_some]; rw [hWf] at h0; simp at h0; omega
    refine ⟨f, zs, hcs, hvalid, hb, ?_, ?_, hfirst, hw1,
      by simpa using hwide, hcont', hfit, hzs, prefixOk_of_B _ _ hpre, ?_⟩
    · intro x hx
      rcases List.mem_cons.mp hx with rfl | hx
      · exact ⟨hf20, hfc1, hffd⟩
      · exact hzplain x hx
    · intro b hb hb'
      subst hb'
      have := ascii_byte_is_char _ hvalid 0x1B hb (by omega)
      rw [hcs] at this
      rcases List.mem_cons.mp this with h | h
      · omega
      · have := (hzplain _ h).1; omega
    · simp only [C19.view, typedView, View.mk.injEq]
      refine ⟨?_, by simpa using hwide, hcont', trivial, hb⟩
      have := congrArg List.length hb
      rw [List.length_take, h22] at this
      omega

end Vt.Recv
