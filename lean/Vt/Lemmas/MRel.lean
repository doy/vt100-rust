/-
  Vt.Lemmas.MRel — two runs of the `M` monad related, and a property of the result of one run.

  `MRel R m1 m2`: both runs return, with results related by `R`, or both fail at the same site.
  `MPred P m`: if the run returns, `P` holds of its result.  Each comes with its rules for `pure`, bind and `if`,
  and with its folds: `foldlM_rel` (two folds over the same items), `foldlM_pred` and `iterateM_pred` (an invariant
  of one fold, of one iteration), `foldlM_sim` (a fold followed by a ghost state), `foldlM_origin` (where a property
  of the end of a run comes from).
  Declared in namespace `Vt.C12` (that of Props/C12c, which is stated with `MRel` throughout); other users open it.
-/
import Vt.Lemmas.Except
namespace Vt.C12
open Vt

def MRel {α β} (R : α → β → Prop) : M α → M β → Prop
  | .ok a, .ok b => R a b
  | .error e, .error e' => e = e'
  | _, _ => False

theorem MRel.pure {α β} {R : α → β → Prop} {a : α} {b : β} (h : R a b) :
    MRel R (pure a : M α) (pure b : M β) := h

theorem MRel.ok {α β} {R : α → β → Prop} {a : α} {b : β} (h : R a b) :
    MRel R (.ok a : M α) (.ok b : M β) := h

theorem MRel.bind {α β γ δ} {R : α → β → Prop} {S : γ → δ → Prop} {m1 : M α} {m2 : M β}
    {f1 : α → M γ} {f2 : β → M δ} (h : MRel R m1 m2) (hf : ∀ a b, R a b → MRel S (f1 a) (f2 b)) :
    MRel S (m1 >>= f1) (m2 >>= f2) := by
  cases m1 with
  | error e1 =>
    cases m2 with
    | error e2 => exact h
    | ok b => exact h.elim
  | ok a =>
    cases m2 with
    | error e2 => exact h.elim
    | ok b => exact hf a b h

theorem MRel.bind_same {α γ δ} {S : γ → δ → Prop} (m : M α)
    {f1 : α → M γ} {f2 : α → M δ} (hf : ∀ a, MRel S (f1 a) (f2 a)) :
    MRel S (m >>= f1) (m >>= f2) := by
  cases m with
  | error e => exact (rfl : e = e)
  | ok a => exact hf a

theorem MRel.refl {α} {R : α → α → Prop} (hR : ∀ a, R a a) (m : M α) : MRel R m m := by
  cases m with
  | error e => exact (rfl : e = e)
  | ok a => exact hR a

theorem MRel.ite {α β} {R : α → β → Prop} {c : Prop} [Decidable c] {a1 b1 : M α} {a2 b2 : M β}
    (h1 : c → MRel R a1 a2) (h2 : ¬c → MRel R b1 b2) :
    MRel R (if c then a1 else b1) (if c then a2 else b2) := by
  by_cases h : c
  · simp only [h, ↓reduceIte]; exact h1 h
  · simp only [h, ↓reduceIte]; exact h2 h

theorem MRel.mono {α β} {R S : α → β → Prop} (hRS : ∀ a b, R a b → S a b) {m1 : M α} {m2 : M β}
    (h : MRel R m1 m2) : MRel S m1 m2 := by
  cases m1 with
  | error e1 => cases m2 with
    | error e2 => exact h
    | ok b => exact h.elim
  | ok a => cases m2 with
    | error e2 => exact h.elim
    | ok b => exact hRS a b h

theorem MRel.iff_map {α γ} (fo : α → γ) (m1 m2 : M α) :
    MRel (fun a b => fo a = fo b) m1 m2 ↔ m1.map fo = m2.map fo := by
  cases m1 with
  | error e1 => cases m2 with
    | error e2 => simp [MRel, Except.map]
    | ok b => simp [MRel, Except.map]
  | ok a => cases m2 with
    | error e2 => simp [MRel, Except.map]
    | ok b => simp [MRel, Except.map]

theorem MRel.eq_iff {α} (m1 m2 : M α) : MRel (fun a b => a = b) m1 m2 ↔ m1 = m2 := by
  cases m1 <;> cases m2 <;> simp [MRel]

theorem foldlM_rel {α β ι} {R : α → β → Prop} {f1 : α → ι → M α} {f2 : β → ι → M β} {ok : ι → Prop}
    (hf : ∀ i a b, ok i → R a b → MRel R (f1 a i) (f2 b i)) :
    ∀ (l : List ι), (∀ i ∈ l, ok i) → ∀ (a : α) (b : β), R a b → MRel R (l.foldlM f1 a) (l.foldlM f2 b)
  | [], _, _, _, h => h
  | i :: l, hok, a, b, h => by
    simp only [List.foldlM]
    exact MRel.bind (hf i a b (hok i List.mem_cons_self) h)
      fun a' b' h' => foldlM_rel hf l (fun j hj => hok j (List.mem_cons_of_mem _ hj)) a' b' h'

def MPred {α} (P : α → Prop) : M α → Prop
  | .ok a => P a
  | .error _ => True

theorem MPred.pure {α} {P : α → Prop} {a : α} (h : P a) : MPred P (pure a : M α) := h
theorem MPred.ok {α} {P : α → Prop} {a : α} (h : P a) : MPred P (.ok a : M α) := h

theorem MPred.bind {α β} {Q : α → Prop} {P : β → Prop} {m : M α} {f : α → M β}
    (h : MPred Q m) (hf : ∀ a, Q a → MPred P (f a)) : MPred P (m >>= f) := by
  cases m with
  | error e => exact True.intro
  | ok a => exact hf a h

theorem MPred.bind_any {α β} {P : β → Prop} (m : M α) {f : α → M β}
    (hf : ∀ a, MPred P (f a)) : MPred P (m >>= f) := by
  cases m with
  | error e => exact True.intro
  | ok a => exact hf a

theorem MPred.ite {α} {P : α → Prop} {c : Prop} [Decidable c] {a b : M α}
    (h1 : c → MPred P a) (h2 : ¬c → MPred P b) : MPred P (if c then a else b) := by
  by_cases h : c
  · simp only [h, ↓reduceIte]; exact h1 h
  · simp only [h, ↓reduceIte]; exact h2 h

theorem MPred.mono {α} {P Q : α → Prop} (hPQ : ∀ a, P a → Q a) {m : M α} (h : MPred P m) : MPred Q m := by
  cases m with
  | error e => exact True.intro
  | ok a => exact hPQ a h

theorem MPred.iff {α} {P : α → Prop} {m : M α} : MPred P m ↔ ∀ a, m = .ok a → P a := by
  cases m with
  | error e => simp [MPred]
  | ok a => simp [MPred]

/-- the value a run returns, for `MPred.bind` where the rest needs the equation -/
theorem MPred.eq_ok {α} {m : M α} : MPred (fun a => m = .ok a) m := by
  cases m <;> first | trivial | rfl

theorem MRel.diag {α} {R : α → α → Prop} {P : α → Prop} (h : ∀ a b, R a b → P b) {m : M α} (hm : MRel R m m) :
    MPred P m := by
  cases m with
  | error e => trivial
  | ok a => exact h a a hm

theorem MRel.and_right {α β} {S : α → β → Prop} {P : β → Prop} {m1 : M α} {m2 : M β} (h : MRel S m1 m2)
    (hp : MPred P m2) : MRel (fun a b => S a b ∧ P b) m1 m2 := by
  cases m1 <;> cases m2 <;> first | exact h | exact ⟨h, hp⟩

theorem iterateM_pred {α} {P : α → Prop} {f : α → M α} (hf : ∀ a, P a → MPred P (f a)) :
    ∀ (n : Nat) (a : α), P a → MPred P (iterateM n f a) := by
  intro n
  induction n with
  | zero => intro a h; exact h
  | succ n ih => intro a h; exact MPred.bind (hf a h) (fun a' h' => ih a' h')

theorem foldlM_sim {σ α ι} {R : σ → α → Prop} {f : α → ι → M α} {g : σ → ι → σ} {ok : ι → Prop}
    (hf : ∀ i x a, ok i → R x a → MPred (R (g x i)) (f a i)) :
    ∀ (l : List ι), (∀ i ∈ l, ok i) → ∀ (x : σ) (a : α), R x a → MPred (R (l.foldl g x)) (l.foldlM f a)
  | [], _, _, _, h => h
  | i :: l, hok, x, a, h => by
    simp only [List.foldlM, List.foldl]
    exact MPred.bind (hf i x a (hok i List.mem_cons_self) h)
      fun a' h' => foldlM_sim hf l (fun j hj => hok j (List.mem_cons_of_mem _ hj)) _ a' h'

theorem foldlM_pred {α ι} {P : α → Prop} {f : α → ι → M α} (l : List ι) (a : α)
    (hf : ∀ i ∈ l, ∀ a, P a → MPred P (f a i)) (h : P a) : MPred P (l.foldlM f a) :=
  foldlM_sim (σ := Unit) (R := fun _ => P) (g := fun _ _ => ()) (ok := (· ∈ l)) (fun i _ a hi => hf i hi a) l
    (fun _ h => h) () a h

/-- where a property `P` of the end of a run comes from: it was there at the start and no item is one that removes it
(`K`), or some item brought it (`E`) and no later one removes it -/
theorem foldlM_origin {α ι} {f : α → ι → M α} {I P : α → Prop} {E : α → ι → Prop} {K ok : ι → Prop}
    (hI : ∀ a i a', ok i → I a → f a i = .ok a' → I a')
    (hstep : ∀ a i a', ok i → I a → f a i = .ok a' → P a' → (¬ K i ∧ P a) ∨ E a i) :
    ∀ (l : List ι) (a a' : α), (∀ i ∈ l, ok i) → I a → l.foldlM f a = .ok a' → P a' →
      (P a ∧ ∀ j ∈ l, ¬ K j) ∨
      ∃ l1 i l2 a1, l = l1 ++ i :: l2 ∧ (∀ j ∈ l2, ¬ K j) ∧ l1.foldlM f a = .ok a1 ∧ E a1 i
  | [], a, a', _, _, h, hp => by cases h; exact Or.inl ⟨hp, fun _ hj => nomatch hj⟩
  | i :: l, a, a', hok, hi, h, hp => by
    simp only [List.foldlM] at h
    obtain ⟨a1, h1, h2⟩ := bind_eq_ok.mp h
    have oki := hok i List.mem_cons_self
    rcases foldlM_origin hI hstep l a1 a' (fun j hj => hok j (List.mem_cons_of_mem _ hj)) (hI a i a1 oki hi h1) h2 hp with
      ⟨hp1, hl⟩ | ⟨l1, j, l2, b, e, hl2, hf, hE⟩
    · rcases hstep a i a1 oki hi h1 hp1 with ⟨hk, hpa⟩ | hE
      · exact Or.inl ⟨hpa, fun j hj => by rcases List.mem_cons.mp hj with rfl | hj; exact hk; exact hl j hj⟩
      · exact Or.inr ⟨[], i, l, a, rfl, hl, rfl, hE⟩
    · exact Or.inr ⟨i :: l1, j, l2, b, by rw [e]; rfl, hl2, by simp only [List.foldlM, h1, ok_bind, hf], hE⟩

end Vt.C12
