/-
  Vt.Lemmas.Tokens — what `vte::Parser::advance` makes of the byte strings the crate itself emits.

  `Tok t acts`: from every Ground state with nothing pending, the bytes `t` produce exactly the actions `acts` and leave the
  automaton in Ground with nothing pending.  Tokens compose (`tok_append`, by `Vte.run_pending`); the tokens are `tok_text`,
  `tok_csi` (the decimal print / parse round trip), `tok_csi_private`, `tok_esc`.  On a ready parser (`C09.Ready`) the bytes
  of a token act as the fold of `perform` over its actions and leave the parser ready (`process_tok`, `process_tok_ok`,
  `process_tok1`).
-/
import Vt.Model.Term
import Vt.Model.Perform
import Vt.Lemmas.VteFeed
import Vt.Lemmas.Process
namespace Vt.Tok

def Tok (t : List Nat) (acts : List Action) : Prop :=
  ∀ v : Vte, v.state = .ground → v.carry = [] →
    (v.advance t).2 = acts ∧ (v.advance t).1.state = .ground ∧ (v.advance t).1.carry = []

theorem tok_nil : Tok [] [] := by
  intro v hg hc
  rw [Vte.advance_eq_run hc]
  exact ⟨rfl, hg, hc⟩

theorem tok_append {t1 t2 : List Nat} {a1 a2 : List Action} (h1 : Tok t1 a1) (h2 : Tok t2 a2) :
    Tok (t1 ++ t2) (a1 ++ a2) := by
  intro v hg hc
  have h1' := h1 v hg hc
  rw [Vte.advance_eq_run hc] at h1' ⊢
  obtain ⟨e1, g1, c1⟩ := h1'
  have h2' := h2 _ g1 c1
  rw [Vte.advance_eq_run c1] at h2'
  obtain ⟨e2, g2, c2⟩ := h2'
  rw [(Vte.run_pending hc t1).append t2, Vte.feed_of_carry c1]
  exact ⟨by rw [e1, e2], g2, c2⟩

/-- a run of complete valid UTF-8 without ESC: one action per character -/
theorem tok_text (bytes : List Nat) (hv : (Utf8.fromUtf8 bytes).err = none) (hesc : ∀ b ∈ bytes, b ≠ 0x1B) :
    Tok bytes (Vte.groundDispatch (Utf8.fromUtf8 bytes).chars) := by
  intro v hg hc
  have := Vte.run_valid hg hesc hv []
  rw [List.append_nil] at this
  rw [Vte.advance_eq_run hc, this]
  exact ⟨List.append_nil _, hg, hc⟩

/-- inside a CSI sequence: intermediates `I` collected, parameters `ps` closed, the open one worth `p`.  In the lemmas
below `32` is `Vte.MAX_PARAMS` and `65535` the value at which `actionParamnext` saturates. -/
structure PS (v : Vte) (I : List Nat) (ps : List Nat) (p : Nat) : Prop where
  st : v.state = .csiEntry ∨ v.state = .csiParam
  ints : v.ints = I
  ign : v.ignoring = false
  params : v.params = ps.map (fun x => [x])
  cur : v.cur = []
  param : v.param = p
  carry : v.carry = []

theorem ps_notFull {v : Vte} {I ps p} (h : PS v I ps p) (hl : ps.length < 32) : v.paramsFull = false := by
  have hsum : ∀ l : List Nat, (List.map List.length (List.map (fun x => [x]) l)).sum = l.length := by
    intro l
    induction l with
    | nil => rfl
    | cons x xs ih => simp only [List.map_cons, List.sum_cons, List.length_cons, List.length_nil, ih]; omega
  simp only [Vte.paramsFull, Vte.paramsLen, h.params, h.cur, Vte.MAX_PARAMS, hsum, List.length_nil, Nat.add_zero]
  rw [beq_eq_false_iff_ne]; omega

theorem c0_false (b : Nat) (h : 0x20 ≤ b) : Vte.isC0Exec b = false := by
  simp [Vte.isC0Exec]; omega

theorem ps_digit {v : Vte} {I ps p} (h : PS v I ps p) (d : Nat) (hd : 48 ≤ d ∧ d ≤ 57) (hl : ps.length < 32)
    (hp : p * 10 + (d - 48) ≤ 65535) :
    (v.changeState d).2 = [] ∧ PS (v.changeState d).1 I ps (p * 10 + (d - 48)) := by
  have hnf := ps_notFull h hl
  have hc0 := c0_false d (by omega)
  have h1 : ¬ (0x20 ≤ d ∧ d ≤ 0x2F) := by omega
  have h2 : (0x30 ≤ d ∧ d ≤ 0x39) := by omega
  -- the saturating arithmetic of `actionParamnext` does not saturate
  have hval : min (min (v.param * 10) 65535 + (d - 48)) 65535 = p * 10 + (d - 48) := by
    rw [h.param]; omega
  -- CsiEntry and CsiParam treat a digit alike
  rcases h.st with hs | hs <;>
    simp only [Vte.changeState, hs, Vte.advanceCsiEntry, Vte.advanceCsiParam, hc0, Bool.false_eq_true, ↓reduceIte,
      Bool.and_eq_true, decide_eq_true_eq, h1, h2, and_self, Vte.actionParamnext, hnf, hval] <;>
    exact ⟨trivial, Or.inr rfl, h.ints, h.ign, h.params, h.cur, rfl, h.carry⟩

theorem ps_semi {v : Vte} {I ps p} (h : PS v I ps p) (hl : ps.length < 32) :
    (v.changeState 0x3B).2 = [] ∧ PS (v.changeState 0x3B).1 I (ps ++ [p]) 0 := by
  have hnf := ps_notFull h hl
  have hstep : v.changeState 0x3B =
      ({ v with state := .csiParam, params := v.params ++ [v.cur ++ [v.param]], cur := [], param := 0 }, []) := by
    rcases h.st with hs | hs <;>
      simp [Vte.changeState, hs, Vte.advanceCsiEntry, Vte.advanceCsiParam, Vte.isC0Exec, Vte.actionParam, hnf,
        Vte.pushParam]
  rw [hstep]
  exact ⟨rfl, Or.inr rfl, h.ints, h.ign, by simp [h.params, h.cur, h.param], rfl, rfl, h.carry⟩

theorem ps_final {v : Vte} {I ps p} (h : PS v I ps p) (f : Nat) (hf : 0x40 ≤ f ∧ f ≤ 0x7E) (hl : ps.length < 32) :
    (v.changeState f).2 = [.csiDispatch ((ps ++ [p]).map (fun x => [x])) I false f] ∧
    (v.changeState f).1.state = .ground ∧ (v.changeState f).1.carry = [] := by
  have hnf := ps_notFull h hl
  have hc0 := c0_false f (by omega)
  have h1 : ¬ (0x20 ≤ f ∧ f ≤ 0x2F) := by omega
  have h2 : ¬ (0x30 ≤ f ∧ f ≤ 0x39) := by omega
  have h3 : ¬ f = 0x3A := by omega
  have h4 : ¬ f = 0x3B := by omega
  have h5 : ¬ (0x3C ≤ f ∧ f ≤ 0x3F) := by omega
  have hdisp : v.actionCsiDispatch f =
      ({ v.finishParams with state := .ground }, [.csiDispatch ((ps ++ [p]).map (fun x => [x])) I false f]) := by
    simp [Vte.actionCsiDispatch, Vte.finishParams, hnf, Vte.pushParam, Vte.paramsIter, h.ints, h.ign, h.params,
      h.cur, h.param]
  rcases h.st with hs | hs <;>
    simp only [Vte.changeState, hs, Vte.advanceCsiEntry, Vte.advanceCsiParam, hc0, Bool.false_eq_true, ↓reduceIte,
      Bool.and_eq_true, decide_eq_true_eq, h1, h2, h3, h4, h5, beq_iff_eq, hf, and_self, hdisp] <;>
    exact ⟨trivial, trivial, (Vte.Edit.finish (b := f)).frame.2.2.2.trans h.carry⟩

theorem ps_ne_ground {v : Vte} {I ps p} (h : PS v I ps p) : v.state ≠ .ground := by
  rcases h.st with hs | hs <;> simp [hs]

theorem run_quiet {v : Vte} (hg : v.state ≠ .ground) {b : Nat} (h : (v.changeState b).2 = []) (rest : List Nat) :
    v.run (b :: rest) = (v.changeState b).1.run rest := by
  rw [Vte.run_nonground hg, h]
  rfl

/-- the decimal digits of `n ≤ 65535` set the open parameter to `n`: `digitsAux` peels the digits off from the
right, the automaton reads them from the left -/
theorem run_digits (I : List Nat) (ps : List Nat) (hl : ps.length < 32) :
    ∀ (fuel n : Nat) (acc : List Nat), n < fuel → n ≤ 65535 → ∀ (v : Vte), PS v I ps 0 → ∀ rest,
      ∃ v', PS v' I ps n ∧ v.run (Term.digitsAux fuel n acc ++ rest) = v'.run (acc ++ rest)
  | 0, _, _, h, _, _, _, _ => absurd h (Nat.not_lt_zero _)
  | fuel + 1, n, acc, hf, hn, v, hv, rest => by
    unfold Term.digitsAux
    split
    · obtain ⟨e, hps⟩ := ps_digit hv (48 + n) (by omega) hl (by omega)
      exact ⟨_, by simpa using hps, run_quiet (ps_ne_ground hv) e _⟩
    · obtain ⟨v1, hv1, e1⟩ := run_digits I ps hl fuel (n / 10) ((48 + n % 10) :: acc) (by omega) (by omega) v hv rest
      obtain ⟨e, hps⟩ := ps_digit hv1 (48 + n % 10) (by omega) hl (by omega)
      have hval : n / 10 * 10 + (48 + n % 10 - 48) = n := by omega
      rw [hval] at hps
      exact ⟨_, hps, e1.trans (run_quiet (ps_ne_ground hv1) e _)⟩

theorem run_number (I : List Nat) (ps : List Nat) (hl : ps.length < 32) (n : Nat) (hn : n ≤ 65535) (v : Vte)
    (hv : PS v I ps 0) (rest : List Nat) : ∃ v', PS v' I ps n ∧ v.run (Term.itoa n ++ rest) = v'.run rest :=
  run_digits I ps hl (n + 1) n [] (Nat.lt_succ_self n) hn v hv rest

/-- `p1 ; p2 ; … ; pk` -/
def paramBytes : List Nat → List Nat
  | [] => []
  | [p] => Term.itoa p
  | p :: q :: ps => Term.itoa p ++ [0x3B] ++ paramBytes (q :: ps)

theorem run_params (I : List Nat) : ∀ (qs : List Nat) (ps : List Nat) (v : Vte), qs ≠ [] →
    (∀ q ∈ qs, q ≤ 65535) → ps.length + qs.length ≤ 32 → PS v I ps 0 → ∀ rest,
      ∃ v', PS v' I (ps ++ qs.dropLast) (qs.getLast?.getD 0) ∧ v.run (paramBytes qs ++ rest) = v'.run rest
  | [], _, _, h, _, _, _, _ => absurd rfl h
  | [q], ps, v, _, hq, hl, hv, rest => by
    obtain ⟨v', hv', e⟩ := run_number I ps (by simp at hl; omega) q (hq q (by simp)) v hv rest
    exact ⟨v', by simpa using hv', e⟩
  | q :: q2 :: qs, ps, v, _, hq, hl, hv, rest => by
    have hl' : ps.length < 32 := by simp at hl; omega
    obtain ⟨v1, hv1, e1⟩ := run_number I ps hl' q (hq q (by simp)) v hv ([0x3B] ++ paramBytes (q2 :: qs) ++ rest)
    obtain ⟨e2, hv2⟩ := ps_semi hv1 hl'
    obtain ⟨v3, hv3, e3⟩ := run_params I (q2 :: qs) (ps ++ [q]) (v1.changeState 0x3B).1 (by simp)
      (fun x hx => hq x (List.mem_cons_of_mem _ hx)) (by simp at hl ⊢; omega) hv2 rest
    refine ⟨v3, ?_, ?_⟩
    · simpa [List.append_assoc] using hv3
    · simp only [paramBytes, List.append_assoc] at e1 ⊢
      rw [e1, List.singleton_append, run_quiet (ps_ne_ground hv1) e2, e3]

/-- the parameter groups vte reports for the decimal parameters `ps` (none written = one `0`) -/
def groups (ps : List Nat) : List (List Nat) := if ps = [] then [[0]] else ps.map (fun x => [x])

theorem run_tail (I : List Nat) (ps : List Nat) (v : Vte) (hv : PS v I [] 0) (hq : ∀ q ∈ ps, q ≤ 65535)
    (hl : ps.length ≤ 32) (f : Nat) (hf : 0x40 ≤ f ∧ f ≤ 0x7E) :
    (v.run (paramBytes ps ++ [f])).2 = [.csiDispatch (groups ps) I false f] ∧
    (v.run (paramBytes ps ++ [f])).1.state = .ground ∧ (v.run (paramBytes ps ++ [f])).1.carry = [] := by
  have fin : ∀ (v' : Vte) (qs : List Nat) (p : Nat), PS v' I qs p → qs.length < 32 →
      (v'.run [f]).2 = [.csiDispatch ((qs ++ [p]).map (fun x => [x])) I false f] ∧
      (v'.run [f]).1.state = .ground ∧ (v'.run [f]).1.carry = [] := by
    intro v' qs p hv' hlq
    obtain ⟨e, g, c⟩ := ps_final hv' f hf hlq
    rw [Vte.run_nonground (ps_ne_ground hv'), Vte.run_nil]
    exact ⟨by rw [e]; rfl, g, c⟩
  by_cases hps : ps = []
  · subst hps
    simpa [paramBytes, groups] using fin v [] 0 hv (by simp)
  · obtain ⟨v', hv', e⟩ := run_params I ps [] v hps hq (by simpa using hl) hv [f]
    rw [e]
    have hne := List.dropLast_concat_getLast hps
    have hlast : ps.getLast?.getD 0 = ps.getLast hps := by
      rw [List.getLast?_eq_some_getLast hps]; rfl
    have := fin v' _ _ hv' (by simp at hl ⊢; have := List.length_pos_iff.mpr hps; omega)
    simp only [List.nil_append, hlast, hne] at this
    simpa [groups, hps] using this

theorem run_csi_intro {v : Vte} (hg : v.state = .ground) (rest : List Nat) :
    v.run (0x1B :: 0x5B :: rest) = ({ v.resetParams with state := .csiEntry } : Vte).run rest := by
  have hstep : ({ v.resetParams with state := VState.escape } : Vte).changeState 0x5B =
      ({ v.resetParams with state := .csiEntry }, []) := by
    simp [Vte.changeState, Vte.advanceEsc, Vte.isC0Exec, Vte.resetParams]
  rw [Vte.run_esc hg, run_quiet (by simp) (by rw [hstep]), hstep]

/-- **`ESC [ p1 ; … ; pk final`** is one `csi_dispatch` with exactly those parameters -/
theorem tok_csi (ps : List Nat) (f : Nat) (hq : ∀ q ∈ ps, q ≤ 65535) (hl : ps.length ≤ 32)
    (hf : 0x40 ≤ f ∧ f ≤ 0x7E) :
    Tok ([0x1B, 0x5B] ++ paramBytes ps ++ [f]) [.csiDispatch (groups ps) [] false f] := by
  intro v hg hc
  have e0 : [0x1B, 0x5B] ++ paramBytes ps ++ [f] = 0x1B :: (0x5B :: (paramBytes ps ++ [f])) := by simp
  have hv : PS ({ v.resetParams with state := .csiEntry } : Vte) [] [] 0 := ⟨Or.inl rfl, rfl, rfl, rfl, rfl, rfl, hc⟩
  rw [e0, Vte.advance_eq_run hc, run_csi_intro hg]
  exact run_tail [] ps _ hv hq hl f hf

/-- **`ESC [ ? p1 ; … ; pk final`** (private marker): one `csi_dispatch` with intermediate `?` -/
theorem tok_csi_private (ps : List Nat) (f : Nat) (hq : ∀ q ∈ ps, q ≤ 65535) (hl : ps.length ≤ 32)
    (hf : 0x40 ≤ f ∧ f ≤ 0x7E) :
    Tok ([0x1B, 0x5B, 0x3F] ++ paramBytes ps ++ [f]) [.csiDispatch (groups ps) [0x3F] false f] := by
  intro v hg hc
  have e0 : [0x1B, 0x5B, 0x3F] ++ paramBytes ps ++ [f] = 0x1B :: (0x5B :: (0x3F :: (paramBytes ps ++ [f]))) := by simp
  have hstep : ({ v.resetParams with state := VState.csiEntry } : Vte).changeState 0x3F =
      ({ v.resetParams with state := .csiParam, ints := [0x3F] }, []) := by
    simp [Vte.changeState, Vte.advanceCsiEntry, Vte.isC0Exec, Vte.resetParams, Vte.actionCollect,
      Vte.MAX_INTERMEDIATES]
  have hv : PS ({ v.resetParams with state := .csiParam, ints := [0x3F] } : Vte) [0x3F] [] 0 :=
    ⟨Or.inr rfl, rfl, rfl, rfl, rfl, rfl, hc⟩
  rw [e0, Vte.advance_eq_run hc, run_csi_intro hg, run_quiet (by simp) (by rw [hstep]), hstep]
  exact run_tail [0x3F] ps _ hv hq hl f hf

/-- **`ESC final`** for a final in the first or third range `advanceEsc` dispatches (the finals the crate emits, `7`,
`8`, `=`, `>`, lie in the first): one `esc_dispatch` -/
theorem tok_esc (f : Nat) (hf : (0x30 ≤ f ∧ f ≤ 0x4F) ∨ (0x51 ≤ f ∧ f ≤ 0x57)) :
    Tok [0x1B, f] [.escDispatch [] false f] := by
  intro v hg hc
  have hc0 := c0_false f (by omega)
  have hstep : ({ v.resetParams with state := VState.escape } : Vte).changeState f =
      ({ v.resetParams with state := .ground }, [.escDispatch [] false f]) := by
    rcases hf with hf | hf
    · have h1 : ¬ (0x20 ≤ f ∧ f ≤ 0x2F) := by omega
      simp [Vte.changeState, Vte.advanceEsc, hc0, h1, hf, Vte.escDispatch, Vte.resetParams]
    · have h1 : ¬ (0x20 ≤ f ∧ f ≤ 0x2F) := by omega
      have h2 : ¬ (0x30 ≤ f ∧ f ≤ 0x4F) := by omega
      have h3 : ¬ f = 0x50 := by omega
      simp [Vte.changeState, Vte.advanceEsc, hc0, h1, h2, h3, hf, Vte.escDispatch, Vte.resetParams]
  rw [Vte.advance_eq_run hc, Vte.run_esc hg, Vte.run_nonground (by simp), hstep, Vte.run_nil]
  exact ⟨rfl, rfl, hc⟩

open Vt.C09
variable {W : Nat → Option Nat} {cb : CbPolicy} {t : List Nat} {acts : List Action}

theorem Tok.ready (ht : Tok t acts) {p : Parser} (hr : Ready p) (ws' : WS) : Ready ⟨(p.vte.advance t).1, ws'⟩ :=
  (ht p.vte hr.1 hr.2).2

theorem process_tok (ht : Tok t acts) {p p' : Parser} (hr : Ready p) :
    p.process W cb t = .ok p' ↔
      ∃ ws', acts.foldlM (perform W cb) p.ws = .ok ws' ∧ p' = ⟨(p.vte.advance t).1, ws'⟩ := by
  rw [C18.process_eq_ok, (ht p.vte hr.1 hr.2).1]

theorem process_tok_ok (ht : Tok t acts) (p : Parser) (hr : Ready p) (ws' : WS)
    (h : acts.foldlM (perform W cb) p.ws = .ok ws') :
    ∃ p', p.process W cb t = .ok p' ∧ p'.ws = ws' ∧ Ready p' :=
  ⟨_, (process_tok ht hr).mpr ⟨ws', h, rfl⟩, rfl, ht.ready hr ws'⟩

theorem process_tok1 {a : Action} (ht : Tok t [a]) (p : Parser) (hr : Ready p) (ws' : WS)
    (h : perform W cb p.ws a = .ok ws') :
    ∃ p', p.process W cb t = .ok p' ∧ p'.ws = ws' ∧ Ready p' :=
  process_tok_ok ht p hr ws' (by rw [List.foldlM_cons, h]; rfl)

end Vt.Tok
