/-
  Vt.Lemmas.GridInv — what it takes for a grid operation to keep the invariant (`RowGood`, `gridInv_rows`, `StepOk`,
  `Total`, `modifyCurrentRow_ok`), and the operations that need no closed form: EL 2, and IL / DL / SU / SD through
  the relation `GScrolled` of Lemmas/Lines (the inductive step of C13, and the totality of C03; the rest is GridTotal).
  Here and in GridTotal / TextInv a grid comes with `GridInv W g true` and `g.rows.length = g.size.rows`: what
  `ScreenInv.cur` gives for the active grid, whichever of the two it is.
-/
import Vt.Lemmas.RowOps
import Vt.Lemmas.Lines
namespace Vt

variable (W : Nat → Option Nat)

def RowGood (cols : Nat) (r : Row) : Prop := r.cells.length = cols ∧ rowOk W r = true

theorem rowGood_cells {cols : Nat} {r : Row} (h : RowGood W cols r) : CellsInv W r.cells :=
  ((rowOk_iff W r).mp h.2).2

theorem rowGood_cols_pos {cols : Nat} {r : Row} (h : RowGood W cols r) : 1 ≤ cols :=
  h.1 ▸ ((rowOk_iff W r).mp h.2).1

theorem rowGood_of {cols : Nat} {r : Row} (hl : r.cells.length = cols) (hc : 1 ≤ cols)
    (hi : CellsInv W r.cells) : RowGood W cols r :=
  ⟨hl, (rowOk_iff W r).mpr ⟨by omega, hi⟩⟩

theorem gridInv_rows {g : Grid} {un : Bool} (h : GridInv W g un) (rows' : List Row)
    (hlen : rows'.length = g.rows.length) (hgood : ∀ r ∈ rows', RowGood W g.size.cols r) :
    GridInv W { g with rows := rows' } un :=
  { h with
    rows_len := by
      rcases h.rows_len with ⟨hu, he⟩ | hl
      · left; refine ⟨hu, ?_⟩
        simp only
        rw [he] at hlen
        exact List.eq_nil_of_length_eq_zero (by simpa using hlen)
      · right; simp only; omega
    row_ok := hgood }

theorem gridInv_setRow {g : Grid} {un : Bool} (h : GridInv W g un) (i : Nat) (r' : Row)
    (hr : RowGood W g.size.cols r') : GridInv W { g with rows := g.rows.set i r' } un := by
  refine gridInv_rows W h _ (by simp) ?_
  exact forall_mem_set h.row_ok hr i

theorem cellsInv_map_clear {cs : List Cell} (a : Attrs) (h : CellsInv W cs) :
    CellsInv W (cs.map (fun c => c.clear a)) := by
  constructor
  · intro x hx
    obtain ⟨c, hc, rfl⟩ := List.mem_map.mp hx
    exact cellOk_clear W c a (h.cells_ok c hc)
  · exact (links_map_noFlags (noFlags_clear a) cs).paired

theorem rowGood_clear {cols : Nat} {r : Row} (a : Attrs) (h : RowGood W cols r) :
    RowGood W cols (r.clear a) :=
  rowGood_of W (by simp [Row.clear, h.1]) (rowGood_cols_pos W h) (cellsInv_map_clear W a (rowGood_cells W h))

theorem rowGood_wrap {cols : Nat} {r : Row} (b : Bool) (h : RowGood W cols r) :
    RowGood W cols (r.wrap b) := by
  simpa [RowGood, Row.wrap, rowOk] using h

/-- size and capacity are kept for the clauses `same_size` and `alt_cap` of `ScreenInv`, which relate the two grids -/
structure StepOk (g g' : Grid) : Prop where
  inv : GridInv W g' true
  len : g'.rows.length = g'.size.rows
  size : g'.size = g.size
  cap : g'.scrollbackLen = g.scrollbackLen

structure GridKeeps (g g' : Grid) : Prop where
  size : g'.size = g.size
  rows_len : g'.rows.length = g.rows.length
  sb_len : g'.scrollbackLen = g.scrollbackLen

def Total (f : Grid → M Grid) (g : Grid) : Prop := ∃ g', f g = .ok g' ∧ StepOk W g g'

theorem stepOk_refl {g : Grid} (h : GridInv W g true) (hl : g.rows.length = g.size.rows) : StepOk W g g :=
  ⟨h, hl, rfl, rfl⟩

theorem stepOk_trans {a b c : Grid} (h1 : StepOk W a b) (h2 : StepOk W b c) : StepOk W a c :=
  ⟨h2.inv, h2.len, h2.size.trans h1.size, h2.cap.trans h1.cap⟩

theorem StepOk.of_eq {W : Nat → Option Nat} {g0 g g' : Grid} (s : StepOk W g0 g') (hs : g0.size = g.size)
    (hc : g0.scrollbackLen = g.scrollbackLen) : StepOk W g g' :=
  ⟨s.inv, s.len, s.size.trans hs, s.cap.trans hc⟩

theorem total_bind {f k : Grid → M Grid} {g : Grid} (h1 : Total W f g)
    (h2 : ∀ g', StepOk W g g' → Total W k g') : Total W (fun g => f g >>= k) g := by
  obtain ⟨g1, e1, s1⟩ := h1
  obtain ⟨g2, e2, s2⟩ := h2 g1 s1
  exact ⟨g2, by simp [e1, e2], stepOk_trans W s1 s2⟩

theorem stepOk_pos {g : Grid} (h : GridInv W g true) (hl : g.rows.length = g.size.rows) (p : Pos)
    (hr : p.row < g.size.rows) (hc : p.col ≤ g.size.cols) : StepOk W g { g with pos := p } :=
  ⟨{ h with pos_row := hr, pos_col := hc }, hl, rfl, rfl⟩

theorem rowGood_map_clear {cols : Nat} {a : Attrs} {l : List Row} (h : ∀ r ∈ l, RowGood W cols r) :
    ∀ r ∈ l.map (fun (r : Row) => r.clear a), RowGood W cols r := by
  intro r hr
  obtain ⟨r0, h0, rfl⟩ := List.mem_map.mp hr
  exact rowGood_clear W a (h r0 h0)

/-- the lines of ED 0 / ED 1 before the cursor line is erased: those below / above it blanked -/
theorem rowGood_clearBelow {cols : Nat} {l : List Row} (h : ∀ r ∈ l, RowGood W cols r) (n : Nat) (a : Attrs) :
    ∀ r ∈ l.take n ++ (l.drop n).map (fun (r : Row) => r.clear a), RowGood W cols r :=
  fun r hr => (List.mem_append.mp hr).elim (fun hr => h r (List.mem_of_mem_take hr))
    (rowGood_map_clear W (fun r hr => h r (List.mem_of_mem_drop hr)) r)

theorem rowGood_clearAbove {cols : Nat} {l : List Row} (h : ∀ r ∈ l, RowGood W cols r) (n : Nat) (a : Attrs) :
    ∀ r ∈ (l.take n).map (fun (r : Row) => r.clear a) ++ l.drop n, RowGood W cols r :=
  fun r hr => (List.mem_append.mp hr).elim (rowGood_map_clear W (fun r hr => h r (List.mem_of_mem_take hr)) r)
    (fun hr => h r (List.mem_of_mem_drop hr))

theorem modifyCurrentRow_ok {g : Grid} (h : GridInv W g true) (hlen : g.rows.length = g.size.rows)
    (f : Row → M Row) (hf : ∀ r, RowGood W g.size.cols r → ∃ r', f r = .ok r' ∧ RowGood W g.size.cols r') :
    ∃ g', g.modifyCurrentRow f = .ok g' ∧ StepOk W g g' ∧ g'.pos = g.pos := by
  have hget := List.getElem?_eq_getElem (show g.pos.row < g.rows.length by rw [hlen]; exact h.pos_row)
  obtain ⟨r', hr', hgood⟩ := hf _ (h.row_ok _ (List.mem_of_getElem? hget))
  refine ⟨{ g with rows := g.rows.set g.pos.row r' }, ?_,
    ⟨gridInv_setRow W h _ _ hgood, by simpa using hlen, rfl, rfl⟩, rfl⟩
  simp [Grid.modifyCurrentRow, modifyM, hget, hr']

/-- EL 2 -/
theorem total_eraseRow {W : Nat → Option Nat} {g : Grid} (h : GridInv W g true)
    (hlen : g.rows.length = g.size.rows) (a : Attrs) : Total W (fun g => g.eraseRow a) g := by
  obtain ⟨g', h1, s, _⟩ := modifyCurrentRow_ok W h hlen
    (fun r => pure (r.clear a)) (fun r hr => ⟨_, rfl, rowGood_clear W a hr⟩)
  exact ⟨g', h1, s⟩

theorem rowGood_new (cols : Nat) (h : 1 ≤ cols) : RowGood W cols (Row.new cols) :=
  rowGood_of W (by simp [Row.new]) h
    (cellsInv_replicate_new W cols)

/-- what IL / DL / SU / SD keep (`GScrolled.linesInv`); it speaks neither of the history, which SU extends, nor of the view
offset, which follows it -/
structure LinesInv (g0 g : Grid) : Prop where
  inv : GridInv W g true
  len : g.rows.length = g.size.rows
  size : g.size = g0.size
  pos : g.pos = g0.pos
  top : g.scrollTop = g0.scrollTop
  bottom : g.scrollBottom = g0.scrollBottom
  cap : g.scrollbackLen = g0.scrollbackLen

/-- the clauses of `LinesInv` -/
structure ScrollInv (g0 g : Grid) : Prop where
  inv : GridInv W g true
  len : g.rows.length = g.size.rows
  size : g.size = g0.size
  pos : g.pos = g0.pos
  top : g.scrollTop = g0.scrollTop
  bottom : g.scrollBottom = g0.scrollBottom
  cap : g.scrollbackLen = g0.scrollbackLen

theorem LinesInv.stepOk {g0 g : Grid} (h : LinesInv W g0 g) : StepOk W g0 g := ⟨h.inv, h.len, h.size, h.cap⟩

/-- the lines of the result are lines of the grid or blank ones, possibly unflagged, and so are the new lines of the history -/
theorem GScrolled.linesInv {g g' : Grid} (h : GridInv W g true) (hl : g.rows.length = g.size.rows) (s : GScrolled g g') :
    LinesInv W g g' := by
  have hgood : ∀ r, LineFrom g.newRow g.rows r → RowGood W g.size.cols r :=
    fun _ => LineFrom.of (rowGood_new W _ h.cols_pos) (fun _ => rowGood_wrap W _) h.row_ok
  have hlen := s.moved.len
  rw [s.frame]
  refine ⟨{ h with
    rows_len := Or.inr (hlen.trans hl)
    row_ok := fun r hr => hgood r (s.moved.mem r hr)
    sb_len := s.sb_len h.sb_len
    sb_off := s.sb_off h.sb_off
    sb_ok := fun r hr => (s.hist r hr).elim (h.sb_ok r) fun d => (hgood r d).2 },
    hlen.trans hl, rfl, rfl, rfl, rfl, rfl⟩

theorem scrollDown_ok {g : Grid} (h : GridInv W g true) (hl : g.rows.length = g.size.rows) (count : Nat) :
    ∃ g', g.scrollDown count = .ok g' ∧ LinesInv W g g' :=
  have e := (scrollDown_iff g _ count).mpr ⟨Or.inr ⟨hl ▸ h.region_lt,
    hl ▸ Nat.lt_of_le_of_lt h.region_le h.region_lt⟩, rfl⟩
  ⟨_, e, (scrollDown_scrolled e).linesInv W h hl⟩

theorem insertLines_ok {g : Grid} (h : GridInv W g true) (hl : g.rows.length = g.size.rows) (count : Nat) :
    ∃ g', g.insertLines count = .ok g' ∧ LinesInv W g g' :=
  have e := (insertLines_iff g _ count).mpr ⟨Or.inr ⟨hl ▸ h.region_lt, hl ▸ h.pos_row⟩, rfl⟩
  ⟨_, e, (insertLines_scrolled e).linesInv W h hl⟩

theorem deleteLines_ok {g : Grid} (h : GridInv W g true) (hl : g.rows.length = g.size.rows) (count : Nat) :
    ∃ g', g.deleteLines count = .ok g' ∧ LinesInv W g g' :=
  have hp : g.pos.row < g.rows.length := hl ▸ h.pos_row
  have e := (deleteLines_iff g _ count).mpr ⟨Nat.le_of_lt h.pos_row, Or.inr ⟨hl ▸ h.region_lt, Nat.le_of_lt hp⟩, rfl⟩
  ⟨_, e, (deleteLines_scrolled hp e).linesInv W h hl⟩

theorem scrollUp_ok {g : Grid} (h : GridInv W g true) (hl : g.rows.length = g.size.rows) (count : Nat) :
    ∃ g', g.scrollUp count = .ok g' ∧ LinesInv W g g' :=
  have ht : g.scrollTop < g.rows.length := hl ▸ Nat.lt_of_le_of_lt h.region_le h.region_lt
  have e := (scrollUp_iff g _ count).mpr ⟨hl ▸ Nat.le_of_lt ht,
    Or.inr ⟨⟨hl ▸ h.region_lt, Nat.le_of_lt ht⟩, fun _ => h.rows_pos⟩, rfl⟩
  ⟨_, e, (scrollUp_scrolled ht e).linesInv W h hl⟩

variable {W}

theorem total_of_eq {f : Grid → M Grid} {g g' : Grid} (he : f g = .ok g') (hs : StepOk W g g') :
    Total W f g := ⟨g', he, hs⟩

theorem GridInv.cell_at {g : Grid} (h : GridInv W g true) (hl : g.rows.length = g.size.rows) {r c : Nat}
    (hr : r < g.size.rows) (hc : c < g.size.cols) :
    ∃ row cell, g.rows[r]? = some row ∧ row.cells[c]? = some cell ∧ RowGood W g.size.cols row := by
  have hrow := List.getElem?_eq_getElem (show r < g.rows.length by omega)
  have hgood := h.row_ok _ (List.mem_of_getElem? hrow)
  exact ⟨_, _, hrow, List.getElem?_eq_getElem (show c < (g.rows[r]).cells.length by rw [hgood.1]; exact hc), hgood⟩

end Vt
