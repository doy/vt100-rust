/-
  Vt.Lemmas.Process — the bridge between the automaton and the screen: `Parser.process` is `Vte.advance`, then the fold
  of `perform` over the actions.
-/
import Vt.Model.Perform
import Vt.Lemmas.Except
namespace Vt.C09

def Ready (p : Parser) : Prop := p.vte.state = .ground ∧ p.vte.carry = []

end Vt.C09

namespace Vt.C04cut

/-- `process` runs `perform` over the chunk's actions from left to right: callback events are appended in stream order
(C18) -/
theorem process_eq (W : Nat → Option Nat) (cb : CbPolicy) (p : Parser) (bytes : List Nat) :
    p.process W cb bytes =
      ((p.vte.advance bytes).2.foldlM (perform W cb) p.ws >>= fun ws =>
        pure { vte := (p.vte.advance bytes).1, ws := ws }) := rfl

end Vt.C04cut

namespace Vt.C18
variable {W : Nat → Option Nat} {cb : CbPolicy} {p p' : Parser} {bytes : List Nat}

theorem process_eq_ok :
    p.process W cb bytes = .ok p' ↔
      ∃ ws', (p.vte.advance bytes).2.foldlM (perform W cb) p.ws = .ok ws' ∧ p' = ⟨(p.vte.advance bytes).1, ws'⟩ := by
  rw [Parser.process, bind_eq_ok]
  exact ⟨fun ⟨ws', h, e⟩ => ⟨ws', h, by cases e; rfl⟩, fun ⟨ws', h, e⟩ => ⟨ws', h, e ▸ rfl⟩⟩

theorem process_actions (h : p.process W cb bytes = .ok p') :
    (p.vte.advance bytes).2.foldlM (perform W cb) p.ws = .ok p'.ws :=
  let ⟨_, h1, e⟩ := process_eq_ok.mp h
  e ▸ h1

end Vt.C18

namespace Vt.C04

theorem process_vte (W : Nat → Option Nat) (cb : CbPolicy) (p p' : Parser) (c : List Nat)
    (e : p.process W cb c = .ok p') : p'.vte = (p.vte.advance c).1 :=
  let ⟨_, _, h⟩ := C18.process_eq_ok.mp e
  h ▸ rfl

end Vt.C04
