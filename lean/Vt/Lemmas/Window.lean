/-
  Vt.Lemmas.Window — what the read accessors share before any of them is looked at: the `(col, cell)` pairs `Row.window`
  visits (`window_enum`, `mem_window`); `CellFine`, the one thing the emitters need of a cell in order not to fail; the
  visible rows of a grid that satisfies `GridInv`; `lastOcc` (what the cursor emitter searches for, and what makes a
  line wrap).
-/
import Vt.Lemmas.GridInv
import Vt.Lemmas.CellInv
namespace Vt.C03

theorem mem_window {α} {l : List α} {start width : Nat} {p : Nat × α} (h : p ∈ Row.window l start width) :
    l[p.1]? = some p.2 := by
  unfold Row.window at h
  have h := List.mem_of_mem_drop (List.mem_of_mem_take h)
  simp only [List.mem_map] at h
  obtain ⟨⟨x, i⟩, hq, rfl⟩ := h
  exact List.mk_mem_zipIdx_iff_getElem?.mp hq

end Vt.C03
namespace Vt.C14

def enumFrom {α} (k : Nat) (l : List α) : List (Nat × α) := (l.zipIdx k).map (fun p => (p.2, p.1))

theorem window_enum {α} (l : List α) (start width : Nat) :
    Row.window l start width = enumFrom start ((l.drop start).take width) := by
  apply List.ext_getElem?
  intro i
  simp only [Row.window, enumFrom, List.getElem?_take, List.getElem?_drop, List.getElem?_map, List.getElem?_zipIdx]
  split
  · cases l[start + i]? <;> simp [Nat.add_comm]
  · rfl

end Vt.C14
namespace Vt.C03

def CellFine (c : Cell) : Prop := Utf8.valid (c.contents.take c.len) = true

theorem cellFine_of_ok {W : Nat → Option Nat} {c : Cell} (h : cellOk W c = true) : CellFine c := by
  simp only [cellOk, Bool.and_eq_true] at h
  exact h.2.1

theorem blank_narrow_of_ok {W : Nat → Option Nat} {c : Cell} (hok : cellOk W c = true) (hh : c.hasContents = false) :
    c.isWide = false :=
  cellOk_empty W hok (by simpa [Cell.hasContents] using hh)

theorem contentsBytes_ok {c : Cell} (h : CellFine c) : c.contentsBytes = .ok (c.contents.take c.len) := by
  unfold CellFine at h
  simp [Cell.contentsBytes, h, pure, Except.pure]

theorem rowFine_of_ok {W : Nat → Option Nat} {r : Row} (h : rowOk W r = true) : ∀ c ∈ r.cells, CellFine c :=
  fun c hc => cellFine_of_ok (((rowOk_iff W r).mp h).2.cells_ok c hc)

/-- `visible_rows()` is total whenever the offset is within the history (an `Inv` clause) -/
theorem visibleRows_total (g : Grid) (h : g.scrollbackOffset ≤ g.scrollback.length) :
    ∃ rs, g.visibleRows = .ok rs := by
  simp [Grid.visibleRows, subM, h]

variable {W : Nat → Option Nat}

theorem visibleRows_good {g : Grid} {un : Bool} (h : GridInv W g un) :
    ∃ v, g.visibleRows = .ok v ∧ ∀ r ∈ v, rowOk W r = true := by
  unfold Grid.visibleRows
  simp only [subM_ok h.sb_off, ok_bind, pure_eq_ok]
  refine ⟨_, rfl, ?_⟩
  intro r hr
  rcases List.mem_append.mp hr with hr | hr
  · exact h.sb_ok r (List.mem_of_mem_drop (List.mem_of_mem_take hr))
  · exact (h.row_ok r (List.mem_of_mem_take hr)).2

/-- what `ScreenInv.cur` gives for the active grid -/
structure Live (W : Nat → Option Nat) (g : Grid) : Prop where
  inv : GridInv W g true
  alloc : g.rows.length = g.size.rows

theorem live_cur {s : Screen} (h : Inv W s) : Live W s.cur :=
  let h' := ((inv_iff W s).mp h).cur
  ⟨h'.1, h'.2⟩

end Vt.C03
namespace Vt.RowDraw

/-- the last column of the line holds something: text, or the second half of a wide character -/
def lastOcc (cells : List Cell) : Prop :=
  ∃ (h : 0 < cells.length), (cells[cells.length - 1]'(by omega)).hasContents = true ∨
    (cells[cells.length - 1]'(by omega)).cont = true

end Vt.RowDraw
