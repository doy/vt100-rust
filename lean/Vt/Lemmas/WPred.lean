/-
  Vt.Lemmas.WPred — steps of the wrapped screen that keep a property of the `Screen`.

  The steps `perform` is put together from (`perform_cases`) — a callback (`emit`), an operation on the
  screen (`WS.onScreen`), a sequence of such steps — keep every property of the screen that their parts keep; an
  operation on the active grid (`Screen.modifyGrid`) keeps what replacing the active grid keeps (`MPred.modifyGrid`).
  `CbSizes`: the callback policies that at most resize, which keep whatever `set_size` keeps.
-/
import Vt.Lemmas.MRel
import Vt.Lemmas.Steps
import Vt.Lemmas.Screen
namespace Vt.C12
open Vt

theorem MPred.modifyGrid {P : Screen → Prop} {s : Screen} {f : Grid → M Grid} {G : Grid → Prop}
    (hf : MPred G (f s.cur)) (h : ∀ g, G g → P (s.setCur g)) : MPred P (s.modifyGrid f) :=
  MPred.iff.mpr fun _ e => let ⟨g, hg, e'⟩ := modifyGrid_eq_ok_iff.mp e; e' ▸ h g (MPred.iff.mp hf g hg)

def WPred (P : Screen → Prop) (f : WS → M WS) : Prop :=
  ∀ ws, P ws.screen → MPred (fun ws' => P ws'.screen) (f ws)

namespace WPred
variable {P : Screen → Prop}

protected theorem pure : WPred P pure := fun _ h => MPred.pure h

theorem emit {cb : CbPolicy} (hcb : ∀ e s, P s → MPred P (cb e s)) (e : Event) : WPred P (emit cb e) :=
  fun _ h => MPred.bind (hcb e _ h) fun _ h' => MPred.pure h'

theorem onScreen {f : Screen → M Screen} (hf : ∀ s, P s → MPred P (f s)) :
    WPred P (fun ws => ws.onScreen f) :=
  fun _ h => MPred.bind (hf _ h) fun _ h' => MPred.pure h'

theorem bind {f g : WS → M WS} (hf : WPred P f) (hg : WPred P g) : WPred P (fun ws => f ws >>= g) :=
  fun ws h => MPred.bind (hf ws h) hg

theorem foldlM {α} {ok : α → Prop} {step : WS → α → M WS} (hstep : ∀ x, ok x → WPred P (fun ws => step ws x))
    (xs : List α) (hok : ∀ x ∈ xs, ok x) : WPred P (fun ws => xs.foldlM step ws) := fun ws h =>
  foldlM_pred (P := fun ws : WS => P ws.screen) xs ws (fun x hx => hstep x (hok x hx)) h

theorem steps {unh : WS → M WS} {p : List ParamStep} (h : ∀ st ∈ p, WPred P fun ws => st.run unh ws) :
    WPred P (runSteps unh p) :=
  foldlM (ok := (· ∈ p)) h p fun _ h => h

end WPred
end Vt.C12

namespace Vt

/-- a callbacks object that leaves the screen alone or calls `set_size` once, as the three policies of the model do
(`cbNone_sizes`, `cbResize_sizes`; `cbProbe_sizes`, Props/CbProbe).  Used through `CbSizes.elim`: what holds of
these two runs holds of every call. -/
def CbSizes (cb : CbPolicy) : Prop := ∀ e s, cb e s = pure s ∨ ∃ r c, cb e s = s.setSize r c

theorem CbSizes.elim {cb : CbPolicy} (h : CbSizes cb) {P : M Screen → Prop} (e : Event) (s : Screen) (h0 : P (pure s))
    (h1 : ∀ r c, P (s.setSize r c)) : P (cb e s) := by
  rcases h e s with h | ⟨r, c, h⟩ <;> rw [h]
  · exact h0
  · exact h1 r c

theorem cbNone_sizes : CbSizes cbNone := fun _ _ => .inl rfl

theorem cbResize_sizes : CbSizes cbResize := fun e s => by
  unfold cbResize
  split
  · split
    · exact .inr ⟨_, _, rfl⟩
    · exact .inl rfl
  · exact .inl rfl

end Vt
