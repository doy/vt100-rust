/-
  Vt.Lemmas.TextInv — `Screen::text` (printing a character) is total on a grid satisfying the
  invariant and keeps it: the inductive step of C13 for the operation that writes cells, and the
  totality of C03 for it.  Covers auto-wrap (with scrolling), zero-width characters, and the
  destruction of wide-character halves.

  Auto-wrap first: on such a grid `col_wrap` is CR, LF (`lfClosed`, C08grid) and one wrap flag — `colWrap_spec`, the
  value `cwClosed` together with its invariant; `cwClosed_cases` for the conditions on lines (InvX, InvF), the cases
  by name in C05b.

  Assumption on `W` (trusted base): `W 32 = some 1`.
-/
import Vt.Lemmas.GridTotal
import Vt.Props.C05
import Vt.Props.C08grid
namespace Vt
variable {W : Nat → Option Nat}

section colWrap
open C08lfri

def flagRow (g : Grid) (i : Nat) (b : Bool) : Grid := { g with rows := g.rows.modify i (·.wrap b) }

theorem flagRow_eq_set {g : Grid} {i : Nat} {r : Row} (h : g.rows[i]? = some r) (b : Bool) :
    flagRow g i b = { g with rows := g.rows.set i (r.wrap b) } := by
  rw [flagRow, modify_eq_set h]

theorem mem_flagRow {g : Grid} {i : Nat} {b : Bool} {r : Row} (hr : r ∈ (flagRow g i b).rows) :
    r ∈ g.rows ∨ ∃ y ∈ g.rows, r = y.wrap b := by
  have hr : r ∈ modifyIf true g.rows i (·.wrap b) := by rw [modifyIf_true]; exact hr
  exact mem_modifyIf hr

theorem stepOk_flagRow {g g1 : Grid} (s : StepOk W g g1) (i : Nat) (b : Bool) : StepOk W g (flagRow g1 i b) :=
  ⟨gridInv_rows W s.inv _ (List.length_modify ..) fun r hr => (mem_flagRow hr).elim (s.inv.row_ok r)
      fun ⟨y, hy, e⟩ => e ▸ rowGood_wrap W b (s.inv.row_ok y hy),
    (List.length_modify ..).trans s.len, s.size, s.cap⟩

/-- **`col_wrap` when the character does not fit**: CR, LF (`lfClosed`: the grid, and the number of lines scrolled), and
the line the cursor left — unless a one-line region has scrolled it away — flagged as decided if the cursor went on to
the next line, unflagged if it could not move -/
def cwClosed (g : Grid) (wrap : Bool) : Grid :=
  let p := lfClosed { g with pos := { g.pos with col := 0 } } 1
  if 0 < p.2 ∧ p.1.scrollTop = p.1.scrollBottom then p.1
  else flagRow p.1 (g.pos.row - p.2) (wrap && g.pos.row - p.2 + 1 == p.1.pos.row)

/-- `col_wrap` after its LF, on any grid (where the two index computations fail the equation says nothing) -/
theorem colWrap_of_lf {g g1 : Grid} {n w : Nat} (wrap : Bool) (hw : w ≤ g.size.cols) (hno : ¬ g.pos.col + w ≤ g.size.cols)
    (e : ({ g with pos := { g.pos with col := 0 } } : Grid).rowIncScroll 1 = .ok (g1, n)) :
    g.colWrap w wrap =
      if 0 < n ∧ g1.scrollTop = g1.scrollBottom then .ok g1
      else if n ≤ g.pos.row ∧ g.pos.row - n < g1.rows.length then
        .ok (flagRow g1 (g.pos.row - n) (wrap && g.pos.row - n + 1 == g1.pos.row))
      else g.colWrap w wrap := by
  split
  · rename_i h
    simp only [Grid.colWrap, subM_ok hw, ok_bind, if_pos (show g.pos.col > g.size.cols - w by omega), e, h.1, h.2,
      decide_true, beq_self_eq_true, Bool.and_self, ↓reduceIte, pure_eq_ok]
  · split
    · rename_i h h2
      have h : (decide (n > 0) && g1.scrollTop == g1.scrollBottom) = false := by
        rw [Bool.eq_false_iff]; simpa using h
      simp only [Grid.colWrap, subM_ok hw, ok_bind, if_pos (show g.pos.col > g.size.cols - w by omega), e, h,
        Bool.false_eq_true, ↓reduceIte, subM_ok h2.1, pure_eq_ok, modifyM_eq, if_pos h2.2]
      rfl
    · rfl

/-- **`col_wrap` on a grid satisfying the invariant**, every case: the value, which keeps the invariant -/
theorem colWrap_spec {g : Grid} (h : GridInv W g true) (hl : g.rows.length = g.size.rows) (w : Nat) (wrap : Bool)
    (hw : w ≤ g.size.cols) :
    g.colWrap w wrap = .ok (if g.pos.col + w ≤ g.size.cols then g else cwClosed g wrap) ∧
      StepOk W g (if g.pos.col + w ≤ g.size.cols then g else cwClosed g wrap) := by
  by_cases hfit : g.pos.col + w ≤ g.size.cols
  · rw [if_pos hfit]
    refine ⟨?_, stepOk_refl W h hl⟩
    simp only [Grid.colWrap, subM_ok hw, ok_bind, if_neg (show ¬ g.pos.col > g.size.cols - w by omega)]
    rfl
  rw [if_neg hfit]
  have s0 := stepOk_pos W h hl ⟨g.pos.row, 0⟩ h.pos_row (Nat.zero_le _)
  obtain ⟨e, s1⟩ := rowIncScroll_ok s0.inv hl
  have hpr := h.pos_row; have hrle := h.region_le
  have hlen := s1.len; rw [s1.size] at hlen
  unfold cwClosed
  rcases lf1_cases (live_of_inv s0.inv hl) h.rows_u16 with ⟨-, hb, e1⟩ | ⟨r, -, e1⟩ <;>
    (rw [e1] at e s1 hlen ⊢; rw [colWrap_of_lf wrap hw hfit e]; simp only at s1 hlen ⊢)
  · -- on the bottom margin: the line the cursor left is one line up, unless the region is that one line
    simp only at hb
    obtain ⟨-, ht, hbt⟩ := suClosed_frame ({ g with pos := { g.pos with col := 0 } } : Grid) 1
    simp only [ht, hbt, hlen, Nat.one_pos, true_and]
    by_cases htb : g.scrollTop = g.scrollBottom
    · simp only [if_pos htb, true_and]
      exact stepOk_trans W s0 s1
    · simp only [if_neg htb, if_pos (show 1 ≤ g.pos.row ∧ g.pos.row - 1 < g.size.rows by omega), true_and]
      exact stepOk_flagRow (stepOk_trans W s0 s1) _ _
  · simp only [Nat.lt_irrefl, false_and, ↓reduceIte, Nat.sub_zero, hlen,
      if_pos (show 0 ≤ g.pos.row ∧ g.pos.row < g.size.rows from ⟨Nat.zero_le _, hpr⟩), true_and]
    exact stepOk_flagRow (stepOk_trans W s0 s1) _ _

theorem cwClosed_col (g : Grid) (wrap : Bool) : (cwClosed g wrap).pos.col = 0 := by
  have hlf : ∀ (g : Grid) n, (lfClosed g n).1.pos.col = g.pos.col := fun g n => by
    unfold lfClosed
    split
    · exact (congrArg Pos.col (suClosed_frame (withRow g _) _).1).trans rfl
    · rfl
  unfold cwClosed
  simp only
  split <;> exact hlf _ 1

theorem cwClosed_cases {Q : Grid → Prop} {g : Grid} (wrap : Bool) :
    let p := lfClosed { g with pos := { g.pos with col := 0 } } 1
    Q p.1 → (¬ (0 < p.2 ∧ p.1.scrollTop = p.1.scrollBottom) →
      Q (flagRow p.1 (g.pos.row - p.2) (wrap && g.pos.row - p.2 + 1 == p.1.pos.row))) → Q (cwClosed g wrap) := by
  intro p h1 h2
  show Q (if 0 < p.2 ∧ p.1.scrollTop = p.1.scrollBottom then _ else _)
  split
  · exact h1
  · exact h2 ‹_›

theorem colWrap_ok {g : Grid} (h : GridInv W g true) (hl : g.rows.length = g.size.rows) (width : Nat)
    (wrap : Bool) (hw : width ≤ g.size.cols) :
    ∃ g', g.colWrap width wrap = .ok g' ∧ StepOk W g g' ∧ g'.pos.col + width ≤ g'.size.cols := by
  obtain ⟨e, s⟩ := colWrap_spec h hl width wrap hw
  refine ⟨_, e, s, ?_⟩
  rw [s.size]
  split
  · assumption
  · rw [cwClosed_col]; omega

end colWrap

theorem stepOk_colInc {g : Grid} (h : GridInv W g true) (hl : g.rows.length = g.size.rows) (n : Nat)
    (hle : g.pos.col + n ≤ g.size.cols) : StepOk W g (g.colInc n) := by
  have := stepOk_pos W h hl ⟨g.pos.row, min (g.pos.col + n) 65535⟩ h.pos_row (Nat.le_trans (Nat.min_le_left _ _) hle)
  simpa [Grid.colInc, satAddU16, U16_MAX] using this

theorem printable_space (hW32 : W 32 = some 1) : Printable W 32 :=
  ⟨by decide, by simp [hW32], by simp [hW32]⟩

theorem cellOk_mem {cs : List Cell} (h : CellsInv W cs) {x : Cell} (hx : x ∈ cs) : cellOk W x = true :=
  h.cells_ok x hx

theorem cellOk_blankCont {d : Cell} (h : cellOk W d = true) : cellOk W d.blankCont = true :=
  cellOk_blank W (cellOk_fields W h).1 (cellOk_fields W h).2.2 rfl rfl

theorem textWideRow_ok {row : Row} {col cols : Nat} (attrs : Attrs) {c width : Nat}
    (hW32 : W 32 = some 1) (hgood : RowGood W cols row) (hp : Printable W c)
    (hwidth : decide ((W c).getD 1 > 1) = decide (width > 1)) (hw1 : 1 ≤ width) (hfit : col + width ≤ cols) :
    ∃ row', Grid.textWideRow W row col cols attrs c width = .ok row' ∧ RowGood W cols row' := by
  have hinv := rowGood_cells W hgood
  have hl := hinv.links
  have hlen : row.cells.length = cols := hgood.1
  have hfit' : col + (if decide (width > 1) = true then 2 else 1) ≤ row.cells.length := by
    split <;> rename_i h <;> simp only [decide_eq_true_eq] at h <;> omega
  have e := hl.textWideRow_eq (col := col) W hW32 cols attrs c width (by omega) (fun _ => by omega)
  refine ⟨_, e, rowGood_of W (by simpa using hlen) (by omega) ⟨?_, ?_⟩⟩
  · have hclear : ∀ x, cellOk W x = true → cellOk W (x.clear attrs) = true := fun x => cellOk_clear W x attrs
    exact textWideRow_writes (P := fun r => ∀ x ∈ r.cells, cellOk W x = true) hinv.cells_ok
      (fun _ => writeKeeps_cells hclear) (writeKeeps_cells fun x hx => cellOk_setResult W attrs hx (printable_space hW32))
      (writeKeeps_cells fun x hx => cellOk_setResult W attrs hx hp) (fun r h2 => writeKeeps_cells hclear r h2)
      (writeKeeps_cells fun x => cellOk_blankCont) e
  · exact (printCells_links W attrs c hW32 hl (by rw [hwidth]) hfit').paired

theorem modifyCell_ok {g : Grid} (h : GridInv W g true) (hl : g.rows.length = g.size.rows) (site : Nat)
    {r c : Nat} (hr : r < g.size.rows) (hc : c < g.size.cols) (f : Cell → M Cell)
    (hf : ∀ cell, cellOk W cell = true → cell.cont = false →
      ∃ cell', f cell = .ok cell' ∧ cellOk W cell' = true ∧ cell'.cont = cell.cont ∧ cell'.wide = cell.wide)
    (hnc : ∀ row cell, g.rows[r]? = some row → row.cells[c]? = some cell → cell.cont = false) :
    ∃ g', g.modifyCellM site ⟨r, c⟩ f = .ok g' ∧ StepOk W g g' ∧ g'.pos = g.pos := by
  obtain ⟨row, cell, hrow, hcell, hgood⟩ := h.cell_at hl hr hc
  have hci := rowGood_cells W hgood
  obtain ⟨cell', e, hok, hcc, hww⟩ := hf cell (hci.cells_ok cell (List.mem_of_getElem? hcell))
    (hnc row cell hrow hcell)
  refine ⟨{ g with rows := g.rows.set r { row with cells := row.cells.set c cell' } },
    by simp [Grid.modifyCellM, modifyM, hrow, hcell, e], ⟨?_, by simpa using hl, rfl, rfl⟩, rfl⟩
  refine gridInv_setRow W h _ _ (rowGood_of W (by simp [hgood.1]) h.cols_pos ?_)
  exact ⟨forall_mem_set hci.cells_ok hok _,
    (hci.links.set_same (by rw [cellFlag, hcell]; exact hcc.symm) (by rw [cellFlag, hcell]; exact hww.symm)).paired⟩

/-- the `prev_cell` dance of the zero-width branch of `Screen::text`; `tc` is the cell written -/
theorem appendToPrev_eq {g : Grid} (h : GridInv W g true) (hl : g.rows.length = g.size.rows) {r c : Nat}
    (hr : r < g.size.rows) (hc : c < g.size.cols) (z : Nat) :
    ∃ row cell site tc, g.rows[r]? = some row ∧ row.cells[c]? = some cell ∧
      g.appendToPrev r c z = g.modifyCellM site ⟨r, if cell.cont then c - 1 else c⟩ (fun x => x.append z) ∧
      row.cells[if cell.cont then c - 1 else c]? = some tc ∧ tc.cont = false := by
  obtain ⟨row, cell, hrow, hcell, hgood⟩ := h.cell_at hl hr hc
  have hci := rowGood_cells W hgood
  simp only [Grid.appendToPrev, drawingCellM_of 510 hrow hcell, ok_bind, Cell.isWideContinuation]
  refine ⟨row, cell, ?_⟩
  by_cases hcc : cell.cont = true
  · obtain ⟨j, pv, rfl, hpv, hpvw⟩ := paired_cont_prev hcell hci.paired hcc
    exact ⟨512, pv, hrow, hcell, by simp [hcc, subM], by simpa [hcc] using hpv,
      wide_not_cont (hci.cells_ok _ (List.mem_of_getElem? hpv)) hpvw⟩
  · exact ⟨513, cell, hrow, hcell, by simp [hcc], by simpa [hcc] using hcell, by simpa using hcc⟩

theorem appendToPrev_ok {g : Grid} (h : GridInv W g true) (hl : g.rows.length = g.size.rows)
    (hW32 : W 32 = some 1) {r c z : Nat} (hr : r < g.size.rows) (hc : c < g.size.cols)
    (hz : W z = some 0) (hs : isScalar z = true) :
    ∃ g', g.appendToPrev r c z = .ok g' ∧ StepOk W g g' ∧ g'.pos = g.pos := by
  obtain ⟨row, cell, site, tc, hrow, _, e, htc, hnc⟩ := appendToPrev_eq h hl hr hc z
  rw [e]
  refine modifyCell_ok h hl site hr (by split <;> omega) _ ?_ ?_
  · intro cell hok hnc
    obtain ⟨cell', e, h1, h2, h3, _⟩ := append_ok W hW32 hok hnc hz hs
    exact ⟨cell', e, h1, h2, h3⟩
  · intro row' cell' hrow' hcell'
    rw [hrow] at hrow'; cases hrow'
    rw [htc] at hcell'; cases hcell'
    exact hnc

theorem textZero_eq {g : Grid} (h : GridInv W g true) (hl : g.rows.length = g.size.rows) (z : Nat) :
    g.textZero z =
      if g.pos.col > 0 then g.appendToPrev g.pos.row (g.pos.col - 1) z
      else if g.pos.row > 0 ∧ ((g.rows[g.pos.row - 1]?).map (·.wrapped)).getD false = true then
        g.appendToPrev (g.pos.row - 1) (g.size.cols - 1) z
      else .ok g := by
  unfold Grid.textZero
  by_cases h0 : g.pos.col > 0
  · simp only [h0, ↓reduceIte]
  · by_cases hr0 : g.pos.row > 0
    · have hrl : g.pos.row - 1 < g.rows.length := by have := h.pos_row; omega
      simp only [h0, hr0, ↓reduceIte, Grid.drawingRow, List.getElem?_eq_getElem hrl, ok_bind, pure_eq_ok,
        Option.map_some, Option.getD_some, true_and, subM_ok h.cols_pos]
    · simp only [h0, hr0, ↓reduceIte, false_and, pure_eq_ok]

theorem textZero_ok {g : Grid} (h : GridInv W g true) (hl : g.rows.length = g.size.rows)
    (hW32 : W 32 = some 1) {z : Nat} (hz : W z = some 0) (hs : isScalar z = true) :
    ∃ g', g.textZero z = .ok g' ∧ StepOk W g g' := by
  have hpr := h.pos_row
  have hpc := h.pos_col
  have hcp := h.cols_pos
  rw [textZero_eq h hl]
  split
  · exact let ⟨g', e, s, _⟩ := appendToPrev_ok h hl hW32 h.pos_row (by omega) hz hs; ⟨g', e, s⟩
  · split
    · exact let ⟨g', e, s, _⟩ := appendToPrev_ok h hl hW32 (by omega) (by omega) hz hs; ⟨g', e, s⟩
    · exact ⟨g, rfl, stepOk_refl W h hl⟩

/-- **printing is total and keeps the invariant**: for every grid satisfying the invariant, every
pen and every scalar value `c` -/
theorem text_total {g : Grid} (h : GridInv W g true) (hl : g.rows.length = g.size.rows)
    (hW32 : W 32 = some 1) (attrs : Attrs) {c : Nat} (hs : isScalar c = true) :
    Total W (fun g => g.text W attrs c) g := by
  show ∃ g', g.text W attrs c = .ok g' ∧ StepOk W g g'
  by_cases hdrop : (W c = none ∧ c < 256) ∨ g.size.cols < C05.effWidth W c
  · exact ⟨g, (text_eq_steps W g attrs c).trans (if_pos hdrop), stepOk_refl W h hl⟩
  · have hctl : ¬ (W c = none ∧ c < 256) := fun h => hdrop (Or.inl h)
    have hw : C05.effWidth W c ≤ g.size.cols := Nat.le_of_not_lt fun h => hdrop (Or.inr h)
    rw [C05.text_eq g attrs c hctl hw]
    have hwgt : decide ((W c).getD 1 > 1) = decide (C05.effWidth W c > 1) := by
      unfold C05.effWidth
      by_cases h1 : (W c).getD 1 > 1
      · simp [h1, show min ((W c).getD 1) 2 > 1 by omega]
      · simp [h1, show ¬ min ((W c).getD 1) 2 > 1 by omega]
    have hz : C05.effWidth W c = 0 → W c = some 0 := by
      unfold C05.effWidth
      cases hwc : W c with
      | none => simp
      | some n => simp only [Option.getD_some]; intro h0; rw [show n = 0 by omega]
    have hnz : W c = some 0 → C05.effWidth W c = 0 := fun h0 => by simp [C05.effWidth, h0]
    have hw2 : C05.effWidth W c ≤ 2 := Nat.min_le_right _ _
    generalize C05.effWidth W c = w at hw hwgt hz hnz hw2 ⊢
    obtain ⟨_, _, ewrap⟩ := C05.wrapDecision_spec h hl w hw
    rw [ewrap]
    simp only [ok_bind]
    obtain ⟨g1, e1, s1, hfit⟩ := colWrap_ok h hl w _ hw
    rw [e1]
    simp only [ok_bind]
    by_cases hzero : (w == 0) = true
    · simp only [hzero, ↓reduceIte]
      obtain ⟨g2, e2, s2⟩ := textZero_ok s1.inv s1.len hW32 (hz (by simpa using hzero)) hs
      exact ⟨g2, e2, stepOk_trans W s1 s2⟩
    · simp only [hzero, Bool.false_eq_true, ↓reduceIte]
      have hw12 : w = 1 ∨ 2 ≤ w := by
        simp only [beq_iff_eq] at hzero
        omega
      have hprint : Printable W c :=
        ⟨hs, fun h0 => hzero (by simp [hnz h0]), hctl⟩
      -- the row-level writes, then the cursor advance
      simp only [Grid.textWide]
      obtain ⟨g2, e2, s2, p2⟩ := modifyCurrentRow_ok W s1.inv s1.len
        (fun row => Grid.textWideRow W row g1.pos.col g1.size.cols attrs c w)
        (fun r hr => textWideRow_ok attrs hW32 hr hprint hwgt (by omega) hfit)
      rw [e2]
      simp only [ok_bind, pure_eq_ok]
      refine ⟨_, rfl, stepOk_trans W (stepOk_trans W s1 s2) ?_⟩
      have a1 := stepOk_colInc s2.inv s2.len 1 (by rw [p2, s2.size]; omega)
      rcases hw12 with h1 | h2
      · simpa only [show ¬ (w > 1) by omega, ↓reduceIte] using a1
      · simp only [show w > 1 by omega, ↓reduceIte]
        refine stepOk_trans W a1 (stepOk_colInc a1.inv a1.len 1 ?_)
        have : (g2.colInc 1).pos.col ≤ g2.pos.col + 1 := by simp [Grid.colInc, satAddU16]; omega
        rw [a1.size, p2, s2.size] at *; omega

end Vt
