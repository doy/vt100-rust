/-
  Vt.Lemmas.Screen — facts about `Screen.modifyGrid` (the model of `grid_mut()`):
  an operation on the active grid replaces the active grid (`modifyGrid_eq_ok_iff`) and never touches the other grid or
  anything else.
-/
import Vt.Model.Perform
import Vt.Lemmas.Except
namespace Vt

def Screen.setCur (s : Screen) (g : Grid) : Screen :=
  if s.altScreen then { s with altGrid := g } else { s with grid := g }

@[simp] theorem setCur_cur (s : Screen) (g : Grid) : (s.setCur g).cur = g := by
  unfold Screen.setCur Screen.cur
  cases s.altScreen <;> simp

theorem modifyGrid_eq_ok_iff {s s' : Screen} {f : Grid → M Grid} :
    s.modifyGrid f = .ok s' ↔ ∃ g, f s.cur = .ok g ∧ s' = s.setCur g := by
  unfold Screen.modifyGrid Screen.setCur Screen.cur
  cases s.altScreen <;>
    simp only [Bool.false_eq_true, ↓reduceIte, bind_eq_ok, pure_eq_ok, Except.ok.injEq, eq_comm (b := s')]

theorem modifyGrid_ok_of {s : Screen} {f : Grid → M Grid} {g : Grid} (h : f s.cur = .ok g) :
    s.modifyGrid f = .ok (s.setCur g) :=
  modifyGrid_eq_ok_iff.mpr ⟨g, h, rfl⟩

theorem modifyGrid_alt {s s' : Screen} {f : Grid → M Grid} (ha : s.altScreen = true)
    (h : s.modifyGrid f = .ok s') : ∃ g, f s.altGrid = .ok g ∧ s' = { s with altGrid := g } := by
  obtain ⟨g, hg, rfl⟩ := modifyGrid_eq_ok_iff.mp h
  simp only [Screen.cur, Screen.setCur, ha] at hg ⊢
  exact ⟨g, hg, rfl⟩

theorem modifyGrid_primary {s s' : Screen} {f : Grid → M Grid} (ha : s.altScreen = false)
    (h : s.modifyGrid f = .ok s') : ∃ g, f s.grid = .ok g ∧ s' = { s with grid := g } := by
  obtain ⟨g, hg, rfl⟩ := modifyGrid_eq_ok_iff.mp h
  simp only [Screen.cur, Screen.setCur, ha] at hg ⊢
  exact ⟨g, hg, rfl⟩

end Vt
