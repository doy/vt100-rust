/-
  Vt.Lemmas.Recv2 — the steps for LF, DECSC (`ESC 7`) and DECRC (`ESC 8`): the sequences the cursor fix-up
  of `write_cursor_position_formatted` uses when the source cursor sits in the pending-wrap column of a
  line whose last column is empty.  The last two read the closed forms `C11.decscOf`, `C11.decrcOf` through `withRS`.
-/
import Vt.Lemmas.Canvas
import Vt.Props.C11

namespace Vt.Recv
open Vt Vt.Tok

variable (W : Nat → Option Nat) (cb : CbPolicy)

theorem step_lf :
    Step W cb [10] (fun r => (r.g.rowIncScroll 1 >>= fun q => pure q.1) >>= fun g' => pure { r with g := g' }) := by
  have ht : Tok [10] [.execute 10] := by
    have := tok_text [10] (by decide) (by decide)
    simpa [Vte.groundDispatch, Utf8.fromUtf8, Utf8.Res.cons] using this
  refine step_grid W cb ht (fun _ g => g.rowIncScroll 1 >>= fun q => pure q.1) ?_
  intro ws
  simp only [foldlM_single, perform, performExecute]
  rfl

/-- LF with a line below: only the cursor row changes, whatever the column (the pending-wrap column too) -/
theorem lf_eq {g : Grid} (h : Canvas g) (hrow : g.pos.row + 1 < g.size.rows) :
    (g.rowIncScroll 1 >>= fun q => pure q.1) = .ok (withPos g ⟨g.pos.row + 1, g.pos.col⟩) := by
  rw [show g.rowIncScroll 1 = _ from h.lf g.pos.col hrow]; rfl

theorem decscOf_withRS (ws : WS) :
    ({ ws with screen := C11.decscOf ws.screen } : WS) =
      withRS ws { g := (rsOf ws).g.saveCursor, pen := (rsOf ws).pen, saved := (rsOf ws).pen } := by
  obtain ⟨⟨g, ag, a, sa, k, c, hc, alt, bp, mm, me⟩, ev⟩ := ws
  cases alt <;> rfl

theorem decrcOf_withRS (ws : WS) :
    ({ ws with screen := C11.decrcOf ws.screen } : WS) =
      withRS ws { g := (rsOf ws).g.restoreCursor, pen := (rsOf ws).saved, saved := (rsOf ws).saved } := by
  obtain ⟨⟨g, ag, a, sa, k, c, hc, alt, bp, mm, me⟩, ev⟩ := ws
  cases alt <;> rfl

theorem step_saveCursor :
    Step W cb Term.saveCursor (fun r => pure { g := r.g.saveCursor, pen := r.pen, saved := r.pen }) := by
  intro p hr r' hf
  cases hf
  exact process_tok1 (tok_esc 55 (by omega)) p hr _ (by rw [C11.perform_decsc, decscOf_withRS])

theorem step_restoreCursor :
    Step W cb Term.restoreCursor (fun r => pure { g := r.g.restoreCursor, pen := r.saved, saved := r.saved }) := by
  intro p hr r' hf
  cases hf
  exact process_tok1 (tok_esc 56 (by omega)) p hr _ (by rw [C11.perform_decrc, decrcOf_withRS])

end Vt.Recv
