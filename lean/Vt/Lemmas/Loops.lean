/-
  Vt.Lemmas.Loops — the loop `iterateM`: a loop whose body is a check followed by a function is one check followed by
  the iterated function (`iterateM_pure`); a reflexive, transitive relation holds along the iterates (`iterate_rel`); a
  sequence that the function steps along is what it iterates to (`iter_chain`).
  The invariant rule for `iterateM` itself is `C12.iterateM_pred` (Lemmas/MRel).
-/
import Vt.Lemmas.Except
namespace Vt

def iter {σ} (F : σ → σ) : Nat → σ → σ
  | 0, s => s
  | n + 1, s => iter F n (F s)

theorem iter_chain {σ} {F : σ → σ} {f : Nat → σ} (h : ∀ j, F (f j) = f (j + 1)) : ∀ k j, iter F k (f j) = f (j + k)
  | 0, _ => rfl
  | k + 1, j => by rw [iter, h, iter_chain h k (j + 1), Nat.add_assoc, Nat.add_comm 1 k]

theorem iterateM_pure {σ} {f : σ → M σ} {F : σ → σ} {pre : σ → Prop}
    (hf : ∀ s s', f s = .ok s' ↔ pre s ∧ s' = F s) (hpre : ∀ s, pre s → pre (F s)) :
    ∀ n s s', iterateM n f s = .ok s' ↔ (n = 0 ∨ pre s) ∧ s' = iter F n s
  | 0, s, s' => by
    simp only [iterateM, iter, pure_eq_ok, Except.ok.injEq, true_or, true_and]; exact eq_comm
  | n + 1, s, s' => by
    rw [iterateM, bind_eq_ok]
    constructor
    · rintro ⟨s1, h1, h2⟩
      obtain ⟨hp, rfl⟩ := (hf _ _).mp h1
      exact ⟨Or.inr hp, ((iterateM_pure hf hpre n _ _).mp h2).2⟩
    · rintro ⟨h | hp, rfl⟩
      · cases h
      · exact ⟨F s, (hf _ _).mpr ⟨hp, rfl⟩, (iterateM_pure hf hpre n _ _).mpr ⟨Or.inr (hpre s hp), rfl⟩⟩

theorem iterate_rel {σ} {R : σ → σ → Prop} {F : σ → σ} {pre : σ → Prop} (refl : ∀ s, R s s)
    (trans : ∀ {a b c}, R a b → R b c → R a c) (hpre : ∀ s, pre s → pre (F s)) (hF : ∀ s, pre s → R s (F s)) :
    ∀ n s, pre s → R s (iter F n s)
  | 0, s, _ => refl s
  | n + 1, s, h => trans (hF s h) (iterate_rel refl trans hpre hF n (F s) (hpre s h))

end Vt
