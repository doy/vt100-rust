/-
  Vt.Lemmas.Sgr — one step of the loop of `Screen::sgr`, described once.

  `Sgr.step p rest` says what the head parameter `p` of `CSI … m` does, given the parameters `rest` behind
  it; `sgrLoop_cons` is the loop in terms of it.  Every property of `sgrLoop` is then an induction over
  the parameter list (`Sgr.drop_induction`: a step may use up further parameters) with the four cases of
  `Step`.
-/
import Vt.Model.Perform
import Vt.Spec.EmitOk
namespace Vt.Sgr

inductive Step where
  /-- the pen changes by `f`; `extra` further parameters are used up -/
  | apply (f : Attrs → Attrs) (extra : Nat)
  /-- `unhandled` is called; the parameters behind it are still looked at -/
  | report
  /-- `unhandled` is called; the rest of the sequence is dropped -/
  | reportStop
  /-- the rest of the sequence is dropped silently -/
  | stop

def setFg (c : Color) (a : Attrs) : Attrs := { a with fg := c }
def setBg (c : Color) (a : Attrs) : Attrs := { a with bg := c }

/-- the single numbers with a meaning of their own (38 and 48 apart), in the order and with the arithmetic of the `match` of
`Screen::sgr` -/
def single (n : Nat) : Option (Attrs → Attrs) :=
  if n = 0 then some (fun _ => Attrs.default)
  else if n = 1 then some (fun a => { a with intensity := .bold })
  else if n = 2 then some (fun a => { a with intensity := .dim })
  else if n = 3 then some (fun a => { a with italic := true })
  else if n = 4 then some (fun a => { a with underline := true })
  else if n = 7 then some (fun a => { a with inverse := true })
  else if n = 22 then some (fun a => { a with intensity := .normal })
  else if n = 23 then some (fun a => { a with italic := false })
  else if n = 24 then some (fun a => { a with underline := false })
  else if n = 27 then some (fun a => { a with inverse := false })
  else if 30 ≤ n ∧ n ≤ 37 then some (setFg (.idx (n - 30)))
  else if n = 39 then some (setFg .default)
  else if 40 ≤ n ∧ n ≤ 47 then some (setBg (.idx (n - 40)))
  else if n = 49 then some (setBg .default)
  -- bright colours are 8..15
  else if 90 ≤ n ∧ n ≤ 97 then some (setFg (.idx (n - 82)))
  else if 100 ≤ n ∧ n ≤ 107 then some (setBg (.idx (n - 92)))
  else none

theorem ite_some_eq_none {α} {c : Prop} [Decidable c] {a : α} {b : Option α} :
    (if c then some a else b) = none ↔ ¬ c ∧ b = none := by
  split <;> simp [*]

theorem single_eq_none_iff {n : Nat} : single n = none ↔
    ¬ (n = 0 ∨ n = 1 ∨ n = 2 ∨ n = 3 ∨ n = 4 ∨ n = 7 ∨ n = 22 ∨ n = 23 ∨ n = 24 ∨ n = 27 ∨ (30 ≤ n ∧ n ≤ 37) ∨ n = 39 ∨
      (40 ≤ n ∧ n ≤ 47) ∨ n = 49 ∨ (90 ≤ n ∧ n ≤ 97) ∨ (100 ≤ n ∧ n ≤ 107)) := by
  simp only [single, ite_some_eq_none, and_true, not_or]

theorem single_fg {n : Nat} (h : 30 ≤ n ∧ n ≤ 37) : single n = some (setFg (.idx (n - 30))) := by
  unfold single
  iterate 10 rw [if_neg (by omega)]
  exact if_pos h

theorem single_bg {n : Nat} (h : 40 ≤ n ∧ n ≤ 47) : single n = some (setBg (.idx (n - 40))) := by
  unfold single
  iterate 12 rw [if_neg (by omega)]
  exact if_pos h

theorem single_fg_bright {n : Nat} (h : 90 ≤ n ∧ n ≤ 97) : single n = some (setFg (.idx (n - 82))) := by
  unfold single
  iterate 14 rw [if_neg (by omega)]
  exact if_pos h

theorem single_bg_bright {n : Nat} (h : 100 ≤ n ∧ n ≤ 107) : single n = some (setBg (.idx (n - 92))) := by
  unfold single
  iterate 15 rw [if_neg (by omega)]
  exact if_pos h

/-- the two numbers that introduce an extended colour, with the layer it goes to: `38` foreground, `48` background -/
def layer (n : Nat) : Option (Color → Attrs → Attrs) :=
  if n = 38 then some setFg else if n = 48 then some setBg else none

/-- behind a bare `38` / `48`: the colour spelled out in the parameters that follow, `;2;r;g;b` or `;5;i` -/
def behind (set : Color → Attrs → Attrs) : List (List Nat) → Step
  | [] => .stop
  | [2] :: [r] :: [g] :: [b] :: _ => if r ≤ 255 ∧ g ≤ 255 ∧ b ≤ 255 then .apply (set (.rgb r g b)) 4 else .stop
  | [2] :: _ => .stop
  | [5] :: [i] :: _ => if i ≤ 255 then .apply (set (.idx i)) 2 else .stop
  | [5] :: _ => .stop
  | _ :: _ => .reportStop

/-- behind `38:` / `48:` inside one parameter: the colour spelled out in its sub-parameters -/
def within (set : Color → Attrs → Attrs) : List Nat → Step
  | [2, r, g, b] => if r ≤ 255 ∧ g ≤ 255 ∧ b ≤ 255 then .apply (set (.rgb r g b)) 0 else .stop
  | [5, i] => if i ≤ 255 then .apply (set (.idx i)) 0 else .stop
  | _ => .report

def step (p : List Nat) (rest : List (List Nat)) : Step :=
  match p with
  | [] => .report
  | [n] =>
    match layer n with
    | some set => behind set rest
    | none => match single n with
      | some f => .apply f 0
      | none => .report
  | n :: sub =>
    match layer n with
    | some set => within set sub
    | none => .report

theorem step_single {n : Nat} (rest : List (List Nat)) (h38 : n ≠ 38) (h48 : n ≠ 48) :
    step [n] rest = match single n with | some f => .apply f 0 | none => .report := by
  simp only [step, layer, h38, h48, ↓reduceIte]

theorem behind_rgb_short (set : Color → Attrs → Attrs) {rest2 : List (List Nat)}
    (h : ∀ r g b rest3, rest2 = [r] :: [g] :: [b] :: rest3 → False) : behind set ([2] :: rest2) = .stop := by
  rw [behind]; exact h

theorem behind_idx_short (set : Color → Attrs → Attrs) {rest2 : List (List Nat)}
    (h : ∀ i rest3, rest2 = [i] :: rest3 → False) : behind set ([5] :: rest2) = .stop := by
  rw [behind]; exact h

theorem behind_other (set : Color → Attrs → Attrs) {hd : List Nat} (tl : List (List Nat))
    (h2 : hd = [2] → False) (h5 : hd = [5] → False) : behind set (hd :: tl) = .reportStop := by
  rw [behind]
  · exact fun _ _ _ _ e _ => h2 e
  · exact h2
  · exact fun _ _ e _ => h5 e
  · exact h5

theorem within_other (set : Color → Attrs → Attrs) {sub : List Nat}
    (h2 : ∀ r g b, sub = [2, r, g, b] → False) (h5 : ∀ i, sub = [5, i] → False) : within set sub = .report := by
  unfold within
  split
  · exact (h2 _ _ _ rfl).elim
  · exact (h5 _ rfl).elim
  · rfl

theorem step_other {p : List Nat} (rest : List (List Nat)) (h1 : ∀ n, p = [n] → False)
    (h2 : ∀ r g b, p = [38, 2, r, g, b] → False) (h3 : ∀ i, p = [38, 5, i] → False)
    (h4 : ∀ r g b, p = [48, 2, r, g, b] → False) (h5 : ∀ i, p = [48, 5, i] → False) :
    step p rest = .report := by
  match p with
  | [] => rfl
  | [n] => exact (h1 n rfl).elim
  | n :: a :: t =>
    by_cases h38 : n = 38
    · subst h38
      exact within_other setFg (fun r g b e => h2 r g b (by rw [e])) (fun i e => h3 i (by rw [e]))
    · by_cases h48 : n = 48
      · subst h48
        exact within_other setBg (fun r g b e => h4 r g b (by rw [e])) (fun i e => h5 i (by rw [e]))
      · simp only [step, layer, h38, h48, ↓reduceIte]

/-! every pen change a step makes keeps the colours bytes (`attrsOk`, Vt/Spec/EmitOk.lean) -/

theorem colorOk_idx {i : Nat} (h : i ≤ 255) : colorOk (.idx i) = true := decide_eq_true h
theorem colorOk_rgb {r g b : Nat} (h : r ≤ 255 ∧ g ≤ 255 ∧ b ≤ 255) : colorOk (.rgb r g b) = true := by
  simp only [colorOk, h, decide_true, Bool.and_self]

theorem attrsOk_setFg {c : Color} (hc : colorOk c = true) {a : Attrs} (ha : attrsOk a = true) : attrsOk (setFg c a) = true := by
  simp only [attrsOk, Bool.and_eq_true] at ha ⊢; exact ⟨hc, ha.2⟩
theorem attrsOk_setBg {c : Color} (hc : colorOk c = true) {a : Attrs} (ha : attrsOk a = true) : attrsOk (setBg c a) = true := by
  simp only [attrsOk, Bool.and_eq_true] at ha ⊢; exact ⟨ha.1, hc⟩

theorem single_attrsOk {n : Nat} {f : Attrs → Attrs} (h : single n = some f) {a : Attrs} (ha : attrsOk a = true) :
    attrsOk (f a) = true := by
  revert h
  fun_cases single n <;> intro h <;> cases h
  · rfl
  -- intensity and the three flags: the colours stay
  iterate 9 exact ha
  · exact attrsOk_setFg (colorOk_idx (by omega)) ha
  · exact attrsOk_setFg rfl ha
  · exact attrsOk_setBg (colorOk_idx (by omega)) ha
  · exact attrsOk_setBg rfl ha
  · exact attrsOk_setFg (colorOk_idx (by omega)) ha
  · exact attrsOk_setBg (colorOk_idx (by omega)) ha

theorem behind_apply_attrsOk {set : Color → Attrs → Attrs}
    (hset : ∀ c a, colorOk c = true → attrsOk a = true → attrsOk (set c a) = true)
    {rest : List (List Nat)} {f : Attrs → Attrs} {k : Nat} (h : behind set rest = .apply f k) {a : Attrs}
    (ha : attrsOk a = true) : attrsOk (f a) = true := by
  revert h
  fun_cases behind set rest <;> intro h <;> cases h
  · exact hset _ _ (colorOk_rgb ‹_›) ha
  · exact hset _ _ (colorOk_idx ‹_›) ha

theorem within_apply_attrsOk {set : Color → Attrs → Attrs}
    (hset : ∀ c a, colorOk c = true → attrsOk a = true → attrsOk (set c a) = true)
    {sub : List Nat} {f : Attrs → Attrs} {k : Nat} (h : within set sub = .apply f k) {a : Attrs}
    (ha : attrsOk a = true) : attrsOk (f a) = true := by
  revert h
  fun_cases within set sub <;> intro h <;> cases h
  · exact hset _ _ (colorOk_rgb ‹_›) ha
  · exact hset _ _ (colorOk_idx ‹_›) ha

theorem step_apply_attrsOk {p : List Nat} {rest : List (List Nat)} {f : Attrs → Attrs} {k : Nat}
    (h : step p rest = .apply f k) {a : Attrs} (ha : attrsOk a = true) : attrsOk (f a) = true := by
  match p with
  | [] => cases h
  | [n] =>
    by_cases h38 : n = 38
    · subst h38; exact behind_apply_attrsOk (fun _ _ hc ha => attrsOk_setFg hc ha) h ha
    · by_cases h48 : n = 48
      · subst h48; exact behind_apply_attrsOk (fun _ _ hc ha => attrsOk_setBg hc ha) h ha
      · rw [step_single _ h38 h48] at h
        cases hs : single n <;> rw [hs] at h <;> cases h
        exact single_attrsOk hs ha
  | n :: b :: t =>
    by_cases h38 : n = 38
    · subst h38; exact within_apply_attrsOk (fun _ _ hc ha => attrsOk_setFg hc ha) h ha
    · by_cases h48 : n = 48
      · subst h48; exact within_apply_attrsOk (fun _ _ hc ha => attrsOk_setBg hc ha) h ha
      · simp only [step, layer, h38, h48, ↓reduceIte, reduceCtorEq] at h

theorem drop_induction {α} {motive : List α → Prop} (nil : motive [])
    (cons : ∀ p rest, (∀ k, motive (rest.drop k)) → motive (p :: rest)) : ∀ ps, motive ps := by
  intro ps
  induction h : ps.length using Nat.strongRecOn generalizing ps with
  | _ n ih =>
    cases ps with
    | nil => exact nil
    | cons p rest =>
      exact cons p rest fun k => ih (rest.drop k).length (by simp at h; simp; omega) _ rfl

end Vt.Sgr

namespace Vt
open Sgr

/-- the loop of `Screen::sgr`, one parameter at a time.  `case1` … `case43` are the leaves of the nested `match` / `if` of
`sgrLoop` (Model/Perform) in source order, `case1` the empty list: they shift when an arm is added. -/
theorem sgrLoop_eq (unh : WS → M WS) (ps : List (List Nat)) (ws : WS) :
    sgrLoop unh ps ws =
      match ps with
      | [] => pure ws
      | p :: rest =>
        match step p rest with
        | .apply f k => sgrLoop unh (rest.drop k) (ws.modAttrs f)
        | .report => unh ws >>= sgrLoop unh rest
        | .reportStop => unh ws
        | .stop => pure ws := by
  fun_cases sgrLoop unh ps ws
  -- the empty list, literal heads, and a bare 38 / 48 at the end
  case case1 | case2 | case3 | case4 | case5 | case6 | case7 | case8 | case9 | case10 | case11 | case16 | case24
    | case29 | case37 => rfl
  -- `38:2:r:g:b`, `38;2;r;g;b` (48 alike)
  case case12 h | case17 h | case25 h | case30 h =>
    simp only [Bool.and_eq_true, decide_eq_true_eq, and_assoc] at h
    simp only [step, layer, within, behind, h, ↓reduceIte, Nat.reduceEqDiff]; rfl
  case case13 h | case18 h | case26 h | case31 h =>
    simp only [Bool.and_eq_true, decide_eq_true_eq, and_assoc] at h
    simp only [step, layer, within, behind, h, ↓reduceIte, Nat.reduceEqDiff]
  -- `38:5:i`, `38;5;i`
  case case14 h | case20 h | case27 h | case33 h =>
    simp only [step, layer, within, behind, h, ↓reduceIte, Nat.reduceEqDiff]; rfl
  case case15 h | case21 h | case28 h | case34 h =>
    simp only [step, layer, within, behind, h, ↓reduceIte, Nat.reduceEqDiff]
  -- a bare 38 / 48 followed by something else
  case case19 h | case32 h => simp only [step, layer, behind_rgb_short _ h, ↓reduceIte, Nat.reduceEqDiff]
  case case22 h | case35 h => simp only [step, layer, behind_idx_short _ h, ↓reduceIte, Nat.reduceEqDiff]
  case case23 h2 h5 | case36 h2 h5 => simp only [step, layer, behind_other _ _ h2 h5, ↓reduceIte, Nat.reduceEqDiff]
  -- the basic and bright colours, and the numbers without a meaning
  case case38 _ _ _ _ _ _ _ _ _ _ h38 _ h48 _ h =>
    simp only [Bool.and_eq_true, decide_eq_true_eq] at h
    simp only [step_single _ h38 h48, single_fg h]; rfl
  case case39 _ _ _ _ _ _ _ _ _ _ h38 _ h48 _ _ h =>
    simp only [Bool.and_eq_true, decide_eq_true_eq] at h
    simp only [step_single _ h38 h48, single_bg h]; rfl
  case case40 _ _ _ _ _ _ _ _ _ _ h38 _ h48 _ _ _ h =>
    simp only [Bool.and_eq_true, decide_eq_true_eq] at h
    simp only [step_single _ h38 h48, single_fg_bright h]; rfl
  case case41 _ _ _ _ _ _ _ _ _ _ h38 _ h48 _ _ _ _ h =>
    simp only [Bool.and_eq_true, decide_eq_true_eq] at h
    simp only [step_single _ h38 h48, single_bg_bright h]; rfl
  case case42 n e0 e1 e2 e3 e4 e7 e22 e23 e24 e27 h38 e39 h48 e49 r1 r2 r3 r4 =>
    simp only [Bool.and_eq_true, decide_eq_true_eq] at r1 r2 r3 r4
    have hn : single n = none := single_eq_none_iff.mpr (by
      simp only [not_or]; exact ⟨e0, e1, e2, e3, e4, e7, e22, e23, e24, e27, r1, e39, r2, e49, r3, r4⟩)
    simp only [step_single _ h38 h48, hn]
  case case43 h2 h3 _ _ h4 h5 _ _ h1 => simp only [step_other _ h1 h2 h3 h4 h5]

theorem sgrLoop_nil (unh : WS → M WS) (ws : WS) : sgrLoop unh [] ws = pure ws := sgrLoop_eq unh [] ws

theorem sgrLoop_cons (unh : WS → M WS) (p : List Nat) (rest : List (List Nat)) (ws : WS) :
    sgrLoop unh (p :: rest) ws =
      match step p rest with
      | .apply f k => sgrLoop unh (rest.drop k) (ws.modAttrs f)
      | .report => unh ws >>= sgrLoop unh rest
      | .reportStop => unh ws
      | .stop => pure ws := sgrLoop_eq unh (p :: rest) ws

end Vt
