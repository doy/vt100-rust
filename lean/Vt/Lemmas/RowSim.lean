/-
  Vt.Lemmas.RowSim — helpers for the row-emitter simulation: how emitted pieces extend a processed prefix, and the
  receiver while one line is drawn.

  `Emitted p0 out r`: the bytes `out` processed on the ready parser `p0` leave the receiver state `r`
  (`emitted_step`: one more `Step`).  `shape r0 i Ri pos pen`: the receiver while line `i` is drawn.
  `Line src es Ri`: the receiving line shows the source on columns `< es` and is blank beyond (`expect`).
  `wrapBase`, `typeChars_wraps_gen`: the line above wraps onto this one when its first character is typed.
-/
import Vt.Lemmas.EmitOk
namespace Vt.Recv
open Vt Vt.C19 Vt.C09

variable (W : Nat → Option Nat) (cb : CbPolicy)

def Emitted (p0 : Parser) (out : List Nat) (r : RS) : Prop :=
  ∃ p', p0.process W cb out = .ok p' ∧ p'.ws = withRS p0.ws r ∧ Ready p'

theorem emitted_nil (p0 : Parser) (h : Ready p0) : Emitted W cb p0 [] (rsOf p0.ws) :=
  ⟨p0, C04.process_nil W cb p0 h.2, (withRS_self _).symm, h⟩

theorem emitted_step {p0 : Parser} (h0 : Ready p0) {out : List Nat} {r r' : RS} (h : Emitted W cb p0 out r)
    {X : List Nat} {f : RS → M RS} (hX : Step W cb X f) (hf : f r = .ok r') : Emitted W cb p0 (out ++ X) r' := by
  obtain ⟨p1, e1, w1, r1⟩ := h
  obtain ⟨p2, e2, w2, r2⟩ := hX p1 r1 r' (by rw [w1, rsOf_withRS]; exact hf)
  exact ⟨p2, process_then W cb h0 e1 r1 e2, by rw [w2, w1, withRS_withRS], r2⟩

theorem view_new : view Cell.new = blankV := by
  simp [view, Cell.new, blankV, blankA]

/-- `cell == default_cell` is "the view is the blank default view" -/
theorem eq_new_iff (c : Cell) : c.eq Cell.new = true ↔ view c = blankV := by
  rw [eq_iff_view, view_new]

def clearRange (cs : List Cell) (lo hi : Nat) (a : Attrs) : List Cell :=
  cs.mapIdx (fun j c => if lo ≤ j ∧ j < hi then c.clear a else c)

theorem clearRange_length (cs : List Cell) (lo hi : Nat) (a : Attrs) : (clearRange cs lo hi a).length = cs.length := by
  simp [clearRange]

def shape (r0 : RS) (i : Nat) (Ri : Row) (pos : Pos) (pen : Attrs) : RS :=
  { g := { r0.g with rows := r0.g.rows.set i Ri, pos := pos }, pen := pen, saved := r0.saved }

structure Line (src : List Cell) (es : Nat) (Ri : Row) : Prop where
  unwrapped : Ri.wrapped = false
  views : Ri.cells.map view = (src.take es).map view ++ List.replicate (src.length - es) blankV
  len22 : ∀ c ∈ Ri.cells, c.contents.length = 22

theorem Line.length {src : List Cell} {es : Nat} {Ri : Row} (h : Line src es Ri) (hes : es ≤ src.length) :
    Ri.cells.length = src.length := by
  have := congrArg List.length h.views
  simp only [List.length_map, List.length_append, List.length_take, List.length_replicate] at this
  omega

theorem shape_canvas {r0 : RS} (h : Canvas r0.g) {i : Nat} {Ri : Row} (hl : Ri.cells.length = r0.g.size.cols)
    (pos : Pos) (pen : Attrs) : Canvas (shape r0 i Ri pos pen).g := by
  refine ⟨h.rows_pos, h.cols_pos, h.rows_u16, h.cols_u16, h.top, h.bottom, h.origin, ?_, ?_⟩
  · simp [shape, h.alloc]
  · intro r hr
    simp only [shape] at hr ⊢
    rcases List.mem_or_eq_of_mem_set hr with hr | rfl
    · exact h.width r hr
    · exact hl

theorem shape_row {r0 : RS} (h : Canvas r0.g) {i : Nat} (hi : i < r0.g.size.rows) (Ri : Row) (pos : Pos) (pen : Attrs) :
    (shape r0 i Ri pos pen).g.rows[i]? = some Ri := by
  simp [shape, h.alloc, hi]

theorem shape_goto {r0 : RS} (h : Canvas r0.g) {i : Nat} {Ri : Row} (hl : Ri.cells.length = r0.g.size.cols)
    (frm to : Pos) (pen : Attrs) (hr : to.row < r0.g.size.rows) (hc : to.col < r0.g.size.cols) :
    gotoF frm to (shape r0 i Ri frm pen) = .ok (shape r0 i Ri to pen) := by
  rw [goto_eq (shape_canvas h hl frm pen) frm to rfl hr hc]
  rfl

def expect (src : List Cell) (es : Nat) : List View :=
  (src.take es).map view ++ List.replicate (src.length - es) blankV

theorem expect_get (src : List Cell) (es : Nat) (hes : es ≤ src.length) (k : Nat) (hk : k < src.length) :
    (expect src es)[k]? = some (if k < es then view src[k] else blankV) := by
  unfold expect
  by_cases h : k < es
  · rw [List.getElem?_append_left (by simp [List.length_take]; omega)]
    simp [h, List.getElem?_eq_getElem hk]
  · rw [List.getElem?_append_right (by simp [List.length_take]; omega)]
    simp only [List.length_map, List.length_take, Nat.min_eq_left hes, List.getElem?_replicate, h, ↓reduceIte]
    rw [if_pos (by omega)]

def wrapBase (r0 : RS) (i : Nat) (Rp : Row) : RS :=
  { r0 with g := { r0.g with rows := r0.g.rows.set (i - 1) (Rp.wrap true) } }

theorem wrapBase_canvas {r0 : RS} (h : Canvas r0.g) (i : Nat) {Rp : Row} (hp : r0.g.rows[i - 1]? = some Rp) :
    Canvas (wrapBase r0 i Rp).g :=
  shape_canvas h (i := i - 1) (Ri := Rp.wrap true) (h.width Rp (List.mem_of_getElem? hp)) r0.g.pos r0.pen

theorem shape_wrapNext {r0 : RS} (i : Nat) (hi1 : 1 ≤ i) (Ri Rp : Row) (c : Nat) (pen : Attrs) :
    wrapNext (shape r0 i Ri ⟨i - 1, c⟩ pen).g Rp = (shape (wrapBase r0 i Rp) i Ri ⟨i, 0⟩ pen).g := by
  simp only [wrapNext, shape, wrapBase]
  have : (r0.g.rows.set i Ri).set (i - 1) (Rp.wrap true) = (r0.g.rows.set (i - 1) (Rp.wrap true)).set i Ri :=
    List.set_comm _ _ (by omega)
  rw [this, show i - 1 + 1 = i by omega]

theorem shape_prev_row {r0 : RS} (i : Nat) (hi1 : 1 ≤ i) (Ri Rp : Row) (pos : Pos) (pen : Attrs)
    (hp : r0.g.rows[i - 1]? = some Rp) : (shape r0 i Ri pos pen).g.rows[i - 1]? = some Rp := by
  simp only [shape, List.getElem?_set]
  rw [if_neg (by omega)]; exact hp

/-- typing the characters of a cell from column `c0` of the line above, from which its first character does not fit
(the pending-wrap column; for a wide character also the last column) = typing them at the start of this line after
the wrap has been recorded -/
theorem typeChars_wraps_gen {r0 : RS} (hcv : Canvas r0.g) {i : Nat} (hi1 : 1 ≤ i) (hi : i < r0.g.size.rows)
    {Ri Rp : Row} (hl : Ri.cells.length = r0.g.size.cols) (hp : r0.g.rows[i - 1]? = some Rp)
    {last : Cell} (hlast : Rp.cells[r0.g.size.cols - 1]? = some last) (hocc : (last.hasContents || last.cont) = true)
    (pen : Attrs) (f : Nat) (zs : List Nat) (hwc : min ((W f).getD 1) 2 ≤ r0.g.size.cols)
    (hnc : ¬ (W f = none ∧ f < 256)) (c0 : Nat) (hc0 : c0 > r0.g.size.cols - min ((W f).getD 1) 2) :
    typeChars W pen (f :: zs) (shape r0 i Ri ⟨i - 1, c0⟩ pen).g =
      typeChars W pen (f :: zs) (shape (wrapBase r0 i Rp) i Ri ⟨i, 0⟩ pen).g := by
  rw [typeChars_cons, typeChars_cons,
    text_wraps_gen W (shape_canvas hcv hl ⟨i - 1, c0⟩ pen) pen f _ Rp last rfl hwc hnc hc0
      (shape_prev_row i hi1 Ri Rp _ pen hp) (by simp only [shape]; omega) hlast hocc,
    shape_wrapNext i hi1 Ri Rp _ pen]

/-- a line with some plain, not yet blanked cells in `[e, hi)` (a space typed to force a wrap) -/
structure LineX (src : List Cell) (e hi : Nat) (Ri : Row) : Prop where
  unwrapped : Ri.wrapped = false
  len22 : ∀ c ∈ Ri.cells, c.contents.length = 22
  length : Ri.cells.length = src.length
  agree : ∀ k (hk : k < src.length), k < e → (Ri.cells.map view)[k]? = some (view src[k])
  plain : ∀ k, e ≤ k → k < hi → Ri.cells[k]?.all (fun c => !c.wide && !c.cont) = true
  blank : ∀ k, hi ≤ k → k < src.length → (Ri.cells.map view)[k]? = some blankV

end Vt.Recv
