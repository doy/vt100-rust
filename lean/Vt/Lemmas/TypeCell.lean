/-
  Vt.Lemmas.TypeCell — typing the characters of one cell onto plain cells reproduces the cell.

  Once the first character of a cell has been set, its combining characters land in that same cell as long as no
  `Cell::append` meets the 18-byte stop (`prefixOk`); the cell then holds the live bytes, the width flag and the pen
  (`typedView`), and nothing else changes (`type_cell_rest`; `type_cell_narrow`: a narrow character on a plain cell, then
  that).  Typing a cell on ANY line: `type_cell_links`, Props/DiffType.
-/
import Vt.Lemmas.Canvas
import Vt.Props.C19
namespace Vt.Recv
open Vt Vt.C19

def liveOf (c : Cell) : List Nat := c.contents.take c.len

theorem set_facts (W : Nat → Option Nat) (cell : Cell) (c : Nat) (a : Attrs) (h22 : cell.contents.length = 22) :
    ∃ cell', cell.set W c a = .ok cell' ∧ cell'.len = (Utf8.encode c).length ∧ liveOf cell' = Utf8.encode c ∧
      cell'.contents.length = 22 ∧ cell'.wide = decide ((W c).getD 1 > 1) ∧ cell'.cont = false ∧ cell'.attrs = a := by
  have hl := Utf8.encode_length_bounds c
  refine ⟨_, C05.cell_set_spec W cell c a (by omega), rfl, ?_, ?_, rfl, rfl, rfl⟩
  · simp [liveOf]
  · simp only [List.length_append, List.length_drop, h22]; omega

theorem append_facts (tc : Cell) (z : Nat) (h22 : tc.contents.length = 22) (hn : 0 < tc.len) (h18 : tc.len < 18) :
    ∃ tc', tc.append z = .ok tc' ∧ tc'.len = tc.len + (Utf8.encode z).length ∧
      liveOf tc' = liveOf tc ++ Utf8.encode z ∧ tc'.contents.length = 22 ∧
      tc'.wide = tc.wide ∧ tc'.cont = tc.cont ∧ tc'.attrs = tc.attrs := by
  have hl := Utf8.encode_length_bounds z
  have e : tc.append z = .ok (appendResult tc z) := by
    rw [Cell.append_eq h22, if_neg (by omega), if_neg (by omega)]
  refine ⟨appendResult tc z, e, rfl, ?_, ?_, rfl, rfl, rfl⟩
  · simp only [liveOf, appendResult]
    rw [List.take_append_of_le_length (by simp [List.length_take, h22]; omega)]
    rw [List.take_of_length_le (by simp [List.length_take, h22]; omega)]
  · simp only [appendResult, List.length_append, List.length_take, List.length_drop, h22]; omega

/-- every append of the run happens below the stop: `n` = live length before it -/
def prefixOk : Nat → List Nat → Prop
  | _, [] => True
  | n, z :: rest => n < 18 ∧ prefixOk (n + (Utf8.encode z).length) rest

theorem appendAll_facts : ∀ (zs : List Nat) (tc : Cell), tc.contents.length = 22 → 0 < tc.len → prefixOk tc.len zs →
    ∃ tc', zs.foldlM (fun c z => c.append z) tc = .ok tc' ∧
      tc'.len = tc.len + (zs.flatMap Utf8.encode).length ∧
      liveOf tc' = liveOf tc ++ zs.flatMap Utf8.encode ∧ tc'.contents.length = 22 ∧
      tc'.wide = tc.wide ∧ tc'.cont = tc.cont ∧ tc'.attrs = tc.attrs
  | [], tc, h22, _, _ => ⟨tc, rfl, by simp, by simp, h22, rfl, rfl, rfl⟩
  | z :: zs, tc, h22, hn, hp => by
    obtain ⟨t1, e1, l1, v1, c1, w1, k1, a1⟩ := append_facts tc z h22 hn hp.1
    obtain ⟨t2, e2, l2, v2, c2, w2, k2, a2⟩ := appendAll_facts zs t1 c1 (by omega) (by rw [l1]; exact hp.2)
    refine ⟨t2, by simp only [List.foldlM_cons, e1, ok_bind, e2], ?_, ?_, c2, w2.trans w1, k2.trans k1, a2.trans a1⟩
    · rw [l2, l1]; simp [List.flatMap_cons]; omega
    · rw [v2, v1]; simp [List.flatMap_cons]

variable (W : Nat → Option Nat)

def withCell (g : Grid) (row : Row) (t : Nat) (c : Cell) : Grid :=
  { g with rows := g.rows.set g.pos.row { row with cells := row.cells.set t c } }

theorem type_zeros (a : Attrs) : ∀ (zs : List Nat) (g : Grid) (row : Row) (t : Nat) (tc : Cell),
    (∀ z ∈ zs, W z = some 0) → 0 < g.pos.col → g.pos.col ≤ g.size.cols →
    g.rows[g.pos.row]? = some row →
    (∃ prev, row.cells[g.pos.col - 1]? = some prev ∧
      ((prev.cont = true ∧ t = g.pos.col - 2 ∧ 2 ≤ g.pos.col) ∨ (prev.cont = false ∧ t = g.pos.col - 1))) →
    row.cells[t]? = some tc → tc.contents.length = 22 → 0 < tc.len → prefixOk tc.len zs →
    ∃ tc', zs.foldlM (fun c z => c.append z) tc = .ok tc' ∧
      typeChars W a zs g = .ok (withCell g row t tc')
  | [], g, row, t, tc, _, _, _, hrow, _, htc, _, _, _ => by
    refine ⟨tc, rfl, ?_⟩
    simp only [typeChars, List.foldlM_nil, pure_eq_ok, withCell, Except.ok.injEq, set_getElem?_self htc]
    rw [set_getElem?_self hrow]
  | z :: zs, g, row, t, tc, hz, hc0, hc, hrow, hprev, htc, h22, hn, hp => by
    obtain ⟨prev, hpv, hcase⟩ := hprev
    obtain ⟨t1, e1, l1, _, c1, _, k1, _⟩ := append_facts tc z h22 hn hp.1
    have ht : t = if prev.cont then g.pos.col - 2 else g.pos.col - 1 := by
      rcases hcase with ⟨hk, ht, _⟩ | ⟨hk, ht⟩ <;> simp [hk, ht]
    have h2 : prev.cont = true → 2 ≤ g.pos.col := by
      intro hk; rcases hcase with ⟨_, _, h⟩ | ⟨hk', _⟩
      · exact h
      · rw [hk] at hk'; simp at hk'
    have estep := type_zero W (g := g) a z row prev tc t1 t (hz z (List.mem_cons_self ..)) hc0 hc hrow hpv ht h2 htc e1
    -- the state after the first append
    have hrowlt := getElem?_lt hrow
    have htlt := getElem?_lt htc
    have hrow1 : (withCell g row t t1).rows[(withCell g row t t1).pos.row]? =
        some { row with cells := row.cells.set t t1 } := by
      simp [withCell, hrowlt]
    have hprev1 : ∃ prev1, ({ row with cells := row.cells.set t t1 } : Row).cells[(withCell g row t t1).pos.col - 1]? = some prev1 ∧
        ((prev1.cont = true ∧ t = (withCell g row t t1).pos.col - 2 ∧ 2 ≤ (withCell g row t t1).pos.col) ∨
         (prev1.cont = false ∧ t = (withCell g row t t1).pos.col - 1)) := by
      rcases hcase with ⟨hk, ht', h2'⟩ | ⟨hk, ht'⟩
      · refine ⟨prev, ?_, Or.inl ⟨hk, ht', h2'⟩⟩
        simp only [withCell, List.getElem?_set]
        rw [if_neg (by omega)]; exact hpv
      · have : tc = prev := by rw [ht'] at htc; rw [htc] at hpv; exact Option.some.inj hpv
        refine ⟨t1, ?_, Or.inr ⟨by rw [k1, this]; exact hk, ht'⟩⟩
        simp only [withCell, List.getElem?_set]
        rw [if_pos ht']
        simp [htlt]
    have htc1 : ({ row with cells := row.cells.set t t1 } : Row).cells[t]? = some t1 := by simp [htlt]
    obtain ⟨tc', e2, e3⟩ := type_zeros a zs (withCell g row t t1) _ t t1 (fun x hx => hz x (List.mem_cons_of_mem _ hx))
      hc0 hc hrow1 hprev1 htc1 c1 (by omega) (by rw [l1]; exact hp.2)
    refine ⟨tc', by simp only [List.foldlM_cons, e1, ok_bind, e2], ?_⟩
    simp only [typeChars, List.foldlM_cons] at e3 ⊢
    rw [estep]
    simp only [ok_bind]
    have : ({ g with rows := g.rows.set g.pos.row { row with cells := row.cells.set t t1 } } : Grid) = withCell g row t t1 := rfl
    rw [this, e3]
    simp [withCell, List.set_set]

def typedView (W : Nat → Option Nat) (a : Attrs) (f : Nat) (zs : List Nat) : View :=
  ⟨(Utf8.encode f ++ zs.flatMap Utf8.encode).length, decide ((W f).getD 1 > 1), false, a,
    Utf8.encode f ++ zs.flatMap Utf8.encode⟩

def blankA (a : Attrs) : View := ⟨0, false, false, a, []⟩
def blankV : View := blankA Attrs.default
def contV : View := ⟨0, false, true, Attrs.default, []⟩

theorem view_clear (c : Cell) (a : Attrs) : view (c.clear a) = blankA a := by
  simp [view, Cell.clear, blankA]

theorem typeChars_cons (a : Attrs) (f : Nat) (zs : List Nat) (g : Grid) :
    typeChars W a (f :: zs) g = (g.text W a f >>= fun g1 => typeChars W a zs g1) := by
  simp [typeChars, List.foldlM_cons]

/-- `c'`: where the cursor stands once the first character `f` has been set — one column on, or two with a continuation
cell in between (`hprev`) -/
theorem type_cell_rest (a : Attrs) (f : Nat) (zs : List Nat) {g : Grid} {row : Row} {cells : List Cell}
    {cell0 c1 : Cell} {c' : Nat} (h22 : cell0.contents.length = 22) (hset : cell0.set W f a = .ok c1)
    (e1 : g.text W a f = .ok (typed g row cells c')) (hrow : g.pos.row < g.rows.length)
    (hc1 : cells[g.pos.col]? = some c1) (hc0 : 0 < c') (hc : c' ≤ g.size.cols)
    (hprev : ∃ prev, cells[c' - 1]? = some prev ∧
      ((prev.cont = true ∧ g.pos.col = c' - 2 ∧ 2 ≤ c') ∨ (prev.cont = false ∧ g.pos.col = c' - 1)))
    (hz : ∀ z ∈ zs, W z = some 0) (hp : prefixOk (Utf8.encode f).length zs) :
    ∃ cellF, typeChars W a (f :: zs) g = .ok (typed g row (cells.set g.pos.col cellF) c') ∧
      view cellF = typedView W a f zs ∧ cellF.contents.length = 22 := by
  obtain ⟨c1', es, l1, v1, k1, w1, ct1, a1⟩ := set_facts W cell0 f a h22
  obtain rfl : c1' = c1 := Except.ok.inj (es.symm.trans hset)
  have hl := Utf8.encode_length_bounds f
  obtain ⟨tF, eF, lF, vF, kF, wF, ctF, aF⟩ := appendAll_facts zs c1' k1 (by omega) (by rw [l1]; exact hp)
  obtain ⟨tc', e2, e3⟩ := type_zeros W a zs (typed g row cells c') { row with cells := cells } g.pos.col c1' hz
    hc0 hc (by simp [typed, hrow]) hprev hc1 k1 (by omega) (by rw [l1]; exact hp)
  obtain rfl : tF = tc' := Except.ok.inj (eF.symm.trans e2)
  refine ⟨tF, ?_, ?_, kF⟩
  · rw [typeChars_cons, e1]
    simp only [ok_bind, e3]
    simp [withCell, typed, List.set_set]
  · simp only [view, typedView, View.mk.injEq]
    refine ⟨?_, by rw [wF, w1], by rw [ctF, ct1], by rw [aF, a1], ?_⟩
    · rw [lF, l1]; simp
    · exact vF.trans (by rw [v1])

/-- **a narrow cell**: its character and combining characters typed on a plain cell with room -/
theorem type_cell_narrow {g : Grid} (hu : g.size.cols ≤ 65535) (a : Attrs) (f : Nat) (zs : List Nat) (row : Row)
    (cell0 : Cell) (hw : (W f).getD 1 = 1) (hnc : ¬ (W f = none ∧ f < 256)) (hz : ∀ z ∈ zs, W z = some 0)
    (hcol : g.pos.col + 1 ≤ g.size.cols) (hrow : g.rows[g.pos.row]? = some row)
    (hcell0 : row.cells[g.pos.col]? = some cell0) (h0w : cell0.wide = false) (h0c : cell0.cont = false)
    (h22 : cell0.contents.length = 22) (hp : prefixOk (Utf8.encode f).length zs) :
    ∃ cellF, typeChars W a (f :: zs) g = .ok (typed g row (row.cells.set g.pos.col cellF) (g.pos.col + 1)) ∧
      view cellF = typedView W a f zs ∧ cellF.contents.length = 22 := by
  obtain ⟨c1, es, e1⟩ := type_narrow W hu a f row cell0 hw hnc hcol hrow hcell0 h0w h0c
  have hi0 := getElem?_lt hcell0
  have hct : c1.cont = false := by
    obtain ⟨_, es', _, _, _, _, h, _⟩ := set_facts W cell0 f a h22
    rw [← Except.ok.inj (es'.symm.trans es)]; exact h
  obtain ⟨cellF, e, hv⟩ := type_cell_rest W a f zs h22 es e1 (getElem?_lt hrow) (by simp [hi0]) (Nat.succ_pos _) hcol
    ⟨c1, by simp [hi0], Or.inr ⟨hct, rfl⟩⟩ hz hp
  exact ⟨cellF, by rw [e, List.set_set], hv⟩

end Vt.Recv
