/-
  Vt.Lemmas.VteFeed — the carry buffer (`partial_utf8`) is input that has not been consumed yet.

  `Vte.feed v bs` is the loop of the carry-free automaton on `v.carry ++ bs`: what `advance` is meant to do, and an action
  of byte strings on automaton states (`feed_append`, no hypothesis).  Behind it is `run_pending`, the one walk of the loop
  that looks at what follows a chunk; `run_inv` is the other walk: what the loop keeps.

  `advance` is `feed` when the carry is empty (`advance_eq_run`, `feed_of_carry`).  With bytes pending it goes through
  `advance_partial_utf8`, described twice: `advancePartial_cases` (whatever the carry holds: enough for invariants) and
  `advance_pending` (the carry a truncated character `k`: what `advance` makes of `b`, by the first token of `k ++ b`).
  Against the loop on `k ++ b` (`run_trunc`, `run_char`, `run_invalid_trunc`) it differs in `print` for `groundDispatch`
  and in the bytes skipped when `C04cut.WindowLoses` holds — finding F10.  `C04cut.WindowLoses` stands first in this file,
  since `advance_pending` speaks of it; what follows from it about cuts is in Props/C04cut.lean.
-/
import Vt.Lemmas.VteStep
namespace Vt

namespace C04cut
open Utf8

/-- **the F10 situation**, on the carry buffer `k` (= vte's `partial_utf8`) and the next chunk `b`: the window
`k ++ take (4 - |k|) b` that `advance_partial_utf8` hands to `from_utf8` is NOT valid as a whole and its valid prefix is
strictly longer than its first character.  vte then prints only the first character and skips the rest of the valid
prefix.  (`false` when the carry is empty: no window then.) -/
def WindowLoses (k b : List Nat) : Bool :=
  !k.isEmpty &&
    ((fromUtf8 (k ++ b.take (4 - k.length))).err.isSome &&
      decide (lenUtf8 ((fromUtf8 (k ++ b.take (4 - k.length))).chars.headD 0) <
        (fromUtf8 (k ++ b.take (4 - k.length))).validUpTo))

theorem window_eq (k b : List Nat) (hk : k.length ≤ 4) : k ++ b.take (4 - k.length) = (k ++ b).take 4 := by
  rw [List.take_append, List.take_of_length_le hk]

theorem windowLoses_eq {k : List Nat} (hk : Trunc k) (b : List Nat) :
    WindowLoses k b = ((fromUtf8 ((k ++ b).take 4)).err.isSome &&
      decide (lenUtf8 ((fromUtf8 ((k ++ b).take 4)).chars.headD 0) < (fromUtf8 ((k ++ b).take 4)).validUpTo)) := by
  obtain ⟨h1, h3, _, _⟩ := hk.props
  unfold WindowLoses
  rw [window_eq k b (by omega), List.isEmpty_eq_false_iff.mpr (List.ne_nil_of_length_pos h1)]
  rfl

theorem window_char {enc : List Nat} {c : Nat} (he : Enc enc c) (s' : List Nat) :
    fromUtf8 ((enc ++ s').take 4) = (fromUtf8 (s'.take (4 - enc.length))).cons c enc.length := by
  rw [List.take_append, List.take_of_length_le he.length_le, he.decode]

/-- the offending byte `y` is inside the 4-byte window -/
theorem window_invalid {g : List Nat} {y : Nat} (hg : Trunc g)
    (hbad : ∀ rest, fromUtf8 (g ++ y :: rest) = Res.stop (some g.length)) (s'' : List Nat) :
    fromUtf8 ((g ++ y :: s'').take 4) = Res.stop (some g.length) := by
  have h3 := hg.props.2.1
  rw [List.take_append, List.take_of_length_le (by omega), show 4 - g.length = (3 - g.length) + 1 by omega,
    List.take_succ_cons, hbad]

end C04cut

namespace Vte
open Utf8

def clear (v : Vte) : Vte := { v with carry := [] }

theorem clear_of_carry {v : Vte} (hc : v.carry = []) : v.clear = v := by
  cases v; cases hc; rfl

def feed (v : Vte) (bs : List Nat) : Vte × List Action := v.clear.run (v.carry ++ bs)

theorem feed_of_carry {v : Vte} (hc : v.carry = []) (bs : List Nat) : v.feed bs = v.run bs := by
  rw [feed, clear_of_carry hc, hc, List.nil_append]

/-- what the automaton can hold between two calls -/
def PendOk (v : Vte) : Prop := v.carry = [] ∨ v.state = .ground ∧ Trunc v.carry

structure Pending (v : Vte) (a : List Nat) : Prop where
  pendOk : PendOk (v.run a).1
  suffix : (v.run a).1.carry <:+ a
  append : ∀ b, v.run (a ++ b) = (((v.run a).1.feed b).1, (v.run a).2 ++ ((v.run a).1.feed b).2)

/-- one token consumed without a look at what follows `a` -/
theorem Pending.step {v v' : Vte} {a a' : List Nat} {X : List Action} (h : Pending v' a') (hs : a' <:+ a)
    (e : ∀ b, v.run (a ++ b) = ((v'.run (a' ++ b)).1, X ++ (v'.run (a' ++ b)).2)) : Pending v a := by
  have e0 := e []
  simp only [List.append_nil] at e0
  refine ⟨?_, ?_, fun b => ?_⟩
  · rw [e0]
    exact h.pendOk
  · rw [e0]
    exact h.suffix.trans hs
  · rw [e b, h.append b, e0, List.append_assoc]

/-- **the carry buffer is pending input**: along the tokens of `a`, only a truncated character at its end is kept back,
and no other token is consumed with a look at what follows `a` -/
theorem run_pending {v : Vte} (hc : v.carry = []) (a : List Nat) : Pending v a := by
  induction v, a using run_induct with
  | nil v => exact ⟨.inl hc, List.suffix_nil.mpr hc, fun b => by rw [run_nil, feed_of_carry hc]; rfl⟩
  | nonground v x a hg ih =>
    exact (ih ((changeState_step v x).carry.trans hc)).step (List.suffix_cons x a) fun b => run_nonground hg x (a ++ b)
  | esc v s hg ih =>
    exact (ih hc).step (X := []) (List.suffix_cons _ s) fun b => run_esc hg (s ++ b)
  | char v enc c s hg he hesc ih =>
    exact (ih hc).step (List.suffix_append enc s) fun b => by rw [List.append_assoc, run_char hg he hesc]
  | trunc v a hg ht =>
    have e : v.run a = ({ v with carry := a }, []) := by rw [run_trunc hg ht, hc]; rfl
    refine ⟨.inr (by rw [e]; exact ⟨hg, ht⟩), by rw [e]; exact List.suffix_refl a, fun b => ?_⟩
    rw [e, feed, show ({ v with carry := a } : Vte).clear = v from (clear_of_carry hc ▸ rfl : _)]
    rfl
  | invalid v a n hg h1 h2 ha hn ih =>
    refine (ih hc).step (List.drop_suffix n a)
      (X := [if n == 1 && a.getD 0 0 ≤ 0x9F then Action.execute (a.getD 0 0) else .print REPLACEMENT]) fun b => ?_
    rw [run_invalid hg (hn b), List.drop_append_of_le_length h2]
    simp only [List.getD, List.getElem?_append_left (Nat.lt_of_lt_of_le h1 h2)]
    rfl

/-- **`feed` is an action of byte strings on automaton states** -/
theorem feed_append (v : Vte) (a b : List Nat) :
    v.feed (a ++ b) = (((v.feed a).1.feed b).1, (v.feed a).2 ++ ((v.feed a).1.feed b).2) := by
  rw [feed, ← List.append_assoc]
  exact (run_pending (v := v.clear) rfl (v.carry ++ a)).append b

theorem feed_nil {v : Vte} (h : PendOk v) : v.feed [] = (v, []) := by
  rcases h with hc | ⟨hg, ht⟩
  · rw [feed_of_carry hc]; rfl
  · rw [feed, List.append_nil, run_trunc (v := v.clear) hg ht]
    cases v; rfl

theorem pendOk_feed (v : Vte) (a : List Nat) : PendOk (v.feed a).1 :=
  (run_pending (v := v.clear) rfl _).pendOk

theorem run_carry {v : Vte} (hc : v.carry = []) {a : List Nat} (h : ∀ g, g <:+ a → ¬ Trunc g) :
    (v.run a).1.carry = [] :=
  (run_pending hc a).pendOk.resolve_right fun ⟨_, ht⟩ => h _ (run_pending hc a).suffix ht

theorem run_inv {P : Vte → Prop} {Q : Action → Prop}
    (step : ∀ v b, v.state ≠ .ground → P v → P (v.changeState b).1 ∧ ∀ a ∈ (v.changeState b).2, Q a)
    (esc : ∀ v, v.state = .ground → P v → P { v.resetParams with state := .escape })
    (trunc : ∀ v k, v.state = .ground → Trunc k → P v → P { v with carry := v.carry ++ k })
    (char : ∀ c, isScalar c = true → Q (.print c)) (exec : ∀ b, Q (.execute b))
    (v : Vte) (a : List Nat) (h : P v) : P (v.run a).1 ∧ ∀ x ∈ (v.run a).2, Q x := by
  have cons {x : Action} {l : List Action} (hx : Q x) (hl : ∀ y ∈ l, Q y) : ∀ y ∈ x :: l, Q y :=
    fun y hy => (List.mem_cons.mp hy).elim (· ▸ hx) (hl y)
  induction v, a using run_induct with
  | nil v => exact ⟨h, nofun⟩
  | nonground v b rest hg ih =>
    rw [run_nonground hg]
    exact ⟨(ih (step v b hg h).1).1,
      fun x hx => (List.mem_append.mp hx).elim ((step v b hg h).2 x) ((ih (step v b hg h).1).2 x)⟩
  | esc v s hg ih => rw [run_esc hg]; exact ih (esc v hg h)
  | char v enc c s hg he hesc ih =>
    rw [run_char hg he hesc]
    refine ⟨(ih h).1, cons ?_ (ih h).2⟩
    show Q (if _ then _ else _)
    split
    · exact exec c
    · exact char c he.scalar
  | trunc v a hg ht => rw [run_trunc hg ht]; exact ⟨trunc v _ hg ht h, nofun⟩
  | invalid v a n hg _ _ hn _ ih =>
    rw [run_invalid hg hn]
    refine ⟨(ih h).1, cons ?_ (ih h).2⟩
    split
    · exact exec _
    · exact char _ (by decide)

/-- **what `advance_partial_utf8` can do**, whatever the carry holds: it prints one scalar value and empties the carry,
or the whole chunk joins the carry, which is still a truncated character -/
theorem advancePartial_cases (v : Vte) (bytes : List Nat) :
    (∃ c n, isScalar c = true ∧ v.advancePartialUtf8 bytes = ({ v with carry := [] }, [.print c], n)) ∨
    Trunc (v.carry ++ bytes) ∧ v.advancePartialUtf8 bytes = ({ v with carry := v.carry ++ bytes }, [], bytes.length) := by
  have hhead (a : List Nat) : isScalar ((fromUtf8 a).chars.headD 0) = true := by
    cases hc : (fromUtf8 a).chars with
    | nil => rfl
    | cons x xs => exact fromUtf8_chars_scalar a x (by rw [hc]; exact List.mem_cons_self ..)
  unfold advancePartialUtf8
  simp only
  generalize hbuf : v.carry ++ bytes.take (min bytes.length (4 - v.carry.length)) = buf
  cases he : (fromUtf8 buf).err with
  | none => exact .inl ⟨_, _, hhead buf, rfl⟩
  | some e =>
    simp only
    split
    · exact .inl ⟨_, _, hhead buf, rfl⟩
    · cases e with
      | some len => exact .inl ⟨_, _, by decide, rfl⟩
      | none =>
        -- a truncated character has at most 3 bytes, so the 4-byte window was not cut short
        have ht : Trunc buf := trunc_of_err he (by omega)
        have hl := ht.props.2.1
        have hb : buf = v.carry ++ bytes := by
          rw [← hbuf] at hl ⊢
          simp only [List.length_append, List.length_take] at hl
          rw [List.take_of_length_le (by omega)]
        subst hb
        refine .inr ⟨ht, ?_⟩
        simp only [List.length_append] at hl
        rw [Nat.min_eq_left (by omega)]

/-- the bytes `advance` consumes of the chunk `b` are a position in the window `k ++ b` minus the carry's length
(`validUpTo - old`, `lenUtf8 c - old`, `invalidLen - old` in the model) -/
theorem drop_of_append_eq {k b g t : List Nat} (e : k ++ b = g ++ t) (h : k.length ≤ g.length) (n : Nat) :
    b.drop (g.length + n - k.length) = t.drop n := by
  have h1 : (k ++ b).drop (g.length + n) = b.drop (g.length + n - k.length) := by
    rw [List.drop_append, List.drop_of_length_le (by omega), List.nil_append]
  rw [← h1, e, ← List.drop_drop, List.drop_left]

open C04cut in
/-- `r` is what `advance` makes of `b` when the automaton is `v` with the truncated character `k` as its carry, by the
first token of `k ++ b` (`Utf8.Trunc.first_token`).  `char`: the completed character is PRINTED (the loop would dispatch
it) and the loop goes on behind it — behind the whole valid prefix of the 4-byte window when `WindowLoses`.  `invalid`:
U+FFFD, and the loop goes on at `y`, as it does without a cut. -/
structure PendTok (v : Vte) (k b : List Nat) (r : Vte × List Action) : Prop where
  more : Trunc (k ++ b) → r = ({ v with carry := k ++ b }, [])
  char : ∀ {enc : List Nat} {c : Nat} {s' : List Nat}, k ++ b = enc ++ s' → k.length < enc.length → Enc enc c →
    r = ((v.run (s'.drop (if WindowLoses k b then (fromUtf8 (s'.take (4 - enc.length))).validUpTo else 0))).1,
      .print c ::
        (v.run (s'.drop (if WindowLoses k b then (fromUtf8 (s'.take (4 - enc.length))).validUpTo else 0))).2)
  invalid : ∀ {g : List Nat} {y : Nat} {s'' : List Nat}, k ++ b = g ++ y :: s'' → Trunc g → k.length ≤ g.length →
    (∀ rest, fromUtf8 (g ++ y :: rest) = Res.stop (some g.length)) →
    r = ((v.run (y :: s'')).1, .print REPLACEMENT :: (v.run (y :: s'')).2)

open C04cut in
theorem advance_pending {v : Vte} (hk : Trunc v.carry) (b : List Nat) : PendTok v.clear v.carry b (v.advance b) := by
  obtain ⟨h1, h3, _, _⟩ := hk.props
  have hne : v.carry ≠ [] := fun h => by rw [h] at h1; cases h1
  -- the buffer handed to `from_utf8` is the first 4 bytes of `v.carry ++ b`
  have hwin : v.carry ++ b.take (min b.length (4 - v.carry.length)) = (v.carry ++ b).take 4 := by
    rw [Nat.min_comm, ← List.take_eq_take_min, window_eq v.carry b (by omega)]
  have hWL := windowLoses_eq hk b
  rw [advance_eq, if_neg hne]
  unfold advancePartialUtf8 clear
  simp only [hwin]
  refine ⟨fun hkb => ?_, fun {enc c s'} e hl he => ?_, fun {g y s''} e hgi hl hbad => ?_⟩
  · have h3' := hkb.props.2.1
    have hlen : min b.length (4 - v.carry.length) = b.length := by rw [List.length_append] at h3'; omega
    rw [List.take_of_length_le (by omega), hkb.stop]
    simp only [Res.stop, Nat.lt_irrefl, ↓reduceIte, hlen, List.drop_length, run_nil, List.append_nil]
  · rw [e, window_char he] at hWL ⊢
    have hpos := he.length_pos
    cases hs : (fromUtf8 (s'.take (4 - enc.length))).err with
    | none =>
      have hd := drop_of_append_eq e (Nat.le_of_lt hl) 0
      rw [Nat.add_zero, List.drop_zero] at hd
      simp [hWL, Res.cons, hs, he.lenUtf8, hd]
    | some x =>
      have h0 : 0 < enc.length + (fromUtf8 (s'.take (4 - enc.length))).validUpTo := by omega
      simp only [hWL, Res.cons, hs, List.headD_cons, gt_iff_lt, h0, ↓reduceIte, he.lenUtf8,
        drop_of_append_eq e (Nat.le_of_lt hl), Option.isSome_some, Bool.true_and, Nat.lt_add_right_iff_pos,
        decide_eq_true_eq, List.cons_append, List.nil_append]
      split
      · rfl
      · rw [show (fromUtf8 (s'.take (4 - enc.length))).validUpTo = 0 by omega]
  · have hd := drop_of_append_eq e hl 0
    rw [Nat.add_zero, List.drop_zero] at hd
    rw [e, window_invalid hgi hbad]
    simp only [Res.stop, Nat.lt_irrefl, ↓reduceIte, hd, List.cons_append, List.nil_append]

theorem run_invalid_trunc {v : Vte} (hg : v.state = .ground) {g : List Nat} {y : Nat} (hgi : Trunc g)
    (hbad : ∀ rest, fromUtf8 (g ++ y :: rest) = Res.stop (some g.length)) (s : List Nat) :
    v.run (g ++ y :: s) = ((v.run (y :: s)).1, .print REPLACEMENT :: (v.run (y :: s)).2) := by
  obtain ⟨h1, _, _, h0⟩ := hgi.props
  have h0' : decide ((g ++ y :: s).getD 0 0 ≤ 0x9F) = false := by
    simp only [List.getD, List.getElem?_append_left h1] at h0 ⊢
    exact decide_eq_false (by omega)
  rw [run_invalid hg (hbad s), List.drop_left, h0']
  simp only [Bool.and_false, Bool.false_eq_true, ↓reduceIte]

end Vte
end Vt
