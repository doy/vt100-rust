/-
  Vt.Lemmas.RowOps — `Row::truncate` and `Row::resize` in closed form (`truncate_eq`, `resize_eq`: cut or pad, then
  `blankLastWide`), and what they make of a well-formed line: a line cut to a width is the line cut with nothing right of
  the cut, a line padded with blanks stays as it is.
-/
import Vt.Lemmas.RowInv
namespace Vt

variable (W : Nat → Option Nat)

theorem decomp1 {α} {cs : List α} {i : Nat} {c : α} (hc : cs[i]? = some c) :
    ∃ a b, cs = a ++ c :: b ∧ a.length = i :=
  ⟨cs.take i, cs.drop (i + 1), eq_take_cons_drop hc, by simp [List.length_take, Nat.min_eq_left (Nat.le_of_lt (getElem?_lt hc))]⟩

theorem decomp2 {α} {cs : List α} {i : Nat} {c d : α} (hc : cs[i]? = some c) (hd : cs[i + 1]? = some d) :
    ∃ a b, cs = a ++ c :: d :: b ∧ a.length = i := by
  obtain ⟨hi1, rfl⟩ := List.getElem?_eq_some_iff.mp hd
  refine ⟨cs.take i, cs.drop (i + 2), ?_, by rw [List.length_take]; omega⟩
  rw [← List.drop_eq_getElem_cons hi1]
  exact eq_take_cons_drop hc

theorem cellsInv_of_append {a b : List Cell} (h : CellsInv W (a ++ b)) :
    (∀ c ∈ a, cellOk W c = true) ∧ (∀ c ∈ b, cellOk W c = true) :=
  ⟨fun c hc => h.cells_ok c (List.mem_append_left _ hc), fun c hc => h.cells_ok c (List.mem_append_right _ hc)⟩

theorem cellOk_new : cellOk W Cell.new = true := by simp [cellOk, Cell.new, Utf8.fromUtf8]

theorem pairThrough_replicate_new (n : Nat) : pairThrough false (List.replicate n Cell.new) = some false := by
  induction n with
  | zero => rfl
  | succ n ih => simp [List.replicate_succ, pairThrough, Cell.new] at ih ⊢; exact ih

theorem cellsInv_replicate_new (n : Nat) : CellsInv W (List.replicate n Cell.new) :=
  ⟨fun _ hx => (List.mem_replicate.mp hx).2 ▸ cellOk_new W, pairThrough_replicate_new n⟩

theorem links_replicate_new (n : Nat) : Links (List.replicate n Cell.new) :=
  (links_iff _).mpr ⟨pairThrough_replicate_new n, fun c hc _ => by rw [(List.mem_replicate.mp hc).2]; rfl⟩

/-- the line with a wide character in its last cell blanked: how `Row::truncate` and `Row::resize` end -/
def blankLastWide (cs : List Cell) : List Cell := cutLastF (fun c => if c.isWide then c.clear c.attrs else c) true cs

@[simp] theorem length_blankLastWide (cs : List Cell) : (blankLastWide cs).length = cs.length := length_cutLastF ..

theorem getElem?_blankLastWide (cs : List Cell) (j : Nat) :
    (blankLastWide cs)[j]? = cs[j]?.map fun x => if j + 1 = cs.length ∧ x.wide = true then x.clear x.attrs else x := by
  rw [blankLastWide, getElem?_cutLastF]
  cases cs[j]? with
  | none => rfl
  | some x => by_cases h : j + 1 = cs.length <;> by_cases hw : x.wide = true <;> simp [h, hw, Cell.isWide]

theorem forall_mem_blankLastWide {P : Cell → Prop} (hf : ∀ x, P x → P (x.clear x.attrs)) {cs : List Cell}
    (h : ∀ x ∈ cs, P x) : ∀ x ∈ blankLastWide cs, P x :=
  forall_mem_cutLastF (fun x hx => by split; exact hf x hx; exact hx) h true

theorem resize_eq (r : Row) (len : Nat) (x : Cell) : r.resize len x = ⟨blankLastWide (resizeList r.cells len x), false⟩ := by
  unfold Row.resize
  generalize resizeList r.cells len x = cs
  rcases List.eq_nil_or_concat cs with rfl | ⟨L, c, rfl⟩
  · rfl
  · rw [List.concat_eq_append, blankLastWide, cutLastF_concat]
    by_cases hw : c.isWide = true <;> simp [hw]

theorem truncate_eq {r : Row} {len : Nat} (h1 : 1 ≤ len) (h2 : len ≤ r.cells.length) :
    r.truncate len = .ok ⟨blankLastWide (r.cells.take len), false⟩ := by
  have hcut : (r.cells.take len).length = len := by rw [List.length_take]; exact Nat.min_eq_left h2
  simp only [Row.truncate, subM_ok h1, ok_bind, pure_eq_ok, modifyM_eq, hcut, if_pos (Nat.sub_lt h1 Nat.one_pos),
    blankLastWide, cutLastF, if_true]

theorem blankLastWide_of_links {cs : List Cell} (h : Links cs) : blankLastWide cs = cs := by
  rcases List.eq_nil_or_concat cs with rfl | ⟨L, c, rfl⟩
  · rfl
  · rw [List.concat_eq_append] at h ⊢
    rw [blankLastWide, cutLastF_concat, Cell.isWide, pairThrough_nil_out h.split.2.1]
    rfl

theorem links_blankLastWide_take {cs : List Cell} (h : Links cs) {n : Nat} (h2 : n ≤ cs.length) :
    Links (blankLastWide (cs.take n)) := by
  cases n with
  | zero => exact links_replicate_new 0
  | succ m =>
    have hc := List.getElem?_eq_getElem (Nat.lt_of_succ_le h2)
    generalize cs[m] = c at hc
    obtain ⟨a, b, rfl, rfl⟩ := decomp1 hc
    obtain ⟨hA, -, hex⟩ := h.split
    have e : blankLastWide ((a ++ c :: b).take (a.length + 1)) = cutLastF (fun c => c.clear c.attrs) c.wide (a ++ [c]) := by
      rw [List.take_append, Nat.add_sub_cancel_left, List.take_of_length_le (Nat.le_add_right ..), List.take_succ_cons,
        List.take_zero, blankLastWide, cutLastF_concat, Cell.isWide]
      cases hw : c.wide
      · rfl
      · rw [cutLastF_concat]; rfl
    rw [e]
    refine links_cutLastF noFlags_clear_self (fun x hx => hex x ?_) (by rw [pairThrough_append, hA]; simp [pairThrough])
    simp only [List.mem_append, List.mem_cons, List.not_mem_nil, or_false] at hx ⊢
    exact hx.imp_right Or.inl

theorem cellsInv_blankLastWide_take {cs : List Cell} (h : CellsInv W cs) {n : Nat} (h2 : n ≤ cs.length) :
    CellsInv W (blankLastWide (cs.take n)) :=
  ⟨forall_mem_blankLastWide (fun x => cellOk_clear W x x.attrs) fun x hx => h.cells_ok x (List.mem_of_mem_take hx),
    (links_blankLastWide_take h.links h2).paired⟩

theorem resize_blanks {L : List Cell} (h : Links L) (wk : Bool) (k : Nat) :
    (⟨L, wk⟩ : Row).resize (L.length + k) Cell.new = ⟨L ++ List.replicate k Cell.new, false⟩ := by
  rw [resize_eq, resizeList, List.take_of_length_le (Nat.le_add_right ..), Nat.add_sub_cancel_left,
    blankLastWide_of_links (h.append (links_replicate_new k))]

theorem resize_inv {r : Row} {len : Nat} (hinv : CellsInv W r.cells) :
    CellsInv W (r.resize len Cell.new).cells ∧ (r.resize len Cell.new).cells.length = len ∧
      (r.resize len Cell.new).wrapped = false := by
  refine ⟨?_, by rw [resize_eq, length_blankLastWide, resizeList, List.length_append, List.length_take,
    List.length_replicate]; omega, by rw [resize_eq]⟩
  by_cases hle : len ≤ r.cells.length
  · rw [resize_eq, resizeList, Nat.sub_eq_zero_of_le hle, List.replicate_zero, List.append_nil]
    exact cellsInv_blankLastWide_take W hinv hle
  · obtain ⟨k, rfl⟩ := Nat.exists_eq_add_of_le (Nat.le_of_not_le hle)
    rw [resize_blanks hinv.links]
    exact hinv.append (cellsInv_replicate_new W k)

end Vt
