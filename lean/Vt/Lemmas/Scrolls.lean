/-
  Vt.Lemmas.Scrolls — the operations that can scroll a line off the top.

  `Scrolls R`: a relation between a grid and a later one that redrawing respects and one step of `scroll_up`
  (`suF`, Vt/Lemmas/Lines.lean) respects.  `scrollUp`, `rowIncScroll`, `colWrap` and `text` then stay inside
  `R`, and run with another scrollback offset return the same up to the offset: `PassesG R` / `PassesP R` (Lemmas/Frame).
-/
import Vt.Lemmas.Frame
import Vt.Lemmas.Lines
import Vt.Lemmas.Grid
namespace Vt.C12
open Vt

structure Scrolls (R : Grid → Grid → Prop) : Prop where
  trans : ∀ {a b c}, R a b → R b c → R a c
  draws : ∀ {g g'}, g.Draws g' → R g g'
  step : ∀ g, R g (suF g)

theorem Scrolls.any : Scrolls fun _ _ => True :=
  ⟨fun _ _ => trivial, fun _ => trivial, fun _ => trivial⟩

section scrolls
variable {R : Grid → Grid → Prop} (hR : Scrolls R)
include hR

theorem Scrolls.refl (g : Grid) : R g g := hR.draws (Grid.Draws.refl g)

/-- one step of `scroll_up`: the only place where the offset is both read and written -/
theorem scrollUpStep_passes : PassesG R scrollUpStep := fun g k => by
  refine MRel.and_right ?_ (MPred.iff.mpr fun g' e => ((scrollUpStep_iff g g').mp e).2 ▸ hR.step g)
  simp only [scrollUpStep]
  refine MRel.bind_same _ fun _ => MRel.bind_same _ fun (_, _) => MRel.ite (fun _ => ?_) fun _ => MRel.pure rfl
  -- the two new offsets differ, the rest is the same
  exact MRel.bind_same _ fun _ => MRel.ite (fun _ => MRel.pure rfl) fun _ => MRel.pure rfl

theorem scrollUp_passes (n : Nat) : PassesG R (·.scrollUp n) := fun g k => by
  simp only [scrollUp_eq_iterate]
  exact MRel.bind_same _ fun _ => (scrollUpStep_passes hR).iterate hR.refl hR.trans _ g k

theorem rowIncScroll_passes (n : Nat) : PassesP R (·.rowIncScroll n) := fun g k => by
  simp only [Grid.rowIncScroll, Grid.inScrollRegion]
  refine MRel.bind (rowClampBottom_passes _ { g with pos := _ } k) fun a b hab => ?_
  obtain ⟨h1, h2⟩ := PEq.elim hab.1
  have hb : R g b.1 := hR.draws hab.2.moves.draws
  rw [h2]
  refine MRel.ite (fun _ => ?_) fun _ => MRel.pure ⟨congrArg (fun x => (x, 0)) h1, hb⟩
  exact MRel.bind ((scrollUp_passes hR _).of_geq h1) fun _ _ h' =>
    MRel.pure ⟨congrArg (fun x => (x, b.2)) h'.1, hR.trans hb h'.2⟩

theorem colWrap_passes (w : Nat) (wr : Bool) : PassesG R (·.colWrap w wr) := fun g k => by
  simp only [Grid.colWrap]
  refine MRel.bind_same _ fun _ => MRel.ite (fun _ => ?_) fun _ => MRel.pure ⟨rfl, hR.refl g⟩
  refine MRel.bind (rowIncScroll_passes hR 1 { g with pos := _ } k) fun a b hab => ?_
  obtain ⟨a1, a2⟩ := a
  obtain ⟨b1, b2⟩ := b
  obtain ⟨h1, h2⟩ := PEq.elim hab.1
  simp only at h1 h2
  subst h2
  obtain ⟨k', rfl⟩ := h1.elim
  have hb : R g b1 := hR.trans (hR.draws (Grid.Draws.setPos _ _)) hab.2
  exact MRel.ite (fun _ => MRel.pure ⟨rfl, hb⟩) fun _ => MRel.bind_same _ fun _ => MRel.bind_same _ fun _ =>
    MRel.pure ⟨rfl, hR.trans hb (hR.draws (Grid.Draws.setRows _ _))⟩

theorem text_passes (W : Nat → Option Nat) (a : Attrs) (c : Nat) : PassesG R (·.text W a c) := fun g k => by
  simp only [text_eq_steps]
  refine MRel.ite (fun _ => MRel.ok ⟨rfl, hR.refl g⟩) fun _ => ?_
  refine MRel.bind_same _ fun _ => MRel.bind (colWrap_passes hR _ _ g k) fun _ _ h1 => ?_
  exact MRel.ite
    (fun _ => ((textZero_passes c).of_geq h1.1).mono fun _ _ h => ⟨h.1, hR.trans h1.2 (hR.draws h.2.draws)⟩)
    (fun _ => ((textWide_passes W a c _).of_geq h1.1).mono fun _ _ h => ⟨h.1, hR.trans h1.2 (hR.draws h.2)⟩)

namespace Scrolls
variable (g : Grid)

theorem scrollUp (n : Nat) : MPred (R g) (g.scrollUp n) := (scrollUp_passes hR n).footprint g

theorem rowIncScroll (n : Nat) : MPred (fun p => R g p.1) (g.rowIncScroll n) :=
  (rowIncScroll_passes hR n).footprint g

theorem text (W : Nat → Option Nat) (a : Attrs) (c : Nat) : MPred (R g) (g.text W a c) :=
  (text_passes hR W a c).footprint g

end Scrolls
end scrolls

end Vt.C12
