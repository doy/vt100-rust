/-
  Vt.Lemmas.Except — basic facts about `M = Except Panic` and its primitives `subM`, `getM`, `modifyM`, `insertM`, `removeM`.
-/
import Vt.Model.Prim
namespace Vt

theorem bind_eq_ok {α β} {x : M α} {f : α → M β} {b : β} :
    (x >>= f) = .ok b ↔ ∃ a, x = .ok a ∧ f a = .ok b := by
  cases x with
  | error e => simp [bind, Except.bind]
  | ok a => simp [bind, Except.bind]

@[simp] theorem ok_bind {α β} (a : α) (f : α → M β) : ((Except.ok a : M α) >>= f) = f a := rfl
@[simp] theorem pure_bind' {α β} (a : α) (f : α → M β) : ((pure a : M α) >>= f) = f a := rfl
@[simp] theorem error_bind {α β} (e : Panic) (f : α → M β) : ((Except.error e : M α) >>= f) = .error e := rfl
@[simp] theorem pure_eq_ok {α} (a : α) : (pure a : M α) = .ok a := rfl
@[simp] theorem panic_ne_ok {α} (n : Nat) (a : α) : (panic n : M α) ≠ .ok a := by simp [panic]

theorem map_eq_ok {α β} {x : M α} {f : α → β} {b : β} :
    (f <$> x) = .ok b ↔ ∃ a, x = .ok a ∧ f a = b := by
  cases x with
  | error e => simp [Functor.map, Except.map]
  | ok a => simp [Functor.map, Except.map]

@[simp] theorem subM_ok {site a b : Nat} (h : b ≤ a) : subM site a b = .ok (a - b) := by
  simp [subM, h]

theorem subM_eq_ok {site a b c : Nat} : subM site a b = .ok c ↔ b ≤ a ∧ c = a - b := by
  unfold subM
  split <;> simp_all [panic] <;> omega

theorem getM_eq_ok {α} {site : Nat} {l : List α} {i : Nat} {x : α} :
    getM site l i = .ok x ↔ l[i]? = some x := by
  unfold getM
  split <;> simp_all [panic]

@[simp] theorem getM_ok {α} {site : Nat} {l : List α} {i : Nat} (h : i < l.length) :
    getM site l i = .ok l[i] := by
  simp [getM, h]

theorem getM_eq {α} (site : Nat) (l : List α) (i : Nat) :
    getM site l i = if h : i < l.length then .ok l[i] else panic site := by
  unfold getM
  split
  · rename_i x hx
    obtain ⟨hi, rfl⟩ := List.getElem?_eq_some_iff.mp hx
    rw [dif_pos hi]; rfl
  · rename_i hx
    rw [dif_neg (by simpa using hx)]

theorem ite_panic_eq_ok {α} {p : Prop} [Decidable p] {x : M α} {site : Nat} {a : α} :
    (if p then x else panic site) = .ok a ↔ p ∧ x = .ok a := by
  split <;> simp [*]

theorem modify_eq_set {α} {l : List α} {i : Nat} {x : α} (h : l[i]? = some x) (f : α → α) :
    l.modify i f = l.set i (f x) := by
  obtain ⟨hi, rfl⟩ := List.getElem?_eq_some_iff.mp h
  refine List.ext_getElem? fun j => ?_
  rw [List.getElem?_modify, List.getElem?_set]
  by_cases hij : i = j
  · subst hij; simp [hi]
  · simp [hij]

theorem modifyM_eq {α} (site : Nat) (l : List α) (i : Nat) (g : α → α) :
    modifyM site l i (fun x => .ok (g x)) = if i < l.length then .ok (l.modify i g) else panic site := by
  unfold modifyM
  split
  · rename_i x hx
    rw [if_pos (List.getElem?_eq_some_iff.mp hx).1, modify_eq_set hx]; rfl
  · rename_i hx
    rw [if_neg (by simpa using hx)]

theorem modifyM_eq_ok {α} {site : Nat} {l l' : List α} {i : Nat} {f : α → M α} :
    modifyM site l i f = .ok l' ↔ ∃ x y, l[i]? = some x ∧ f x = .ok y ∧ l' = l.set i y := by
  unfold modifyM
  cases l[i]? with
  | none => simp [panic]
  | some x =>
    simp only [bind_eq_ok, pure_eq_ok, Except.ok.injEq, Option.some.injEq]
    exact ⟨fun ⟨y, hy, e⟩ => ⟨x, y, rfl, hy, e.symm⟩, fun ⟨_, y, hx, hy, e⟩ => ⟨y, hx ▸ hy, e.symm⟩⟩

theorem insertM_eq_ok {α} {site : Nat} {l l' : List α} {i : Nat} {x : α} :
    insertM site l i x = .ok l' ↔ i ≤ l.length ∧ l' = l.take i ++ x :: l.drop i := by
  unfold insertM
  split
  · rename_i h
    simp only [pure_eq_ok, Except.ok.injEq, h, true_and]
    exact eq_comm
  · rename_i h
    simp [panic, h]

theorem removeM_eq_ok {α} {site : Nat} {l l' : List α} {i : Nat} {x : α} :
    removeM site l i = .ok (x, l') ↔ l[i]? = some x ∧ l' = l.eraseIdx i := by
  unfold removeM
  cases l[i]? with
  | none => simp [panic]
  | some z =>
    simp only [pure_eq_ok, Except.ok.injEq, Prod.mk.injEq, Option.some.injEq]
    exact ⟨fun ⟨a, b⟩ => ⟨a, b.symm⟩, fun ⟨a, b⟩ => ⟨a, b.symm⟩⟩

/-- `Except` has no `DecidableEq`; concrete runs are checked through this projection -/
def isOkTrue : M Bool → Bool
  | .ok b => b
  | .error _ => false

end Vt
