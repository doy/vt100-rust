/-
  Vt.Lemmas.Utf8 — `Utf8.encode` and `Utf8.fromUtf8`.

  `Enc enc c` (the four encodings, on the 6-bit groups of the scalar) carries both round trips (on lists:
  `fromUtf8_encode`, `Recv.decode_encode`).  `fromUtf8` is read through one equation per class of lead byte;
  `Trunc g` is a character cut short, `Trunc.step` what the next byte does to it, `fromUtf8_head` the classification
  of an input by its first token, `fromUtf8_induct` the induction along the characters of the valid prefix,
  `fromUtf8_split` what that induction yields about `valid_up_to` and `error_len`.
-/
import Vt.Model.Utf8
namespace Vt.Utf8

theorem encode_length (c : Nat) : (encode c).length = lenUtf8 c := by
  simp only [encode, lenUtf8, apply_ite List.length, List.length_cons, List.length_nil]

theorem lenUtf8_bounds (c : Nat) : 1 ≤ lenUtf8 c ∧ lenUtf8 c ≤ 4 := by
  unfold lenUtf8
  repeat' split
  all_goals decide

theorem encode_length_bounds (c : Nat) : 1 ≤ (encode c).length ∧ (encode c).length ≤ 4 :=
  encode_length c ▸ lenUtf8_bounds c

/-- `enc` is the UTF-8 encoding of the scalar value `c`, by the 6-bit groups of `c` (most significant first).
The side conditions are the decoder's: shortest form, no surrogate (`ED A0..BF`), at most U+10FFFF. -/
inductive Enc : List Nat → Nat → Prop
  | one {c : Nat} (h : c < 0x80) : Enc [c] c
  | two {x y : Nat} (hx : 2 ≤ x ∧ x < 32) (hy : y < 64) : Enc [0xC0 + x, 0x80 + y] (x * 64 + y)
  | three {x y z : Nat} (hx : x < 16) (hy : y < 64) (hz : z < 64) (hlo : 32 ≤ x * 64 + y)
      (hsur : ¬ (x = 13 ∧ 32 ≤ y)) : Enc [0xE0 + x, 0x80 + y, 0x80 + z] ((x * 64 + y) * 64 + z)
  | four {x y z w : Nat} (hy : y < 64) (hz : z < 64) (hw : w < 64) (hlo : 16 ≤ x * 64 + y)
      (hhi : x * 64 + y < 272) :
      Enc [0xF0 + x, 0x80 + y, 0x80 + z, 0x80 + w] (((x * 64 + y) * 64 + z) * 64 + w)

theorem Enc.scalar {enc : List Nat} {c : Nat} (h : Enc enc c) : isScalar c = true := by
  simp only [isScalar, Bool.or_eq_true, decide_eq_true_eq, Bool.and_eq_true]
  cases h <;> omega

theorem div_add_lt (h l n : Nat) (hl : l < n) : (h * n + l) / n = h := by
  rw [Nat.mul_comm, Nat.mul_add_div (Nat.zero_lt_of_lt hl), Nat.div_eq_of_lt hl, Nat.add_zero]

theorem mod_add_lt (h l n : Nat) (hl : l < n) : (h * n + l) % n = l := by
  rw [Nat.mul_comm, Nat.mul_add_mod, Nat.mod_eq_of_lt hl]

/-- `char::encode_utf8` reads the groups off the Horner form -/
theorem Enc.encode_eq {enc : List Nat} {c : Nat} (h : Enc enc c) : encode c = enc := by
  cases h with
  | one h => simp only [encode, h, ↓reduceIte]
  | @two x y hx hy =>
    have h1 : ¬ x * 64 + y < 128 := by omega
    have h2 : x * 64 + y < 2048 := by omega
    simp only [encode, h1, h2, ↓reduceIte, div_add_lt _ _ _ hy, mod_add_lt _ _ _ hy]
  | @three x y z hx hy hz hlo hsur =>
    have h2 : ¬ (x * 64 + y) * 64 + z < 2048 := by omega
    have h1 : ¬ (x * 64 + y) * 64 + z < 128 := by omega
    have h3 : (x * 64 + y) * 64 + z < 65536 := by omega
    have e1 : ((x * 64 + y) * 64 + z) / 4096 = x := by
      rw [show 4096 = 64 * 64 from rfl, ← Nat.div_div_eq_div_mul, div_add_lt _ _ _ hz, div_add_lt _ _ _ hy]
    simp only [encode, h1, h2, h3, ↓reduceIte, e1, div_add_lt _ _ _ hz, mod_add_lt _ _ _ hz, mod_add_lt _ _ _ hy]
  | @four x y z w hy hz hw hlo hhi =>
    have h3 : ¬ ((x * 64 + y) * 64 + z) * 64 + w < 65536 := by omega
    have h2 : ¬ ((x * 64 + y) * 64 + z) * 64 + w < 2048 := by omega
    have h1 : ¬ ((x * 64 + y) * 64 + z) * 64 + w < 128 := by omega
    have e1 : (((x * 64 + y) * 64 + z) * 64 + w) / 4096 = x * 64 + y := by
      rw [show 4096 = 64 * 64 from rfl, ← Nat.div_div_eq_div_mul, div_add_lt _ _ _ hw, div_add_lt _ _ _ hz]
    have e0 : (((x * 64 + y) * 64 + z) * 64 + w) / 262144 = x := by
      rw [show 262144 = 4096 * 64 from rfl, ← Nat.div_div_eq_div_mul, e1, div_add_lt _ _ _ hy]
    simp only [encode, h1, h2, h3, ↓reduceIte, e0, e1, div_add_lt _ _ _ hw, mod_add_lt _ _ _ hw,
      mod_add_lt _ _ _ hz, mod_add_lt _ _ _ hy]

theorem split64 (c : Nat) : ∃ q w, w < 64 ∧ c = q * 64 + w :=
  ⟨c / 64, c % 64, Nat.mod_lt _ (by decide), (Nat.div_add_mod' c 64).symm⟩

/-- split off 6-bit groups until the rest fits the lead byte -/
theorem Enc.of_scalar {c : Nat} (hs : isScalar c = true) : Enc (encode c) c := by
  simp only [isScalar, Bool.or_eq_true, decide_eq_true_eq, Bool.and_eq_true] at hs
  have key {enc : List Nat} (h : Enc enc c) : Enc (encode c) c := h.encode_eq ▸ h
  by_cases h1 : c < 0x80
  · exact key (.one h1)
  obtain ⟨c, y, hy, rfl⟩ := split64 c
  by_cases h2 : c < 32
  · exact key (.two (by omega) hy)
  obtain ⟨c, z, hz, rfl⟩ := split64 c
  by_cases h3 : c < 16
  · exact key (.three h3 hz hy (by omega) (by omega))
  obtain ⟨x, w, hw, rfl⟩ := split64 c
  exact key (.four hw hz hy (by omega) (by omega))

theorem Enc.length_pos {enc : List Nat} {c : Nat} (h : Enc enc c) : 1 ≤ enc.length := by
  cases h <;> exact Nat.le_add_left ..

theorem Enc.length_le {enc : List Nat} {c : Nat} (h : Enc enc c) : enc.length ≤ 4 := by
  cases h <;> simp only [List.length_cons, List.length_nil] <;> omega

theorem Enc.lenUtf8 {enc : List Nat} {c : Nat} (h : Enc enc c) : lenUtf8 c = enc.length := by
  rw [← h.encode_eq, encode_length]

theorem Enc.tail {b : Nat} {tl : List Nat} {c : Nat} (h : Enc (b :: tl) c) : ∀ x ∈ tl, 0x80 ≤ x ∧ x ≤ 0xBF := by
  intro x hx
  cases h with
  | one => cases hx
  | two | three | four =>
    simp only [List.mem_cons, List.not_mem_nil, or_false] at hx
    omega

theorem Enc.bytes {enc : List Nat} {c : Nat} (h : Enc enc c) :
    c < 0x80 ∧ enc = [c] ∨ 0x80 ≤ c ∧ 2 ≤ enc.length ∧ ∀ x ∈ enc, 0x80 ≤ x := by
  cases h with
  | one h => exact .inl ⟨h, rfl⟩
  | two | three | four =>
    refine .inr ⟨by omega, by simp only [List.length_cons]; omega, fun b hb => ?_⟩
    simp only [List.mem_cons, List.not_mem_nil, or_false] at hb
    omega

theorem Enc.lt256 {enc : List Nat} {c : Nat} (h : Enc enc c) : ∀ x ∈ enc, x < 256 := by
  intro x hx
  cases h <;> simp only [List.mem_cons, List.not_mem_nil, or_false] at hx <;> omega

theorem fromUtf8_lead1 {b0 : Nat} (h : b0 < 0x80) (rest : List Nat) :
    fromUtf8 (b0 :: rest) = (fromUtf8 rest).cons b0 1 := by
  rw [fromUtf8.eq_def]
  simp only [h, ↓reduceIte]

theorem fromUtf8_lead2 {b0 : Nat} (h0 : 0xC2 ≤ b0 ∧ b0 ≤ 0xDF) (rest : List Nat) :
    fromUtf8 (b0 :: rest) =
      match rest with
      | [] => Res.stop none
      | b1 :: rest1 =>
        if isCont b1 then (fromUtf8 rest1).cons ((b0 - 0xC0) * 64 + (b1 - 0x80)) 2 else Res.stop (some 1) := by
  have a0 : ¬ b0 < 0x80 := by omega
  rw [fromUtf8.eq_def]
  simp only [a0, ↓reduceIte, h0, decide_true, Bool.and_self]
  rfl

theorem fromUtf8_lead3 {b0 : Nat} (h0 : 0xE0 ≤ b0 ∧ b0 ≤ 0xEF) (rest : List Nat) :
    fromUtf8 (b0 :: rest) =
      match rest with
      | [] => Res.stop none
      | b1 :: rest1 =>
        if ok3 b0 b1 then
          match rest1 with
          | [] => Res.stop none
          | b2 :: rest2 =>
            if isCont b2 then (fromUtf8 rest2).cons ((b0 - 0xE0) * 4096 + (b1 - 0x80) * 64 + (b2 - 0x80)) 3
            else Res.stop (some 2)
        else Res.stop (some 1) := by
  have a0 : ¬ b0 < 0x80 := by omega
  have a1 : ¬ b0 ≤ 0xDF := by omega
  rw [fromUtf8.eq_def]
  simp only [a0, ↓reduceIte, a1, decide_false, Bool.and_false, Bool.false_eq_true, h0, decide_true, Bool.and_self]
  rfl

theorem fromUtf8_lead4 {b0 : Nat} (h0 : 0xF0 ≤ b0 ∧ b0 ≤ 0xF4) (rest : List Nat) :
    fromUtf8 (b0 :: rest) =
      match rest with
      | [] => Res.stop none
      | b1 :: rest1 =>
        if ok4 b0 b1 then
          match rest1 with
          | [] => Res.stop none
          | b2 :: rest2 =>
            if isCont b2 then
              match rest2 with
              | [] => Res.stop none
              | b3 :: rest3 =>
                if isCont b3 then
                  (fromUtf8 rest3).cons
                    ((b0 - 0xF0) * 262144 + (b1 - 0x80) * 4096 + (b2 - 0x80) * 64 + (b3 - 0x80)) 4
                else Res.stop (some 3)
            else Res.stop (some 2)
        else Res.stop (some 1) := by
  have a0 : ¬ b0 < 0x80 := by omega
  have a1 : ¬ b0 ≤ 0xDF := by omega
  have a2 : ¬ b0 ≤ 0xEF := by omega
  rw [fromUtf8.eq_def]
  simp only [a0, ↓reduceIte, a1, a2, decide_false, Bool.and_false, Bool.false_eq_true, h0, decide_true, Bool.and_self]
  rfl

/-- the bytes left are the continuation bytes, `C0`, `C1`, `F5..` -/
theorem fromUtf8_nolead {b0 : Nat} (h1 : ¬ b0 < 0x80) (h2 : ¬ (0xC2 ≤ b0 ∧ b0 ≤ 0xDF)) (h3 : ¬ (0xE0 ≤ b0 ∧ b0 ≤ 0xEF))
    (h4 : ¬ (0xF0 ≤ b0 ∧ b0 ≤ 0xF4)) (rest : List Nat) : fromUtf8 (b0 :: rest) = Res.stop (some 1) := by
  rw [fromUtf8.eq_def]
  simp only [h1, ↓reduceIte, Bool.and_eq_true, decide_eq_true_eq, h2, h3, h4]

theorem isCont_group {y : Nat} (hy : y < 64) : isCont (0x80 + y) = true := by
  simp only [isCont, Bool.and_eq_true, decide_eq_true_eq]; omega

theorem Enc.decode {enc : List Nat} {c : Nat} (h : Enc enc c) (r : List Nat) :
    fromUtf8 (enc ++ r) = (fromUtf8 r).cons c enc.length := by
  cases h with
  | one h => exact fromUtf8_lead1 h r
  | @two x y hx hy =>
    simp only [List.cons_append, List.nil_append, fromUtf8_lead2 (show 0xC2 ≤ 0xC0 + x ∧ 0xC0 + x ≤ 0xDF by omega),
      isCont_group hy, ↓reduceIte, Nat.add_sub_cancel_left, List.length_cons, List.length_nil]
  | @three x y z hx hy hz hlo hsur =>
    -- the lead byte decides which second bytes `ok3` admits
    have h1 : ok3 (0xE0 + x) (0x80 + y) = true := by
      simp only [ok3, Bool.or_eq_true, Bool.and_eq_true, beq_iff_eq, decide_eq_true_eq]; omega
    have e : x * 4096 + y * 64 + z = (x * 64 + y) * 64 + z := by rw [Nat.add_mul, Nat.mul_assoc]
    simp only [List.cons_append, List.nil_append, fromUtf8_lead3 (show 0xE0 ≤ 0xE0 + x ∧ 0xE0 + x ≤ 0xEF by omega),
      h1, isCont_group hz, ↓reduceIte, Nat.add_sub_cancel_left, e, List.length_cons, List.length_nil]
  | @four x y z w hy hz hw hlo hhi =>
    have h1 : ok4 (0xF0 + x) (0x80 + y) = true := by
      simp only [ok4, Bool.or_eq_true, Bool.and_eq_true, beq_iff_eq, decide_eq_true_eq]; omega
    have e : x * 262144 + y * 4096 + z * 64 + w = ((x * 64 + y) * 64 + z) * 64 + w := by
      rw [Nat.add_mul, Nat.add_mul, Nat.add_mul, Nat.mul_assoc, Nat.mul_assoc, Nat.mul_assoc]
    simp only [List.cons_append, List.nil_append, fromUtf8_lead4 (show 0xF0 ≤ 0xF0 + x ∧ 0xF0 + x ≤ 0xF4 by omega),
      h1, isCont_group hz, isCont_group hw, ↓reduceIte, Nat.add_sub_cancel_left, e, List.length_cons,
      List.length_nil]

theorem fromUtf8_encode (c : Nat) (hs : isScalar c = true) (rest : List Nat) :
    fromUtf8 (encode c ++ rest) = (fromUtf8 rest).cons c (encode c).length :=
  (Enc.of_scalar hs).decode rest

theorem fromUtf8_encode_single (c : Nat) (hs : isScalar c = true) :
    fromUtf8 (encode c) = { chars := [c], validUpTo := (encode c).length, err := none } := by
  have := fromUtf8_encode c hs []
  rwa [List.append_nil] at this

/-! `Enc.two'`, `three'`, `four'`: bytes that pass the decoder's tests are an encoding -/

theorem isCont_iff {b : Nat} : isCont b = true ↔ 0x80 ≤ b ∧ b ≤ 0xBF := by
  simp only [isCont, Bool.and_eq_true, decide_eq_true_eq]

theorem Enc.two' {b0 b1 : Nat} (h0 : 0xC2 ≤ b0 ∧ b0 ≤ 0xDF) (h1 : isCont b1 = true) :
    Enc [b0, b1] ((b0 - 0xC0) * 64 + (b1 - 0x80)) := by
  rw [isCont_iff] at h1
  obtain ⟨x, rfl⟩ := Nat.exists_eq_add_of_le (show 0xC0 ≤ b0 by omega)
  obtain ⟨y, rfl⟩ := Nat.exists_eq_add_of_le h1.1
  simp only [Nat.add_sub_cancel_left]
  exact .two (by omega) (by omega)

theorem Enc.three' {b0 b1 b2 : Nat} (h0 : 0xE0 ≤ b0 ∧ b0 ≤ 0xEF) (h1 : ok3 b0 b1 = true) (h2 : isCont b2 = true) :
    Enc [b0, b1, b2] (((b0 - 0xE0) * 64 + (b1 - 0x80)) * 64 + (b2 - 0x80)) := by
  rw [isCont_iff] at h2
  simp only [ok3, Bool.or_eq_true, Bool.and_eq_true, beq_iff_eq, decide_eq_true_eq] at h1
  obtain ⟨x, rfl⟩ := Nat.exists_eq_add_of_le h0.1
  obtain ⟨y, rfl⟩ := Nat.exists_eq_add_of_le (show 0x80 ≤ b1 by omega)
  obtain ⟨z, rfl⟩ := Nat.exists_eq_add_of_le h2.1
  simp only [Nat.add_sub_cancel_left]
  exact .three (by omega) (by omega) (by omega) (by omega) (by omega)

theorem Enc.four' {b0 b1 b2 b3 : Nat} (h0 : 0xF0 ≤ b0 ∧ b0 ≤ 0xF4) (h1 : ok4 b0 b1 = true) (h2 : isCont b2 = true)
    (h3 : isCont b3 = true) :
    Enc [b0, b1, b2, b3] ((((b0 - 0xF0) * 64 + (b1 - 0x80)) * 64 + (b2 - 0x80)) * 64 + (b3 - 0x80)) := by
  rw [isCont_iff] at h2 h3
  simp only [ok4, Bool.or_eq_true, Bool.and_eq_true, beq_iff_eq, decide_eq_true_eq] at h1
  obtain ⟨x, rfl⟩ := Nat.exists_eq_add_of_le h0.1
  obtain ⟨y, rfl⟩ := Nat.exists_eq_add_of_le (show 0x80 ≤ b1 by omega)
  obtain ⟨z, rfl⟩ := Nat.exists_eq_add_of_le h2.1
  obtain ⟨w, rfl⟩ := Nat.exists_eq_add_of_le h3.1
  simp only [Nat.add_sub_cancel_left]
  exact .four (by omega) (by omega) (by omega) (by omega) (by omega)

/-- a proper non-empty prefix of the encoding of one character -/
inductive Trunc : List Nat → Prop
  | two {b0 : Nat} (h0 : 0xC2 ≤ b0 ∧ b0 ≤ 0xDF) : Trunc [b0]
  | three {b0 : Nat} (h0 : 0xE0 ≤ b0 ∧ b0 ≤ 0xEF) : Trunc [b0]
  | three' {b0 b1 : Nat} (h0 : 0xE0 ≤ b0 ∧ b0 ≤ 0xEF) (h1 : ok3 b0 b1 = true) : Trunc [b0, b1]
  | four {b0 : Nat} (h0 : 0xF0 ≤ b0 ∧ b0 ≤ 0xF4) : Trunc [b0]
  | four' {b0 b1 : Nat} (h0 : 0xF0 ≤ b0 ∧ b0 ≤ 0xF4) (h1 : ok4 b0 b1 = true) : Trunc [b0, b1]
  | four'' {b0 b1 b2 : Nat} (h0 : 0xF0 ≤ b0 ∧ b0 ≤ 0xF4) (h1 : ok4 b0 b1 = true) (h2 : isCont b2 = true) :
      Trunc [b0, b1, b2]

theorem ok3_cont {b0 b1 : Nat} (h : ok3 b0 b1 = true) : 0x80 ≤ b1 ∧ b1 ≤ 0xBF := by
  simp only [ok3, Bool.or_eq_true, Bool.and_eq_true, beq_iff_eq, decide_eq_true_eq] at h; omega

theorem ok4_cont {b0 b1 : Nat} (h : ok4 b0 b1 = true) : 0x80 ≤ b1 ∧ b1 ≤ 0xBF := by
  simp only [ok4, Bool.or_eq_true, Bool.and_eq_true, beq_iff_eq, decide_eq_true_eq] at h; omega

/-- the last two conjuncts are why a truncated character holds no ESC and does not start with a C1 byte -/
theorem Trunc.props {g : List Nat} (h : Trunc g) :
    1 ≤ g.length ∧ g.length ≤ 3 ∧ (∀ x ∈ g, 0x80 ≤ x ∧ x ≤ 0xF4) ∧ 0xC2 ≤ g.getD 0 0 := by
  have hi {x : Nat} {l : List Nat} {p : Nat → Prop} (hx : p x) (hl : ∀ y ∈ l, p y) : ∀ y ∈ x :: l, p y :=
    fun y hy => (List.mem_cons.mp hy).elim (· ▸ hx) (hl y)
  have hc {b : Nat} (h : 0x80 ≤ b ∧ b ≤ 0xBF) : 0x80 ≤ b ∧ b ≤ 0xF4 := ⟨h.1, Nat.le_trans h.2 (by decide)⟩
  cases h with
  | @two b0 h0 | @three b0 h0 | @four b0 h0 =>
    exact ⟨Nat.le_refl _, by simp, hi (by omega) nofun, (by omega : 0xC2 ≤ b0)⟩
  | @three' b0 b1 h0 h1 =>
    exact ⟨by simp, by simp, hi (by omega) (hi (hc (ok3_cont h1)) nofun), (by omega : 0xC2 ≤ b0)⟩
  | @four' b0 b1 h0 h1 =>
    exact ⟨by simp, by simp, hi (by omega) (hi (hc (ok4_cont h1)) nofun), (by omega : 0xC2 ≤ b0)⟩
  | @four'' b0 b1 b2 h0 h1 h2 =>
    exact ⟨by simp, by simp, hi (by omega) (hi (hc (ok4_cont h1)) (hi (hc (isCont_iff.mp h2)) nofun)),
      (by omega : 0xC2 ≤ b0)⟩

theorem Trunc.lt256 {g : List Nat} (h : Trunc g) : ∀ x ∈ g, x < 256 :=
  fun x hx => Nat.lt_of_le_of_lt (h.props.2.2.1 x hx).2 (by decide)

theorem high_of_lt {k enc : List Nat} {c : Nat} (he : Enc enc c) (hk : Trunc k) (hl : k.length < enc.length) :
    0x80 ≤ c := by
  have := hk.props.1
  rcases he.bytes with ⟨_, rfl⟩ | ⟨h, _⟩
  · simp only [List.length_singleton] at hl; omega
  · exact h

theorem Trunc.stop {g : List Nat} (h : Trunc g) : fromUtf8 g = Res.stop none := by
  cases h with
  | two h0 => rw [fromUtf8_lead2 h0]
  | three h0 => rw [fromUtf8_lead3 h0]
  | three' h0 h1 => simp only [fromUtf8_lead3 h0, h1, ↓reduceIte]
  | four h0 => rw [fromUtf8_lead4 h0]
  | four' h0 h1 => simp only [fromUtf8_lead4 h0, h1, ↓reduceIte]
  | four'' h0 h1 h2 => simp only [fromUtf8_lead4 h0, h1, h2, ↓reduceIte]

/-- **one more byte after a truncated character**: it cannot continue the character (`from_utf8` reports an
invalid sequence made of the truncated character, whatever follows), or it is `≥ 0x80` and the character is
still truncated, or complete -/
theorem Trunc.step {g : List Nat} (h : Trunc g) (y : Nat) :
    (∀ rest, fromUtf8 (g ++ y :: rest) = Res.stop (some g.length)) ∨
    0x80 ≤ y ∧ (Trunc (g ++ [y]) ∨ ∃ c, Enc (g ++ [y]) c) := by
  -- the lead byte fixes the branch of `fromUtf8`; the test on `y` is the innermost one
  cases h with
  | two h0 =>
    by_cases hy : isCont y = true
    · exact .inr ⟨(isCont_iff.mp hy).1, .inr ⟨_, .two' h0 hy⟩⟩
    · exact .inl fun rest => by
        simp only [List.cons_append, List.nil_append, fromUtf8_lead2 h0, hy, Bool.false_eq_true, ↓reduceIte]; rfl
  | @three b0 h0 =>
    by_cases hy : ok3 b0 y = true
    · exact .inr ⟨(ok3_cont hy).1, .inl (.three' h0 hy)⟩
    · exact .inl fun rest => by
        simp only [List.cons_append, List.nil_append, fromUtf8_lead3 h0, hy, Bool.false_eq_true, ↓reduceIte]; rfl
  | three' h0 h1 =>
    by_cases hy : isCont y = true
    · exact .inr ⟨(isCont_iff.mp hy).1, .inr ⟨_, .three' h0 h1 hy⟩⟩
    · exact .inl fun rest => by
        simp only [List.cons_append, List.nil_append, fromUtf8_lead3 h0, h1, hy, Bool.false_eq_true, ↓reduceIte]; rfl
  | @four b0 h0 =>
    by_cases hy : ok4 b0 y = true
    · exact .inr ⟨(ok4_cont hy).1, .inl (.four' h0 hy)⟩
    · exact .inl fun rest => by
        simp only [List.cons_append, List.nil_append, fromUtf8_lead4 h0, hy, Bool.false_eq_true, ↓reduceIte]; rfl
  | four' h0 h1 =>
    by_cases hy : isCont y = true
    · exact .inr ⟨(isCont_iff.mp hy).1, .inl (.four'' h0 h1 hy)⟩
    · exact .inl fun rest => by
        simp only [List.cons_append, List.nil_append, fromUtf8_lead4 h0, h1, hy, Bool.false_eq_true, ↓reduceIte]; rfl
  | four'' h0 h1 h2 =>
    by_cases hy : isCont y = true
    · exact .inr ⟨(isCont_iff.mp hy).1, .inr ⟨_, .four' h0 h1 h2 hy⟩⟩
    · exact .inl fun rest => by
        simp only [List.cons_append, List.nil_append, fromUtf8_lead4 h0, h1, h2, hy, Bool.false_eq_true,
          ↓reduceIte]; rfl

theorem Trunc.first_token {g : List Nat} (h : Trunc g) (s : List Nat) :
    Trunc (g ++ s) ∨
    (∃ enc c s', g ++ s = enc ++ s' ∧ g.length < enc.length ∧ Enc enc c) ∨
    ∃ g' y s', g ++ s = g' ++ y :: s' ∧ Trunc g' ∧ g.length ≤ g'.length ∧
      ∀ rest, fromUtf8 (g' ++ y :: rest) = Res.stop (some g'.length) := by
  induction s generalizing g with
  | nil => exact .inl (by rwa [List.append_nil])
  | cons y s ih =>
    rcases h.step y with hbad | ⟨_, ht | ⟨c, hc⟩⟩
    · exact .inr (.inr ⟨g, y, s, rfl, h, Nat.le_refl _, hbad⟩)
    · have hl : g.length ≤ (g ++ [y]).length := by simp
      rw [List.append_cons]
      rcases ih ht with h' | ⟨enc, c, s', e', hl', h'⟩ | ⟨g', y', s', e', hg, hl', h'⟩
      · exact .inl h'
      · exact .inr (.inl ⟨enc, c, s', e', Nat.lt_of_le_of_lt hl hl', h'⟩)
      · exact .inr (.inr ⟨g', y', s', e', hg, Nat.le_trans hl hl', h'⟩)
    · exact .inr (.inl ⟨g ++ [y], c, s, List.append_cons .., by simp, hc⟩)

theorem fromUtf8_head (a : List Nat) :
    a = [] ∨ (∃ enc c rest, a = enc ++ rest ∧ Enc enc c) ∨ Trunc a ∨
      ∃ n, 1 ≤ n ∧ n ≤ a.length ∧ ∀ r, fromUtf8 (a ++ r) = Res.stop (some n) := by
  rcases a with _ | ⟨b0, rest⟩
  · exact .inl rfl
  have lead : b0 < 0x80 ∨ Trunc [b0] ∨ ∀ r, fromUtf8 (b0 :: r) = Res.stop (some 1) := by
    by_cases c1 : b0 < 0x80
    · exact .inl c1
    by_cases c2 : 0xC2 ≤ b0 ∧ b0 ≤ 0xDF
    · exact .inr (.inl (.two c2))
    by_cases c3 : 0xE0 ≤ b0 ∧ b0 ≤ 0xEF
    · exact .inr (.inl (.three c3))
    by_cases c4 : 0xF0 ≤ b0 ∧ b0 ≤ 0xF4
    · exact .inr (.inl (.four c4))
    · exact .inr (.inr (fromUtf8_nolead c1 c2 c3 c4))
  refine .inr ?_
  rcases lead with c1 | h | h
  · exact .inl ⟨[b0], b0, rest, rfl, .one c1⟩
  · rcases h.first_token rest with h | ⟨enc, c, s', e, _, h⟩ | ⟨g', y, s', e, hg, _, h⟩
    · exact .inr (.inl h)
    · exact .inl ⟨enc, c, s', e, h⟩
    · have e : b0 :: rest = g' ++ y :: s' := e
      refine .inr (.inr ⟨g'.length, hg.props.1, by rw [e, List.length_append]; exact Nat.le_add_right .., fun r => ?_⟩)
      rw [e, List.append_assoc]
      exact h _
  · exact .inr (.inr ⟨1, Nat.le_refl _, Nat.le_add_left .., fun r => h _⟩)

theorem Res.cons_ne_stop (r : Res) (c n : Nat) (e : Option Nat) : r.cons c n ≠ Res.stop e :=
  fun h => by cases congrArg Res.chars h

theorem stop_cases {a : List Nat} {e : Option Nat} (h : fromUtf8 a = Res.stop e) :
    match e with
    | none => Trunc a
    | some n => 1 ≤ n ∧ n ≤ a.length ∧ ∀ r, fromUtf8 (a ++ r) = Res.stop (some n) := by
  rcases fromUtf8_head a with rfl | ⟨enc, c, rest, rfl, he⟩ | ht | ⟨n, h1, h2, hn⟩
  · cases h
  · exact absurd (he.decode rest ▸ h) (Res.cons_ne_stop _ _ _ _)
  · cases ht.stop ▸ h
    exact ht
  · have := hn []
    rw [List.append_nil, h] at this
    cases this
    exact ⟨h1, h2, hn⟩

theorem trunc_of_stop {g : List Nat} (h : fromUtf8 g = Res.stop none) : Trunc g := stop_cases h

theorem fromUtf8_induct {P : List Nat → Prop} (nil : P [])
    (char : ∀ enc c rest, Enc enc c → P rest → P (enc ++ rest))
    (stop : ∀ a e, fromUtf8 a = Res.stop e → P a) (a : List Nat) : P a := by
  suffices h : ∀ k (a : List Nat), a.length < k → P a from h _ a (Nat.lt_succ_self _)
  intro k
  induction k with
  | zero => exact fun _ h => absurd h (Nat.not_lt_zero _)
  | succ k ih =>
    intro a hk
    rcases fromUtf8_head a with rfl | ⟨enc, c, rest, rfl, h⟩ | h | ⟨n, _, _, h⟩
    · exact nil
    · have := h.length_pos
      exact char enc c rest h (ih rest (by simp only [List.length_append] at hk; omega))
    · exact stop a _ h.stop
    · exact stop a _ (List.append_nil a ▸ h [])

def Res.append (r1 r2 : Res) : Res :=
  { chars := r1.chars ++ r2.chars, validUpTo := r1.validUpTo + r2.validUpTo, err := r2.err }

theorem Res.cons_append (c n : Nat) (r1 r2 : Res) : (r1.cons c n).append r2 = (r1.append r2).cons c n := by
  simp [Res.cons, Res.append, Nat.add_assoc]

theorem fromUtf8_append_ok (a b : List Nat) (h : (fromUtf8 a).err = none) :
    fromUtf8 (a ++ b) = (fromUtf8 a).append (fromUtf8 b) := by
  induction a using fromUtf8_induct with
  | nil => simp [fromUtf8, Res.append]
  | char enc c rest he ih =>
    rw [he.decode] at h
    rw [List.append_assoc, he.decode, he.decode, Res.cons_append, ih h]
  | stop a e hs => rw [hs] at h; cases h

/-- **the input is its valid prefix `p`, followed by nothing or by something `fromUtf8` stops at**; what `fromUtf8`
reports of the whole is read off the two parts -/
theorem fromUtf8_split (a : List Nat) :
    ∃ p s, a = p ++ s ∧ fromUtf8 p = { chars := (fromUtf8 a).chars, validUpTo := p.length, err := none } ∧
      (fromUtf8 a).validUpTo = p.length ∧
      (s = [] ∧ (fromUtf8 a).err = none ∨ ∃ e, fromUtf8 s = Res.stop e ∧ (fromUtf8 a).err = some e) := by
  induction a using fromUtf8_induct with
  | nil => exact ⟨[], [], rfl, rfl, rfl, .inl ⟨rfl, rfl⟩⟩
  | char enc c rest he ih =>
    obtain ⟨p, s, e, hp, hv, hs⟩ := ih
    refine ⟨enc ++ p, s, by rw [e, List.append_assoc, ← e], ?_, ?_, ?_⟩
    · rw [he.decode, he.decode, hp, List.length_append]; rfl
    · rw [he.decode, List.length_append, ← hv]; rfl
    · rw [he.decode]; exact hs
  | stop a e hs => exact ⟨[], a, rfl, by rw [hs]; rfl, by rw [hs]; rfl, .inr ⟨e, hs, by rw [hs]; rfl⟩⟩

theorem fromUtf8_validUpTo_ok (a : List Nat) (h : (fromUtf8 a).err = none) :
    (fromUtf8 a).validUpTo = a.length := by
  obtain ⟨p, s, rfl, _, hv, hs⟩ := fromUtf8_split a
  rcases hs with ⟨rfl, _⟩ | ⟨e, _, he⟩
  · rw [hv, List.append_nil]
  · rw [h] at he; cases he

theorem fromUtf8_chars_scalar (a : List Nat) : ∀ c ∈ (fromUtf8 a).chars, isScalar c = true := by
  induction a using fromUtf8_induct with
  | nil => nofun
  | char enc c rest he ih =>
    rw [he.decode]
    exact fun x hx => (List.mem_cons.mp hx).elim (· ▸ he.scalar) (ih x)
  | stop a e hs => rw [hs]; nofun

theorem fromUtf8_take_valid (a : List Nat) :
    fromUtf8 (a.take (fromUtf8 a).validUpTo) =
      { chars := (fromUtf8 a).chars, validUpTo := (fromUtf8 a).validUpTo, err := none } := by
  obtain ⟨p, s, rfl, hp, hv, _⟩ := fromUtf8_split a
  rw [hv, List.take_left]
  exact hp

theorem fromUtf8_drop_valid (a : List Nat) :
    fromUtf8 (a.drop (fromUtf8 a).validUpTo) = { chars := [], validUpTo := 0, err := (fromUtf8 a).err } := by
  obtain ⟨p, s, rfl, _, hv, hs⟩ := fromUtf8_split a
  rw [hv, List.drop_left]
  rcases hs with ⟨rfl, he⟩ | ⟨e, hs, he⟩ <;> rw [he]
  · rfl
  · exact hs

theorem trunc_of_err {a : List Nat} (he : (fromUtf8 a).err = some none) (h0 : (fromUtf8 a).validUpTo = 0) :
    Trunc a := by
  have := fromUtf8_drop_valid a
  rw [h0, List.drop_zero, he] at this
  exact trunc_of_stop this

theorem err_len_bounds (a : List Nat) (len : Nat) (h : (fromUtf8 a).err = some (some len)) :
    1 ≤ len ∧ (fromUtf8 a).validUpTo + len ≤ a.length := by
  obtain ⟨p, s, rfl, _, hv, hs⟩ := fromUtf8_split a
  rcases hs with ⟨_, he⟩ | ⟨e, hs, he⟩ <;> rw [h] at he <;> cases he
  have := stop_cases hs
  rw [hv, List.length_append]
  exact ⟨this.1, Nat.add_le_add_left this.2.1 _⟩

theorem err_stable (a b : List Nat) (len : Nat) (h : (fromUtf8 a).err = some (some len)) :
    fromUtf8 (a ++ b) = fromUtf8 a := by
  obtain ⟨p, s, rfl, hp, _, hs⟩ := fromUtf8_split a
  rcases hs with ⟨_, he⟩ | ⟨e, hs, he⟩ <;> rw [h] at he <;> cases he
  have hpe : (fromUtf8 p).err = none := by rw [hp]
  rw [List.append_assoc, fromUtf8_append_ok p _ hpe, fromUtf8_append_ok p s hpe, (stop_cases hs).2.2 b, hs]

theorem fromUtf8_ascii (a : List Nat) (h : ∀ x ∈ a, x < 0x80) : (fromUtf8 a).err = none := by
  induction a with
  | nil => rfl
  | cons x xs ih =>
    rw [fromUtf8_lead1 (h x (List.mem_cons_self ..))]
    exact ih (fun y hy => h y (List.mem_cons_of_mem _ hy))

theorem validUpTo_le (t : List Nat) : (fromUtf8 t).validUpTo ≤ t.length := by
  obtain ⟨p, s, rfl, _, hv, _⟩ := fromUtf8_split t
  rw [hv, List.length_append]
  exact Nat.le_add_right ..

theorem chars_of_validUpTo_pos (t : List Nat) : (fromUtf8 t).validUpTo = 0 ∨ (fromUtf8 t).chars ≠ [] := by
  rcases fromUtf8_head t with rfl | ⟨enc, c, rest, rfl, he⟩ | ht | ⟨n, _, _, hn⟩
  · exact .inl rfl
  · exact .inr (by rw [he.decode]; nofun)
  · exact .inl (by rw [ht.stop]; rfl)
  · exact .inl (by have := hn []; rw [List.append_nil] at this; rw [this]; rfl)

theorem validUpTo_lt_of_err (t : List Nat) (h : (fromUtf8 t).err ≠ none) : (fromUtf8 t).validUpTo < t.length := by
  obtain ⟨p, s, rfl, _, hv, hs⟩ := fromUtf8_split t
  rcases hs with ⟨_, he⟩ | ⟨e, hs, _⟩
  · exact absurd he h
  · rw [hv, List.length_append]
    cases s with
    | nil => cases hs
    | cons _ _ => exact Nat.lt_add_of_pos_right (Nat.succ_pos _)

end Vt.Utf8

namespace Vt.Recv
open Utf8

theorem decode_encode (bs : List Nat) (h : (fromUtf8 bs).err = none) :
    (fromUtf8 bs).chars.flatMap encode = bs := by
  induction bs using fromUtf8_induct with
  | nil => rfl
  | char enc c rest he ih =>
    rw [he.decode] at h ⊢
    simp only [Res.cons, List.flatMap_cons, he.encode_eq, ih h]
  | stop a e hs => rw [hs] at h; cases h

end Vt.Recv
