/-
  Vt.Lemmas.CellX — the per-cell part of `Inv⁺` / `emitInvB`, the ways the crate builds cells, and `AllX`: `cx` of all
  cells of a line, with the list operations that keep it.

  `cx c`: the colours of the cell's attributes are bytes; a continuation cell has default attributes; a
  non-empty cell starts with a character other than U+FFFD and every combining character was appended
  while the cell held fewer than 18 bytes.  It does not depend on the column, so moving a cell keeps it.
-/
import Vt.Lemmas.CellInv
import Vt.Lemmas.RowOps
import Vt.Spec.EmitOk
namespace Vt

def cx (c : Cell) : Bool :=
  attrsOk c.attrs && (!c.cont || c.attrs == Attrs.default) &&
  (c.len == 0 ||
   match (Utf8.fromUtf8 (c.contents.take c.len)).chars with
   | [] => false
   | f :: zs => f != 0xFFFD && prefixOkB (Utf8.encode f).length zs)

theorem attrsOk_default : attrsOk Attrs.default = true := by decide

theorem cx_attrs {c : Cell} (h : cx c = true) : attrsOk c.attrs = true := by
  simp only [cx, Bool.and_eq_true] at h; exact h.1.1

theorem cx_new : cx Cell.new = true := by decide

theorem cx_clear (c : Cell) {a : Attrs} (ha : attrsOk a = true) : cx (c.clear a) = true := by
  simp [cx, Cell.clear, ha]

theorem cx_clear_self {c : Cell} (h : cx c = true) : cx (c.clear c.attrs) = true := cx_clear c (cx_attrs h)

theorem cx_contCell (c : Cell) : cx ((c.clear Attrs.default).setWideContinuation true) = true := by
  simp [cx, Cell.clear, Cell.setWideContinuation, attrsOk_default]

theorem cx_uncont {c : Cell} (h : cx c = true) : cx (c.setWideContinuation false) = true := by
  simp only [cx, Cell.setWideContinuation, Bool.and_eq_true, Bool.not_false, Bool.true_or, and_true] at h ⊢
  exact ⟨h.1.1, h.2⟩

/-- the inserted blank that takes over a continuation flag (ICH on the second half of a wide character) -/
theorem cx_new_cont (b : Bool) : cx (Cell.new.setWideContinuation b) = true := by
  cases b <;> decide

theorem cx_setResult {W : Nat → Option Nat} (cell : Cell) {c : Nat} {a : Attrs} (ha : attrsOk a = true)
    (hs : isScalar c = true) (hc : c ≠ 0xFFFD) : cx (setResult W cell c a) = true := by
  unfold setResult
  simp only [cx, ha, Bool.not_false, Bool.true_or, Bool.and_self, List.take_left', Utf8.fromUtf8_encode_single c hs,
    Bool.true_and, Bool.or_eq_true, beq_iff_eq, Bool.and_eq_true, bne_iff_ne, ne_eq]
  exact Or.inr ⟨hc, rfl⟩

theorem cx_set {W : Nat → Option Nat} {cell cell' : Cell} {c : Nat} {a : Attrs} (ha : attrsOk a = true)
    (hs : isScalar c = true) (hc : c ≠ 0xFFFD) (hl : cell.contents.length = 22) (e : cell.set W c a = .ok cell') :
    cx cell' = true := by
  cases (Cell.set_eq W cell c a).symm.trans e
  exact cx_setResult cell ha hs hc

theorem chars_bytes_length (bs : List Nat) (h : (Utf8.fromUtf8 bs).err = none) :
    bs.length = ((Utf8.fromUtf8 bs).chars.map (fun c => (Utf8.encode c).length)).sum := by
  conv => lhs; rw [← Recv.decode_encode bs h]
  rw [List.length_flatMap]

theorem prefixOkB_append (n : Nat) (zs : List Nat) (z : Nat) :
    prefixOkB n (zs ++ [z]) = (prefixOkB n zs && decide (n + (zs.map (fun c => (Utf8.encode c).length)).sum < 18)) := by
  induction zs generalizing n with
  | nil => simp [prefixOkB]
  | cons y ys ih =>
    simp only [List.cons_append, prefixOkB, ih, List.map_cons, List.sum_cons]
    rw [show n + (Utf8.encode y).length + (ys.map (fun c => (Utf8.encode c).length)).sum =
      n + ((Utf8.encode y).length + (ys.map (fun c => (Utf8.encode c).length)).sum) by omega]
    cases decide (n < 18) <;> simp

theorem appendChar_eq_ok {cell c' : Cell} {st z : Nat} (e : cell.appendChar st z = .ok c') :
    st + (Utf8.encode z).length ≤ 22 ∧
    c' = { cell with contents := cell.contents.take st ++ Utf8.encode z ++ cell.contents.drop (st + (Utf8.encode z).length),
                     len := cell.len + (Utf8.encode z).length } := by
  unfold Cell.appendChar at e
  simp only at e
  split at e
  · rename_i h
    cases e
    simp only [CONTENT_BYTES, Bool.and_eq_true] at h
    exact ⟨of_decide_eq_true h.2, rfl⟩
  · cases e

theorem cx_appendResult {cell : Cell} {z f : Nat} {zs : List Nat} (hl : cell.contents.length = 22)
    (ha : attrsOk cell.attrs = true) (hc : (!cell.cont || cell.attrs == Attrs.default) = true)
    (hvalid : (Utf8.fromUtf8 (cell.contents.take cell.len)).err = none)
    (hchars : (Utf8.fromUtf8 (cell.contents.take cell.len)).chars = f :: zs) (hf : f ≠ 0xFFFD)
    (hp : prefixOkB (Utf8.encode f).length zs = true) (hlt : cell.len < 18)
    (hs : isScalar z = true) : cx (appendResult cell z) = true := by
  have hn := Utf8.encode_length_bounds z
  have hbl := chars_bytes_length (List.take cell.len cell.contents) hvalid
  rw [List.length_take, hl, Nat.min_eq_left (by omega), hchars] at hbl
  simp only [List.map_cons, List.sum_cons] at hbl
  simp only [cx, appendResult_live z hl (by omega) hvalid hs, Utf8.Res.append, hchars]
  simp only [appendResult, ha, hc, Bool.and_self, List.cons_append, Bool.true_and,
    Bool.or_eq_true, beq_iff_eq, Bool.and_eq_true, bne_iff_ne, ne_eq]
  right
  refine ⟨hf, ?_⟩
  rw [prefixOkB_append, hp]
  simp only [Bool.true_and, decide_eq_true_eq]
  omega

/-- by the three cases of `Cell.append_eq`; on an empty cell the new character combines with the space that comes first -/
theorem cx_append {W : Nat → Option Nat} {cell cell' : Cell} {z : Nat} (h : cellOk W cell = true) (hx : cx cell = true)
    (hs : isScalar z = true) (e : cell.append z = .ok cell') : cx cell' = true := by
  obtain ⟨hl, -, -⟩ := cellOk_fields W h
  have hvalid := cellOk_valid W h
  have hxa := hx
  simp only [cx, Bool.and_eq_true] at hxa
  obtain ⟨⟨ha1, ha2⟩, ha3⟩ := hxa
  cases (Cell.append_eq hl z).symm.trans e
  split
  · exact hx
  · rename_i hfull
    split
    · have h1 : List.take 1 (cell.contents.set 0 32) = Utf8.encode 32 := take_one_set_zero hl 32
      have hd := Utf8.fromUtf8_encode_single 32 (by decide)
      rw [appendEmptyResult_eq hl]
      exact cx_appendResult (f := 32) (zs := []) (by simp only [List.length_set]; exact hl) ha1 ha2
        (by simp only [h1, hd]) (by simp only [h1, hd]) (by decide) rfl (by simp) hs
    · rename_i h0
      have h0 : (cell.len == 0) = false := by simpa using h0
      simp only [h0, Bool.false_or] at ha3
      cases hcs : (Utf8.fromUtf8 (List.take cell.len cell.contents)).chars with
      | nil => rw [hcs] at ha3; cases ha3
      | cons f rest =>
        rw [hcs] at ha3
        simp only [Bool.and_eq_true, bne_iff_ne, ne_eq] at ha3
        exact cx_appendResult hl ha1 ha2 hvalid hcs ha3.1 ha3.2 (by omega) hs

/-- the column clause of `cellEmitOk` follows from the pairing of wide characters -/
theorem cellEmitOk_of_cx {W : Nat → Option Nat} {cols col : Nat} {c : Cell} (hx : cx c = true)
    (hfit : c.len ≠ 0 → col + (if c.wide then 2 else 1) ≤ cols)
    (hw : ∀ f zs, (Utf8.fromUtf8 (c.contents.take c.len)).chars = f :: zs → c.wide = decide ((W f).getD 1 > 1)) :
    cellEmitOk W cols col c = true := by
  simp only [cx, Bool.and_eq_true] at hx
  obtain ⟨⟨ha1, _⟩, ha3⟩ := hx
  simp only [cellEmitOk, ha1, Bool.true_and]
  by_cases h0 : (c.len == 0) = true
  · simp [h0]
  · simp only [h0, Bool.false_eq_true, ↓reduceIte]
    simp only [h0, Bool.false_or] at ha3
    have h0' : c.len ≠ 0 := by simpa using h0
    cases hcs : (Utf8.fromUtf8 (c.contents.take c.len)).chars with
    | nil => rw [hcs] at ha3; simp at ha3
    | cons f zs =>
      rw [hcs] at ha3
      simp only [Bool.and_eq_true, bne_iff_ne, ne_eq, decide_eq_true_eq] at ha3 ⊢
      refine ⟨⟨ha3.1, ?_⟩, ha3.2⟩
      have hfw := hfit h0'
      rw [hw f zs hcs] at hfw
      by_cases hgt : (W f).getD 1 > 1
      · simp only [hgt, decide_true, ↓reduceIte] at hfw
        have : min ((W f).getD 1) 2 = 2 := by omega
        omega
      · simp only [hgt, decide_false, Bool.false_eq_true, ↓reduceIte] at hfw
        have : min ((W f).getD 1) 2 ≤ 1 := by omega
        omega

def AllX (cs : List Cell) : Prop := ∀ c ∈ cs, cx c = true

theorem allX_nil : AllX [] := fun _ h => by simp at h

theorem allX_replicate_new (n : Nat) : AllX (List.replicate n Cell.new) := by
  intro c hc
  rw [(List.mem_replicate.mp hc).2]; exact cx_new

theorem allX_take {cs : List Cell} (h : AllX cs) (n : Nat) : AllX (cs.take n) :=
  fun c hc => h c (List.mem_of_mem_take hc)

theorem allX_append {a b : List Cell} (ha : AllX a) (hb : AllX b) : AllX (a ++ b) := by
  intro c hc
  rcases List.mem_append.mp hc with hc | hc
  · exact ha c hc
  · exact hb c hc

theorem allX_new (cols : Nat) : AllX (Row.new cols).cells := allX_replicate_new cols

theorem allX_clear {r : Row} {a : Attrs} (ha : attrsOk a = true) : AllX (r.clear a).cells := by
  intro c hc
  obtain ⟨c0, _, rfl⟩ := List.mem_map.mp hc
  exact cx_clear c0 ha

theorem allX_wrap {r : Row} (h : AllX r.cells) (b : Bool) : AllX (r.wrap b).cells := h

theorem allX_resize {r : Row} (h : AllX r.cells) (len : Nat) : AllX (r.resize len Cell.new).cells := by
  rw [resize_eq]
  exact forall_mem_blankLastWide (fun _ => cx_clear_self) (allX_append (allX_take h len) (allX_replicate_new _))

end Vt
