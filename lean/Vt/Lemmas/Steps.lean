/-
  Vt.Lemmas.Steps — the three loops of `perform` (`sgr`, `decset`, `decrst`) as straight-line programs.

  What a parameter does is a call of the closure `unhandled` the loop is given or one of eight operations on the screen
  (`ParamOp`): a pen change, a change of the six modes, origin mode, and the pieces the alternate-screen modes are made of
  (`?1049h` = save, clear, enter; `?1049l` = exit, restore).  The loops are `runSteps` of the step lists `sgrProg` /
  `modeProg setOps` / `modeProg rstOps` (`sgr_eq_run`, `decset_eq_run`, `decrst_eq_run`), so a statement about them is a
  statement about each operation plus closure under sequencing (`setOps_mem`, `rstOps_mem`: which operations a parameter
  can stand for).
-/
import Vt.Lemmas.Sgr
import Vt.Lemmas.Modes
namespace Vt
open C10 (Modes modesOf setEff rstEff modeParam handledParam)

inductive ParamOp where
  | pen (t : Attrs → Attrs)
  | mode (E : Modes → Modes)
  | origin (m : Bool)
  | save
  | restore
  | enter
  | exit
  | clearAlt

def ParamOp.run : ParamOp → Screen → M Screen
  | .pen t, s => pure { s with attrs := t s.attrs }
  | .mode E, s => pure (s.setModes (E (modesOf s)))
  | .origin m, s => s.modifyGrid fun g => g.setOriginMode m
  | .save, s => s.saveCursor
  | .restore, s => s.restoreCursor
  | .enter, s => s.enterAlternateGrid
  | .exit, s => pure s.exitAlternateGrid
  | .clearAlt, s => do let ag ← s.altGrid.clear; pure { s with altGrid := ag }

inductive ParamStep where
  | unhandled
  | op (o : ParamOp)

def ParamStep.run (unh : WS → M WS) (ws : WS) : ParamStep → M WS
  | .unhandled => unh ws
  | .op o => ws.onScreen o.run

def runSteps (unh : WS → M WS) (p : List ParamStep) (ws : WS) : M WS := p.foldlM (ParamStep.run unh) ws

section run
variable (unh : WS → M WS) (ws : WS)

theorem runSteps_cons (st : ParamStep) (p : List ParamStep) :
    runSteps unh (st :: p) ws = (st.run unh ws >>= runSteps unh p) := by
  simp only [runSteps, List.foldlM_cons]; rfl

theorem runSteps_one (st : ParamStep) : runSteps unh [st] ws = st.run unh ws := by
  simp only [runSteps, List.foldlM_cons, List.foldlM_nil, bind_pure]

theorem runSteps_append (p q : List ParamStep) : runSteps unh (p ++ q) ws = (runSteps unh p ws >>= runSteps unh q) := by
  simp only [runSteps, List.foldlM_append]; rfl

/-- `runSteps_one` read from right to left with the list and the run behind equations, so that
`exact runSteps_lit unh ws st rfl rfl` closes a goal that is such a run up to unfolding -/
theorem runSteps_lit {p : List ParamStep} (st : ParamStep) {r : M WS} (hp : p = [st]) (hr : r = st.run unh ws) :
    r = runSteps unh p ws := by
  rw [hp, runSteps_one]; exact hr

theorem runSteps_congr {unh' : WS → M WS} : ∀ {p : List ParamStep}, (∀ st ∈ p, ∀ ws, st.run unh ws = st.run unh' ws) →
    ∀ ws, runSteps unh p ws = runSteps unh' p ws
  | [], _, _ => rfl
  | st :: p, h, ws => by
    rw [runSteps_cons, runSteps_cons, h st List.mem_cons_self]
    exact congrArg _ (funext (runSteps_congr fun y hy => h y (List.mem_cons_of_mem _ hy)))

theorem onScreen_bind (f g : Screen → M Screen) :
    (ws.onScreen f >>= fun w => w.onScreen g) = ws.onScreen fun s => f s >>= g := by
  simp only [WS.onScreen]
  cases f ws.screen <;> rfl

theorem runSteps_ops : ∀ (os : List ParamOp) (ws : WS),
    runSteps unh (os.map .op) ws = ws.onScreen fun s => os.foldlM (fun s o => o.run s) s
  | [], _ => rfl
  | o :: os, ws => by
    rw [List.map_cons, runSteps_cons]
    show (ws.onScreen o.run >>= _) = _
    rw [funext (runSteps_ops os), onScreen_bind]
    rfl

end run

def sgrLoopProg : List (List Nat) → List ParamStep
  | [] => []
  | p :: rest =>
    match Sgr.step p rest with
    | .apply f k => .op (.pen f) :: sgrLoopProg (rest.drop k)
    | .report => .unhandled :: sgrLoopProg rest
    | .reportStop => [.unhandled]
    | .stop => []
termination_by ps => ps.length
decreasing_by all_goals (simp only [List.length_cons, List.length_drop]; omega)

theorem sgrLoopProg_cons (p : List Nat) (rest : List (List Nat)) :
    sgrLoopProg (p :: rest) =
      match Sgr.step p rest with
      | .apply f k => .op (.pen f) :: sgrLoopProg (rest.drop k)
      | .report => .unhandled :: sgrLoopProg rest
      | .reportStop => [.unhandled]
      | .stop => [] := by
  rw [sgrLoopProg]

def sgrProg (ps : List (List Nat)) : List ParamStep :=
  if ps.isEmpty then [.op (.pen fun _ => Attrs.default)] else sgrLoopProg ps

theorem sgrLoop_eq_run (unh : WS → M WS) : ∀ (ps : List (List Nat)) (ws : WS),
    sgrLoop unh ps ws = runSteps unh (sgrLoopProg ps) ws := by
  intro ps
  induction ps using Sgr.drop_induction with
  | nil => intro ws; rw [sgrLoop_nil, sgrLoopProg]; rfl
  | cons p rest ih =>
    intro ws
    rw [sgrLoop_cons, sgrLoopProg_cons]
    cases Sgr.step p rest with
    | apply f k => rw [runSteps_cons]; exact ih k _
    | report => rw [runSteps_cons]; exact congrArg _ (funext (ih 0))
    | reportStop => exact runSteps_lit unh ws .unhandled rfl rfl
    | stop => rfl

theorem sgr_eq_run (unh : WS → M WS) (ps : List (List Nat)) (ws : WS) :
    sgr unh ps ws = runSteps unh (sgrProg ps) ws := by
  unfold sgr sgrProg
  split
  · exact runSteps_lit unh ws (.op (.pen fun _ => Attrs.default)) rfl rfl
  · exact sgrLoop_eq_run unh ps ws

def KeepsAttrsOk (t : Attrs → Attrs) : Prop := ∀ a, attrsOk a = true → attrsOk (t a) = true

theorem mem_sgrLoopProg {st : ParamStep} : ∀ {ps : List (List Nat)}, st ∈ sgrLoopProg ps →
    st = .unhandled ∨ ∃ t, st = .op (.pen t) ∧ KeepsAttrsOk t := by
  intro ps
  induction ps using Sgr.drop_induction with
  | nil => intro h; rw [sgrLoopProg] at h; cases h
  | cons p rest ih =>
    intro h
    rw [sgrLoopProg_cons] at h
    cases hs : Sgr.step p rest with
    | apply f k =>
      rw [hs] at h
      rcases List.mem_cons.mp h with rfl | h
      · exact .inr ⟨f, rfl, fun _ => Sgr.step_apply_attrsOk hs⟩
      · exact ih k h
    | report =>
      rw [hs] at h
      rcases List.mem_cons.mp h with rfl | h
      · exact .inl rfl
      · exact ih 0 h
    | reportStop => rw [hs] at h; exact .inl (List.mem_singleton.mp h)
    | stop => rw [hs] at h; cases h

theorem mem_sgrProg {st : ParamStep} {ps : List (List Nat)} (h : st ∈ sgrProg ps) :
    st = .unhandled ∨ ∃ t, st = .op (.pen t) ∧ KeepsAttrsOk t := by
  unfold sgrProg at h
  split at h
  · exact .inr ⟨_, List.mem_singleton.mp h, fun _ _ => by decide⟩
  · exact mem_sgrLoopProg h

/-- the operations of one DECSET parameter; `none`: no arm -/
def setOps (p : List Nat) : Option (List ParamOp) :=
  if modeParam p then some [.mode (setEff p)]
  else match p with
    | [6] => some [.origin true]
    | [47] => some [.enter]
    | [1049] => some [.save, .clearAlt, .enter]
    | _ => none

def rstOps (p : List Nat) : Option (List ParamOp) :=
  if modeParam p then some [.mode (rstEff p)]
  else match p with
    | [6] => some [.origin false]
    | [47] => some [.exit]
    | [1049] => some [.exit, .restore]
    | _ => none

def armProg (ops : List Nat → Option (List ParamOp)) (p : List Nat) : List ParamStep :=
  match ops p with
  | some os => os.map .op
  | none => [.unhandled]

/-- `for param in params` -/
def modeProg (ops : List Nat → Option (List ParamOp)) (ps : List (List Nat)) : List ParamStep :=
  ps.flatMap (armProg ops)

theorem setOps_none {p : List Nat} (h : handledParam p = false) : setOps p = none := by
  unfold setOps
  rw [if_neg (by rw [C10.handled_of_modeParam p h]; nofun)]
  split <;> first | cases h | rfl

theorem rstOps_none {p : List Nat} (h : handledParam p = false) : rstOps p = none := by
  unfold rstOps
  rw [if_neg (by rw [C10.handled_of_modeParam p h]; nofun)]
  split <;> first | cases h | rfl

theorem setOps_mem {p : List Nat} {os : List ParamOp} {o : ParamOp} (h : setOps p = some os) (ho : o ∈ os) :
    (∃ E, o = .mode E) ∨ o = .origin true ∨ o = .enter ∨ (p = [1049] ∧ (o = .save ∨ o = .clearAlt)) := by
  unfold setOps at h
  split at h
  · cases h; exact .inl ⟨_, List.mem_singleton.mp ho⟩
  · split at h <;> cases h <;> simp only [List.mem_cons, List.not_mem_nil, or_false] at ho
    · exact .inr (.inl ho)
    · exact .inr (.inr (.inl ho))
    · rcases ho with rfl | rfl | rfl
      · exact .inr (.inr (.inr ⟨rfl, .inl rfl⟩))
      · exact .inr (.inr (.inr ⟨rfl, .inr rfl⟩))
      · exact .inr (.inr (.inl rfl))

theorem rstOps_mem {p : List Nat} {os : List ParamOp} {o : ParamOp} (h : rstOps p = some os) (ho : o ∈ os) :
    (∃ E, o = .mode E) ∨ o = .origin false ∨ ((p = [47] ∨ p = [1049]) ∧ o = .exit) ∨ (p = [1049] ∧ o = .restore) := by
  unfold rstOps at h
  split at h
  · cases h; exact .inl ⟨_, List.mem_singleton.mp ho⟩
  · split at h <;> cases h <;> simp only [List.mem_cons, List.not_mem_nil, or_false] at ho
    · exact .inr (.inl ho)
    · exact .inr (.inr (.inl ⟨.inl rfl, ho⟩))
    · rcases ho with rfl | rfl
      · exact .inr (.inr (.inl ⟨.inr rfl, rfl⟩))
      · exact .inr (.inr (.inr ⟨rfl, rfl⟩))

theorem mem_modeProg {ops : List Nat → Option (List ParamOp)} {ps : List (List Nat)} {st : ParamStep}
    (h : st ∈ modeProg ops ps) : st = .unhandled ∨ ∃ p ∈ ps, ∃ os, ops p = some os ∧ ∃ o ∈ os, st = .op o := by
  obtain ⟨p, hp, h⟩ := List.mem_flatMap.mp h
  unfold armProg at h
  cases ho : ops p with
  | none => rw [ho] at h; exact .inl (List.mem_singleton.mp h)
  | some os =>
    rw [ho] at h
    obtain ⟨o, ho', rfl⟩ := List.mem_map.mp h
    exact .inr ⟨p, hp, os, ho, o, ho', rfl⟩

namespace C18all

/-- one step of the `for param in params` loop of `decset` / `decrst` (in the namespace of Props/C18all, whose
statements speak of it) -/
def modeStep (one : Screen → List Nat → M (Option Screen)) (unh : WS → M WS) (ws : WS) (p : List Nat) : M WS := do
  match ← one ws.screen p with
  | some s => pure { ws with screen := s }
  | none => unh ws

end C18all

section eq
open C18all (modeStep)
variable (unh : WS → M WS) (ws : WS)

theorem arm_some (f : Screen → M Screen) :
    (do match ← (do let s ← f ws.screen; pure (some s)) with
        | some s => pure { ws with screen := s }
        | none => unh ws) = ws.onScreen f := by
  simp only [WS.onScreen]
  cases f ws.screen <;> rfl

theorem setStep_eq_run (p : List Nat) :
    modeStep Screen.decsetOne unh ws p = runSteps unh (armProg setOps p) ws := by
  induction p using C10.paramKind_cases with
  | flag p hf =>
    simp only [modeStep, armProg, setOps, hf, ↓reduceIte, ws.screen.decsetOne_flag hf, ok_bind]
    exact runSteps_lit unh ws (.op (.mode (setEff p))) rfl rfl
  | h6 => exact runSteps_lit unh ws (.op (.origin true)) rfl (arm_some unh ws (ParamOp.run (.origin true)))
  | h47 => exact runSteps_lit unh ws (.op .enter) rfl (arm_some unh ws _)
  | h1049 =>
    have e : ws.screen.decsetOne [1049] =
        (do let s' ← [ParamOp.save, .clearAlt, .enter].foldlM (fun s o => o.run s) ws.screen; pure (some s')) := by
      simp only [Screen.decsetOne, List.foldlM_cons, List.foldlM_nil, ParamOp.run, Screen.decsc, bind_assoc, bind_pure,
        pure_bind]
    simp only [modeStep, e]
    exact (arm_some unh ws _).trans (runSteps_ops unh _ ws).symm
  | other p hp =>
    simp only [modeStep, armProg, ws.screen.decsetOne_unhandled p hp, setOps_none hp, ok_bind]
    exact runSteps_lit unh ws .unhandled rfl rfl

theorem rstStep_eq_run (p : List Nat) :
    modeStep Screen.decrstOne unh ws p = runSteps unh (armProg rstOps p) ws := by
  induction p using C10.paramKind_cases with
  | flag p hf =>
    simp only [modeStep, armProg, rstOps, hf, ↓reduceIte, ws.screen.decrstOne_flag hf, ok_bind]
    exact runSteps_lit unh ws (.op (.mode (rstEff p))) rfl rfl
  | h6 => exact runSteps_lit unh ws (.op (.origin false)) rfl (arm_some unh ws (ParamOp.run (.origin false)))
  | h47 => rfl
  | h1049 =>
    have e : ws.screen.decrstOne [1049] =
        (do let s' ← [ParamOp.exit, .restore].foldlM (fun s o => o.run s) ws.screen; pure (some s')) := by
      simp only [Screen.decrstOne, List.foldlM_cons, List.foldlM_nil, ParamOp.run, Screen.decrc, bind_pure, pure_bind']
    simp only [modeStep, e]
    exact (arm_some unh ws _).trans (runSteps_ops unh _ ws).symm
  | other p hp =>
    simp only [modeStep, armProg, ws.screen.decrstOne_unhandled p hp, rstOps_none hp, ok_bind]
    exact runSteps_lit unh ws .unhandled rfl rfl

theorem modes_eq_run {one ops} (h : ∀ ws p, modeStep one unh ws p = runSteps unh (armProg ops p) ws) :
    ∀ (ps : List (List Nat)) (ws : WS), ps.foldlM (modeStep one unh) ws = runSteps unh (modeProg ops ps) ws
  | [], _ => rfl
  | p :: ps, ws => by
    rw [List.foldlM_cons, h, funext (modes_eq_run h ps)]
    exact (runSteps_append unh ws _ _).symm

theorem decset_eq_run (ps : List (List Nat)) : decset unh ps ws = runSteps unh (modeProg setOps ps) ws :=
  modes_eq_run unh (fun ws p => setStep_eq_run unh ws p) ps ws

theorem decrst_eq_run (ps : List (List Nat)) : decrst unh ps ws = runSteps unh (modeProg rstOps ps) ws :=
  modes_eq_run unh (fun ws p => rstStep_eq_run unh ws p) ps ws

end eq
end Vt
