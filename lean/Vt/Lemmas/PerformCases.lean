/-
  Vt.Lemmas.PerformCases — the steps `perform` is made of.

  `perform_cases`: what `perform` does for an action is one of fourteen kinds of step or, for the three loops
  (`IsLoop`), a sequence of callbacks and eight further operations (Vt/Lemmas/Steps.lean), so a statement about
  every action is a statement about each kind.  Before it, what the dispatch tables do with a sequence they have no
  arm for (`C18.*_other`: one `unhandled_*` callback, for every callbacks object); after it `MPred.process`,
  `MRel.process`: `process` is the run of the actions, with the automaton set aside.
-/
import Vt.Lemmas.Frame
import Vt.Lemmas.Steps
import Vt.Lemmas.Process
namespace Vt.C18
open Vt

variable (ws : WS)

/-- the ESC finals the crate implements: 7 8 = > M c g (`C18all.escImplemented` is these without `g`, which only rings
the visual bell).  This and `csiImplemented` repeat the literal arms of `performEsc` / `performCsi` (Model/Perform); the
`*_other` lemmas below and the bullets of `perform_cases`, which follow the order of the disjuncts here, fail when the
two part. -/
def escImplemented (b : Nat) : Bool :=
  b == 55 || b == 56 || b == 61 || b == 62 || b == 77 || b == 99 || b == 103

/-- the CSI finals implemented without a private marker -/
def csiImplemented (c : Nat) : Bool :=
  (64 ≤ c && c ≤ 72) || c == 74 || c == 75 || c == 76 || c == 77 || c == 80 || c == 83 || c == 84 ||
  c == 88 || c == 100 || c == 109 || c == 114 || c == 116

/-! The default arms: in each arm for a literal the hypothesis is false by evaluation; what is left is the default arm. -/

section other
variable (cb : CbPolicy)

theorem performExecute_other (b : Nat) (h : b < 7 ∨ 15 < b) :
    performExecute cb ws b = emit cb (.unhandledControl b) ws := by
  unfold performExecute
  split <;> first | rfl | omega

theorem performEsc_other (b : Nat) (h : escImplemented b = false) :
    performEsc cb ws [] b = emit cb (.unhandledEscape none none b) ws := by
  unfold performEsc
  dsimp only
  split <;> first | exact absurd h (by decide) | rfl

theorem performCsi_other (params : List (List Nat)) (c : Nat) (h : csiImplemented c = false) :
    performCsi cb ws params [] c = emit cb (.unhandledCsi none none params c) ws := by
  unfold performCsi
  dsimp only
  split <;> first | exact absurd h (by decide) | rfl

theorem performCsi_private_other (params : List (List Nat)) (rest : List Nat) (c : Nat)
    (h : c ≠ 74 ∧ c ≠ 75 ∧ c ≠ 104 ∧ c ≠ 108) :
    performCsi cb ws params (63 :: rest) c = emit cb (.unhandledCsi (some 63) rest.head? params c) ws := by
  unfold performCsi
  split
  · contradiction
  · next heq => cases heq; split <;> first | rfl | omega
  · next hne heq => cases heq; exact (hne rfl).elim

theorem performCsi_intermediate (params : List (List Nat)) (i : Nat) (rest : List Nat) (c : Nat) (hi : i ≠ 63) :
    performCsi cb ws params (i :: rest) c = emit cb (.unhandledCsi (some i) rest.head? params c) ws := by
  unfold performCsi
  split
  · contradiction
  · next heq => cases heq; contradiction
  · next heq => cases heq; rfl

end other

end Vt.C18

namespace Vt.C12
open Vt

theorem ed_eq (unh : WS → M WS) (m : Nat) :
    ed unh m = match m with
      | 0 => fun ws => ws.onScreen fun s => s.modifyGrid fun g => g.eraseAllForward s.attrs
      | 1 => fun ws => ws.onScreen fun s => s.modifyGrid fun g => g.eraseAllBackward s.attrs
      | 2 => fun ws => ws.onScreen fun s => s.modifyGrid fun g => pure (g.eraseAll s.attrs)
      | _ => unh := by
  funext ws
  match m with
  | 0 => exact arm_some unh ws fun s => s.modifyGrid fun g => g.eraseAllForward s.attrs
  | 1 => exact arm_some unh ws fun s => s.modifyGrid fun g => g.eraseAllBackward s.attrs
  | 2 => exact arm_some unh ws fun s => s.modifyGrid fun g => pure (g.eraseAll s.attrs)
  | _ + 3 => rfl

theorem el_eq (unh : WS → M WS) (m : Nat) :
    el unh m = match m with
      | 0 => fun ws => ws.onScreen fun s => s.modifyGrid fun g => g.eraseRowForward s.attrs
      | 1 => fun ws => ws.onScreen fun s => s.modifyGrid fun g => g.eraseRowBackward s.attrs
      | 2 => fun ws => ws.onScreen fun s => s.modifyGrid fun g => g.eraseRow s.attrs
      | _ => unh := by
  funext ws
  match m with
  | 0 => exact arm_some unh ws fun s => s.modifyGrid fun g => g.eraseRowForward s.attrs
  | 1 => exact arm_some unh ws fun s => s.modifyGrid fun g => g.eraseRowBackward s.attrs
  | 2 => exact arm_some unh ws fun s => s.modifyGrid fun g => g.eraseRow s.attrs
  | _ + 3 => rfl

/-- what `canon1` / `canon2` hand over is the parameter, or the default `d` where it is 0: at least 1 when `d` is, so
that the `- 1` of `cha`, `cup`, `vpa`, `decstbm` cannot underflow -/
theorem one_le_canon (f : Nat) {d : Nat} (hd : 1 ≤ d) : 1 ≤ if (f == 0) = true then d else f := by
  split
  · exact hd
  · rename_i h; exact Nat.pos_of_ne_zero fun e => h (beq_iff_eq.mpr e)

theorem cha_pos (s : Screen) {n : Nat} (h : 1 ≤ n) : s.cha n = s.modifyGrid fun g => g.colSet (n - 1) := by
  unfold Screen.cha; rw [subM_ok h]; rfl

theorem vpa_pos (s : Screen) {n : Nat} (h : 1 ≤ n) : s.vpa n = s.modifyGrid fun g => g.rowSet (n - 1) := by
  unfold Screen.vpa; rw [subM_ok h]; rfl

theorem cup_pos (s : Screen) {r c : Nat} (hr : 1 ≤ r) (hc : 1 ≤ c) :
    s.cup r c = s.modifyGrid fun g => g.setPos ⟨r - 1, c - 1⟩ := by
  unfold Screen.cup; rw [subM_ok hr, subM_ok hc]; rfl

/-- the three actions that go through their parameter list: `CSI … m`, `CSI ? … h`, `CSI ? … l` -/
inductive IsLoop : Action → Prop
  | sgr (ps ig) : IsLoop (.csiDispatch ps [] ig 109)
  | decset (ps rest ig) : IsLoop (.csiDispatch ps (63 :: rest) ig 104)
  | decrst (ps rest ig) : IsLoop (.csiDispatch ps (63 :: rest) ig 108)

/-- **case principle for `perform`**: what an action does, as a function of the callback policy and the wrapped screen,
is built from the steps below.  The drawing operations come as one case (`draw`); the steps that can record a line,
touch the saved cursor, the margins, the modes or both grids come with the action they belong to.  A motive has to be
closed under sequencing for `sgr`, `decset` and `decrst` only (`seq`; none of them draws or scrolls), and then meets the
`unhandled` callback (as `emit`) and eight operations, each with the action and, for the pieces of `?47` / `?1049`, the
parameter it belongs to.  A small instance to start from: `C11.perform_keep` (Props/C11). -/
theorem perform_cases (W : Nat → Option Nat) {C : Action → (CbPolicy → WS → M WS) → Prop}
    (nop : ∀ a, C a fun _ => pure)
    (emit : ∀ a e, (∀ r c, e ≠ .resize r c) → C a fun cb => emit cb e)
    (emit2 : ∀ a e1 e2, (∀ r c, e1 ≠ .resize r c) → (∀ r c, e2 ≠ .resize r c) →
      C a fun cb ws => Vt.emit cb e1 ws >>= Vt.emit cb e2)
    (draw : ∀ a (f : Attrs → Grid → M Grid), (∀ p, DrawOp p (f p)) →
      C a fun _ ws => ws.onScreen fun s => s.modifyGrid (f s.attrs))
    (deckpam : ∀ ig, C (.escDispatch [] ig 61) fun _ ws => pure { ws with screen := ws.screen.deckpam })
    (deckpnm : ∀ ig, C (.escDispatch [] ig 62) fun _ ws => pure { ws with screen := ws.screen.deckpnm })
    (lf : ∀ b, b = 10 ∨ b = 11 ∨ b = 12 → C (.execute b) fun _ ws => ws.onScreen Screen.lf)
    (text : ∀ c, ¬ (0x80 ≤ c ∧ c < 0xA0) → c ≠ 0xFFFD → C (.print c) fun _ ws => ws.onScreen fun s => s.text W c)
    (su : ∀ ps ig, C (.csiDispatch ps [] ig 83) fun _ ws => ws.onScreen fun s => s.su (canon1 ps 1))
    (decsc : ∀ ig, C (.escDispatch [] ig 55) fun _ ws => ws.onScreen Screen.decsc)
    (decrc : ∀ ig, C (.escDispatch [] ig 56) fun _ ws => ws.onScreen Screen.decrc)
    (ris : ∀ ig, C (.escDispatch [] ig 99) fun _ ws => ws.onScreen Screen.ris)
    (decstbm : ∀ ps ig, C (.csiDispatch ps [] ig 114) fun _ ws => ws.onScreen fun s =>
      s.decstbm (canon2 ps 1 s.cur.size.rows).1 (canon2 ps 1 s.cur.size.rows).2)
    (resize : ∀ ps ig, C (.csiDispatch ps [] ig 116) fun cb ws =>
      Vt.emit cb (.resize (xtArg ps.tail ws.screen.size.rows) (xtArg ps.tail.tail ws.screen.size.cols)) ws)
    (seq : ∀ a, IsLoop a → ∀ e (p : List ParamStep), (∀ st ∈ p, C a fun cb ws => st.run (Vt.emit cb e) ws) →
      C a fun cb => runSteps (Vt.emit cb e) p)
    (pen : ∀ ps ig t, KeepsAttrsOk t → C (.csiDispatch ps [] ig 109) fun _ ws => pure (ws.modAttrs t))
    (mode : ∀ ps rest ig c (E : C10.Modes → C10.Modes), c = 104 ∨ c = 108 → C (.csiDispatch ps (63 :: rest) ig c)
      fun _ ws => pure { ws with screen := ws.screen.setModes (E (C10.modesOf ws.screen)) })
    (origin : ∀ ps rest ig c m, c = 104 ∨ c = 108 → C (.csiDispatch ps (63 :: rest) ig c)
      fun _ ws => ws.onScreen fun s => s.modifyGrid fun g => g.setOriginMode m)
    (enter : ∀ ps rest ig, C (.csiDispatch ps (63 :: rest) ig 104) fun _ ws => ws.onScreen Screen.enterAlternateGrid)
    (save1049 : ∀ ps rest ig, [1049] ∈ ps →
      C (.csiDispatch ps (63 :: rest) ig 104) fun _ ws => ws.onScreen Screen.saveCursor)
    (clear1049 : ∀ ps rest ig, [1049] ∈ ps → C (.csiDispatch ps (63 :: rest) ig 104) fun _ ws =>
      ws.onScreen fun s => do let ag ← s.altGrid.clear; pure { s with altGrid := ag })
    (exit : ∀ ps rest ig, [47] ∈ ps ∨ [1049] ∈ ps →
      C (.csiDispatch ps (63 :: rest) ig 108) fun _ ws => pure { ws with screen := ws.screen.exitAlternateGrid })
    (restore1049 : ∀ ps rest ig, [1049] ∈ ps →
      C (.csiDispatch ps (63 :: rest) ig 108) fun _ ws => ws.onScreen Screen.restoreCursor)
    (a : Action) : C a fun cb ws => perform W cb ws a := by
  have drawOp (a : Action) (f : Grid → M Grid) (hf : ∀ p, DrawOp p f) :
      C a fun _ ws => ws.onScreen fun s => s.modifyGrid f := draw a (fun _ => f) hf
  have onScreen {a : Action} {f f' : Screen → M Screen} (h : ∀ s, f s = f' s)
      (hc : C a fun _ ws => ws.onScreen f') : C a fun _ ws => ws.onScreen f := (funext h : f = f') ▸ hc
  have other {a : Action} {F : CbPolicy → WS → M WS} {e : Event} (h : ∀ cb ws, F cb ws = Vt.emit cb e ws)
      (he : ∀ r c, e ≠ .resize r c) : C a F :=
    (funext fun cb => funext fun ws => h cb ws : F = fun cb => Vt.emit cb e) ▸ emit a e he
  have loop {a : Action} {F : CbPolicy → WS → M WS} {e : Event} {p : List ParamStep}
      (h : ∀ cb ws, F cb ws = runSteps (Vt.emit cb e) p ws) (hc : C a fun cb => runSteps (Vt.emit cb e) p) : C a F :=
    (funext fun cb => funext fun ws => h cb ws : F = fun cb => runSteps (Vt.emit cb e) p) ▸ hc
  have hed (a : Action) (e : Event) (he : ∀ r c, e ≠ .resize r c) (m : Nat) : C a fun cb => ed (Vt.emit cb e) m := by
    simp only [ed_eq]
    match m with
    | 0 => exact draw a (fun p g => g.eraseAllForward p) fun _ => .row .eraseAllForward
    | 1 => exact draw a (fun p g => g.eraseAllBackward p) fun _ => .row .eraseAllBackward
    | 2 => exact draw a (fun p g => pure (g.eraseAll p)) fun _ => .row .eraseAll
    | _ + 3 => exact emit a e he
  have hel (a : Action) (e : Event) (he : ∀ r c, e ≠ .resize r c) (m : Nat) : C a fun cb => el (Vt.emit cb e) m := by
    simp only [el_eq]
    match m with
    | 0 => exact draw a (fun p g => g.eraseRowForward p) fun _ => .row .eraseRowForward
    | 1 => exact draw a (fun p g => g.eraseRowBackward p) fun _ => .row .eraseRowBackward
    | 2 => exact draw a (fun p g => g.eraseRow p) fun _ => .row .eraseRow
    | _ + 3 => exact emit a e he
  cases a with
  | hook _ _ _ _ => exact nop _
  | put _ => exact nop _
  | unhook => exact nop _
  | print c =>
    show C _ fun cb ws => performPrint W cb ws c
    unfold performPrint
    by_cases h1 : (0x80 ≤ c && c < 0xA0) = true
    · have hc : c < 7 ∨ 15 < c := by simp only [Bool.and_eq_true, decide_eq_true_eq] at h1; omega
      simp only [h1, ↓reduceIte]
      exact other (fun cb ws => C18.performExecute_other ws cb c hc) nofun
    · by_cases h2 : (c == 0xFFFD) = true
      · simp only [h1, h2, ↓reduceIte]
        exact emit _ _ nofun
      · simp only [h1, h2]
        exact text c (by simpa using h1) (by simpa using h2)
  | execute b =>
    show C _ fun cb ws => performExecute cb ws b
    obtain rfl | rfl | rfl | h | rfl | rfl | rfl | h :
        b = 7 ∨ b = 8 ∨ b = 9 ∨ (b = 10 ∨ b = 11 ∨ b = 12) ∨ b = 13 ∨ b = 14 ∨ b = 15 ∨ (b < 7 ∨ 15 < b) := by omega
    · exact emit _ _ nofun
    · exact drawOp _ _ fun _ => .colDec 1
    · exact drawOp _ _ fun _ => .colTab
    · have e : (fun (cb : CbPolicy) ws => performExecute cb ws b) = fun _ ws => ws.onScreen Screen.lf := by
        rcases h with rfl | rfl | rfl <;> rfl
      rw [e]
      exact lf b h
    · exact drawOp _ _ fun _ => .colSet 0
    · exact nop _
    · exact nop _
    · exact other (fun cb ws => C18.performExecute_other ws cb b h) nofun
  | oscDispatch ps _ =>
    show C _ fun cb ws => performOsc cb ws ps
    unfold performOsc
    split
    · exact emit2 _ _ _ nofun nofun
    all_goals exact emit _ _ nofun
  | escDispatch ints ig b =>
    show C _ fun cb ws => performEsc cb ws ints b
    cases ints with
    | cons i rest => exact emit _ _ nofun
    | nil =>
      cases h : C18.escImplemented b with
      | false => exact other (fun cb ws => C18.performEsc_other ws cb b h) nofun
      | true =>
        simp only [C18.escImplemented, Bool.or_eq_true, beq_iff_eq, or_assoc] at h
        obtain rfl | rfl | rfl | rfl | rfl | rfl | rfl := h
        · exact decsc ig
        · exact decrc ig
        · exact deckpam ig
        · exact deckpnm ig
        · exact drawOp _ _ fun _ => .row (.rowDecScroll 1)
        · exact ris ig
        · exact emit _ _ nofun
  | csiDispatch ps ints ig c =>
    show C _ fun cb ws => performCsi cb ws ps ints c
    cases ints with
    | nil =>
      cases h : C18.csiImplemented c with
      | false => exact other (fun cb ws => C18.performCsi_other ws cb ps c h) nofun
      | true =>
        simp only [C18.csiImplemented, Bool.or_eq_true, Bool.and_eq_true, decide_eq_true_eq, beq_iff_eq,
          or_assoc] at h
        obtain h | rfl | rfl | rfl | rfl | rfl | rfl | rfl | rfl | rfl | rfl | rfl | rfl := h
        · obtain rfl | rfl | rfl | rfl | rfl | rfl | rfl | rfl | rfl :
              c = 64 ∨ c = 65 ∨ c = 66 ∨ c = 67 ∨ c = 68 ∨ c = 69 ∨ c = 70 ∨ c = 71 ∨ c = 72 := by omega
          · exact drawOp _ _ fun _ => .row (.insertCells _)
          · exact drawOp _ _ fun _ => .row (.rowDecClamp _)
          · exact drawOp _ _ fun _ => .row (.rowIncClamp _)
          · exact drawOp _ _ fun _ => .colIncClamp _
          · exact drawOp _ _ fun _ => .colDec _
          · exact drawOp _ _ fun _ => .cnl _
          · exact drawOp _ _ fun _ => .cpl _
          · exact onScreen (fun s => cha_pos s (one_le_canon _ (Nat.le_refl 1))) (drawOp _ _ fun _ => .colSet _)
          · exact onScreen (fun s => cup_pos s (one_le_canon _ (Nat.le_refl 1)) (one_le_canon _ (Nat.le_refl 1)))
              (drawOp _ _ fun _ => .setPos _)
        · exact hed _ _ (by nofun) _
        · exact hel _ _ (by nofun) _
        · exact drawOp _ _ fun _ => .row (.insertLines _)
        · exact drawOp _ _ fun _ => .row (.deleteLines _)
        · exact drawOp _ _ fun _ => .row (.deleteCells _)
        · exact su ps ig
        · exact drawOp _ _ fun _ => .row (.scrollDown _)
        · exact draw _ (fun p g => g.eraseCells (canon1 ps 1) p) fun _ => .row (.eraseCells _)
        · exact onScreen (fun s => vpa_pos s (one_le_canon _ (Nat.le_refl 1))) (drawOp _ _ fun _ => .row (.rowSet _))
        · refine loop (fun cb ws => sgr_eq_run (Vt.emit cb _) ps ws) (seq _ (.sgr ps ig) _ _ fun st hst => ?_)
          obtain rfl | ⟨t, rfl, ht⟩ := mem_sgrProg hst
          · exact emit _ _ nofun
          · exact pen ps ig t ht
        · exact decstbm ps ig
        · by_cases hx : (xtOp ps == some 8) = true
          · have e : (fun (cb : CbPolicy) ws => performCsi cb ws ps [] 116) = fun cb ws => Vt.emit cb
                (.resize (xtArg ps.tail ws.screen.size.rows) (xtArg ps.tail.tail ws.screen.size.cols)) ws := by
              funext cb ws; exact if_pos hx
            rw [e]
            exact resize ps ig
          · exact other (fun cb ws => if_neg hx) nofun
    | cons i rest =>
      by_cases hi : i = 63
      · subst hi
        by_cases h74 : c = 74; · subst h74; exact hed _ _ (by nofun) _
        by_cases h75 : c = 75; · subst h75; exact hel _ _ (by nofun) _
        by_cases h104 : c = 104
        · subst h104
          refine loop (fun cb ws => decset_eq_run (Vt.emit cb _) ws ps) (seq _ (.decset ps rest ig) _ _ fun st hst => ?_)
          obtain rfl | ⟨p, hp, os, hos, o, ho, rfl⟩ := mem_modeProg hst
          · exact emit _ _ nofun
          · rcases setOps_mem hos ho with ⟨E, rfl⟩ | rfl | rfl | ⟨rfl, rfl | rfl⟩
            · exact mode ps rest ig 104 E (.inl rfl)
            · exact origin ps rest ig 104 true (.inl rfl)
            · exact enter ps rest ig
            · exact save1049 ps rest ig hp
            · exact clear1049 ps rest ig hp
        by_cases h108 : c = 108
        · subst h108
          refine loop (fun cb ws => decrst_eq_run (Vt.emit cb _) ws ps) (seq _ (.decrst ps rest ig) _ _ fun st hst => ?_)
          obtain rfl | ⟨p, hp, os, hos, o, ho, rfl⟩ := mem_modeProg hst
          · exact emit _ _ nofun
          · rcases rstOps_mem hos ho with ⟨E, rfl⟩ | rfl | ⟨hp', rfl⟩ | ⟨rfl, rfl⟩
            · exact mode ps rest ig 108 E (.inr rfl)
            · exact origin ps rest ig 108 false (.inr rfl)
            · exact exit ps rest ig (hp'.elim (fun e => .inl (e ▸ hp)) fun e => .inr (e ▸ hp))
            · exact restore1049 ps rest ig hp
        exact other (fun cb ws => C18.performCsi_private_other ws cb ps rest c ⟨h74, h75, h104, h108⟩) nofun
      · exact other (fun cb ws => C18.performCsi_intermediate ws cb ps i rest c hi) nofun

section process
variable {W : Nat → Option Nat} {cb : CbPolicy}

theorem MPred.process {P : WS → Prop} {p : Parser} {bytes : List Nat}
    (h : MPred P ((p.vte.advance bytes).2.foldlM (perform W cb) p.ws)) :
    MPred (fun p' => p'.vte = (p.vte.advance bytes).1 ∧ P p'.ws) (p.process W cb bytes) :=
  MPred.iff.mpr fun _ e => let ⟨ws', h1, e⟩ := C18.process_eq_ok.mp e; e ▸ ⟨rfl, MPred.iff.mp h ws' h1⟩

theorem MRel.process {R : WS → WS → Prop} {p1 p2 : Parser} (hv : p1.vte = p2.vte) {bytes : List Nat}
    (h : ∀ acts : List Action, MRel R (acts.foldlM (perform W cb) p1.ws) (acts.foldlM (perform W cb) p2.ws)) :
    MRel (fun a b => a.vte = b.vte ∧ R a.ws b.ws) (p1.process W cb bytes) (p2.process W cb bytes) := by
  simp only [Parser.process, hv]
  exact MRel.bind (h _) fun a b hab => MRel.pure ⟨rfl, hab⟩

end process

end Vt.C12
