/-
  Vt.Lemmas.VteOk — everything `Vte.advance` hands to `perform` is admissible: printed
  characters are Unicode scalar values and CSI parameters are within `u16`.
-/
import Vt.Lemmas.VteFeed
namespace Vt

/-- admissible actions: what `perform` is proved total on (`C13.ActionOk` abbreviates this predicate) -/
def ActOk : Action → Prop
  | .print c => isScalar c = true
  | .csiDispatch params _ _ _ => ∀ p ∈ params, ∀ x ∈ p, x ≤ 65535
  | _ => True

/-- the automaton's share of the parser invariant (`C13.ParserInv`): the parameters it has collected are `u16` values,
which is what makes the next `csi_dispatch` an `ActOk` action -/
structure VteOk (v : Vte) : Prop where
  carry : ∀ b ∈ v.carry, b < 256
  param : v.param ≤ 65535
  params : ∀ p ∈ v.params, ∀ x ∈ p, x ≤ 65535
  cur : ∀ x ∈ v.cur, x ≤ 65535

theorem vteOk_new : VteOk Vte.new := ⟨by simp [Vte.new], by simp [Vte.new], by simp [Vte.new], by simp [Vte.new]⟩

theorem vteOk_state {v : Vte} (h : VteOk v) (s : VState) : VteOk { v with state := s } := ⟨h.1, h.2, h.3, h.4⟩
theorem vteOk_reset {v : Vte} (h : VteOk v) : VteOk v.resetParams :=
  ⟨h.1, by simp [Vte.resetParams], by simp [Vte.resetParams], by simp [Vte.resetParams]⟩
theorem vteOk_collect {v : Vte} (h : VteOk v) (b : Nat) : VteOk (v.actionCollect b) := by
  unfold Vte.actionCollect; split <;> exact ⟨h.1, h.2, h.3, h.4⟩
theorem vteOk_push {v : Vte} (h : VteOk v) : VteOk (v.pushParam v.param) := by
  refine ⟨h.1, h.2, ?_, by simp [Vte.pushParam]⟩
  intro p hp x hx
  simp only [Vte.pushParam, List.mem_append, List.mem_singleton] at hp
  rcases hp with hp | rfl
  · exact h.3 p hp x hx
  · simp only [List.mem_append, List.mem_singleton] at hx
    rcases hx with hx | rfl
    · exact h.4 x hx
    · exact h.2
theorem vteOk_param {v : Vte} (h : VteOk v) : VteOk v.actionParam := by
  unfold Vte.actionParam; split
  · exact ⟨h.1, h.2, h.3, h.4⟩
  · have := vteOk_push h; exact ⟨this.1, by simp, this.3, this.4⟩
theorem vteOk_subparam {v : Vte} (h : VteOk v) : VteOk v.actionSubparam := by
  unfold Vte.actionSubparam; split
  · exact ⟨h.1, h.2, h.3, h.4⟩
  · refine ⟨h.1, by simp, h.3, ?_⟩
    intro x hx
    simp only [Vte.extendParam, List.mem_append, List.mem_singleton] at hx
    rcases hx with hx | rfl
    · exact h.4 x hx
    · exact h.2
theorem vteOk_paramnext {v : Vte} (h : VteOk v) (b : Nat) : VteOk (v.actionParamnext b) := by
  unfold Vte.actionParamnext; split
  · exact ⟨h.1, h.2, h.3, h.4⟩
  · exact ⟨h.1, by simp; omega, h.3, h.4⟩
theorem vteOk_finish {v : Vte} (h : VteOk v) : VteOk v.finishParams := by
  unfold Vte.finishParams; split
  · exact ⟨h.1, h.2, h.3, h.4⟩
  · exact vteOk_push h

theorem paramsIter_ok {v : Vte} (h : VteOk v) : ∀ p ∈ v.paramsIter, ∀ x ∈ p, x ≤ 65535 := by
  intro p hp x hx
  simp only [Vte.paramsIter, List.mem_append] at hp
  rcases hp with hp | hp
  · exact h.3 p hp x hx
  · split at hp
    · simp at hp
    · simp only [List.mem_singleton] at hp; subst hp; exact h.4 x hx

theorem vteOk_oscPut {v w : Vte} {b : Nat} (h : VteOk v) (hw : w = v.actionOscPutParam ∨ w = v.actionOscPut b) :
    VteOk w :=
  have ⟨_, hc, hp, hps, hcur⟩ := Vte.oscPut_frame hw
  ⟨hc ▸ h.1, hp ▸ h.2, hps ▸ h.3, hcur ▸ h.4⟩

theorem vteOk_oscEnd {v : Vte} (h : VteOk v) (b : Nat) : VteOk (v.oscEnd b).1 :=
  have := vteOk_oscPut (b := b) h (.inl rfl)
  ⟨this.1, this.2, this.3, this.4⟩

theorem actOk_of_plain {acts : List Action} (h : acts.all Action.plain = true) : ∀ a ∈ acts, ActOk a := by
  intro a ha
  have := List.all_eq_true.mp h a ha
  cases a <;> first | trivial | cases this

theorem Vte.Edit.ok {v w : Vte} {b : Nat} (h : Vte.Edit v b w) (hv : VteOk v) : VteOk w := by
  cases h with
  | none => exact hv
  | reset => exact vteOk_reset hv
  | collect => exact vteOk_collect hv b
  | paramnext => exact vteOk_paramnext hv b
  | subparam => exact vteOk_subparam hv
  | param => exact vteOk_param hv
  | finish => exact vteOk_finish hv

theorem good_changeState {v : Vte} (h : VteOk v) (b : Nat) :
    VteOk (v.changeState b).1 ∧ ∀ a ∈ (v.changeState b).2, ActOk a := by
  generalize hr : v.changeState b = r
  cases hr ▸ Vte.changeState_step v b with
  | stay acts ha => exact ⟨h, actOk_of_plain ha⟩
  | edit hw => exact ⟨hw.ok h, nofun⟩
  | goto hw s acts _ _ ha => exact ⟨vteOk_state (hw.ok h) s, actOk_of_plain ha⟩
  | csi =>
    have hf := vteOk_finish h
    exact ⟨vteOk_state hf _, fun a ha => by cases List.mem_singleton.mp ha; exact paramsIter_ok hf⟩
  | escape acts _ ha => exact ⟨vteOk_state (vteOk_reset h) _, actOk_of_plain ha⟩
  | oscStart => exact ⟨⟨h.1, h.2, h.3, h.4⟩, nofun⟩
  | oscPut _ hw => exact ⟨vteOk_oscPut h hw, nofun⟩
  | oscEnd s acts _ ha =>
    exact ⟨vteOk_state (vteOk_oscEnd h b) s, List.forall_mem_append.mpr ⟨actOk_of_plain rfl, actOk_of_plain ha⟩⟩
  | oscEsc => exact ⟨vteOk_state (vteOk_reset (vteOk_oscEnd h b)) _, actOk_of_plain rfl⟩

/-- what the loop hands to `perform` went through the decoder, and what it keeps back is a truncated character: no bound
on the input bytes is needed -/
theorem good_run (v : Vte) (bytes : List Nat) (h : VteOk v) :
    VteOk (v.run bytes).1 ∧ ∀ a ∈ (v.run bytes).2, ActOk a :=
  Vte.run_inv (P := VteOk) (Q := ActOk) (fun _ b _ h => good_changeState h b)
    (fun _ _ h => vteOk_state (vteOk_reset h) _)
    (fun _ _ _ ht h => ⟨fun b hb => (List.mem_append.mp hb).elim (h.1 b) (ht.lt256 b), h.2, h.3, h.4⟩)
    (fun _ hc => hc) (fun _ => trivial) v bytes h

/-- **everything `Parser::advance` hands to `perform` is admissible**, for every byte string and
every automaton state -/
theorem good_advance (v : Vte) (bytes : List Nat) (h : VteOk v) :
    VteOk (v.advance bytes).1 ∧ ∀ a ∈ (v.advance bytes).2, ActOk a := by
  rw [Vte.advance_eq]
  split
  · exact good_run _ _ h
  · have g : VteOk (v.advancePartialUtf8 bytes).1 ∧ ∀ a ∈ (v.advancePartialUtf8 bytes).2.1, ActOk a := by
      rcases Vte.advancePartial_cases v bytes with ⟨c, n, hc, e⟩ | ⟨ht, e⟩ <;> rw [e]
      · exact ⟨⟨nofun, h.2, h.3, h.4⟩, fun a ha => by cases List.mem_singleton.mp ha; exact hc⟩
      · exact ⟨⟨fun b hb' => (List.mem_append.mp hb').elim (h.1 b) fun hb => ht.lt256 b (List.mem_append_right _ hb), h.2, h.3, h.4⟩, nofun⟩
    have r := good_run _ (bytes.drop (v.advancePartialUtf8 bytes).2.2) g.1
    exact ⟨r.1, List.forall_mem_append.mpr ⟨g.2, r.2⟩⟩

end Vt
