/-
  Vt.Lemmas.BytesTerm — the pieces every emitter is put together from are lists of bytes (`Bytes`): the fixed escape sequences
  are constants, numbers go through `itoa` (digits 48..57), and what `Cell.contentsBytes` returns has passed `Utf8.valid`.
-/
import Vt.Lemmas.Inv
import Vt.Lemmas.Utf8
namespace Vt.Bytes
open Vt

def Bytes (l : List Nat) : Prop := ∀ b ∈ l, b < 256

theorem Bytes.nil : Bytes [] := fun _ h => by cases h

theorem Bytes.cons {b : Nat} {l : List Nat} (hb : b < 256) (hl : Bytes l) : Bytes (b :: l) :=
  List.forall_mem_cons.mpr ⟨hb, hl⟩

theorem Bytes.append {l₁ l₂ : List Nat} (h₁ : Bytes l₁) (h₂ : Bytes l₂) : Bytes (l₁ ++ l₂) :=
  List.forall_mem_append.mpr ⟨h₁, h₂⟩

theorem utf8_err_none_bytes : ∀ bs : List Nat, (Utf8.fromUtf8 bs).err = none → Bytes bs := by
  intro bs h
  induction bs using Utf8.fromUtf8_induct with
  | nil => exact Bytes.nil
  | char enc c rest he ih => exact Bytes.append he.lt256 (ih (by rwa [he.decode] at h))
  | stop a e hs => rw [hs] at h; cases h

/-- `Bytes.nil`, `Bytes.cons`, `Bytes.append` as equivalences, for `simp only` on an emitter's whole output -/
theorem bytes_nil : Bytes [] ↔ True := ⟨fun _ => trivial, fun _ => Bytes.nil⟩

theorem bytes_cons {b : Nat} {l : List Nat} : Bytes (b :: l) ↔ b < 256 ∧ Bytes l :=
  List.forall_mem_cons

theorem bytes_append {l₁ l₂ : List Nat} : Bytes (l₁ ++ l₂) ↔ Bytes l₁ ∧ Bytes l₂ :=
  List.forall_mem_append

theorem bytes_replicate {n b : Nat} (hb : b < 256) : Bytes (List.replicate n b) := by
  intro x hx
  rw [(List.mem_replicate.mp hx).2]; exact hb

theorem Bytes.take {l : List Nat} (h : Bytes l) (n : Nat) : Bytes (l.take n) :=
  fun x hx => h x (List.mem_of_mem_take hx)

theorem digitsAux_bytes : ∀ (fuel n : Nat) (acc : List Nat), Bytes acc → Bytes (Term.digitsAux fuel n acc)
  | 0, _, acc, h => by simpa [Term.digitsAux] using h
  | fuel + 1, n, acc, h => by
    unfold Term.digitsAux
    split
    · exact Bytes.cons (by omega) h
    · exact digitsAux_bytes fuel (n / 10) _ (Bytes.cons (by omega) h)

theorem itoa_bytes (n : Nat) : Bytes (Term.itoa n) := digitsAux_bytes _ _ _ Bytes.nil

theorem clearScreen_bytes : Bytes Term.clearScreen := by unfold Bytes; decide
theorem clearRowForward_bytes : Bytes Term.clearRowForward := by unfold Bytes; decide
theorem crlf_bytes : Bytes Term.crlf := by unfold Bytes; decide
theorem backspace_bytes : Bytes Term.backspace := by unfold Bytes; decide
theorem saveCursor_bytes : Bytes Term.saveCursor := by unfold Bytes; decide
theorem restoreCursor_bytes : Bytes Term.restoreCursor := by unfold Bytes; decide
theorem clearAttrs_bytes : Bytes Term.clearAttrs := by unfold Bytes; decide

theorem moveTo_bytes (p : Pos) : Bytes (Term.moveTo p) := by
  unfold Term.moveTo
  split
  · unfold Bytes; decide
  · simp only [bytes_append, bytes_cons, bytes_nil, itoa_bytes, Term.ESC, and_true]
    omega

theorem moveRight_bytes (n : Nat) : Bytes (Term.moveRight n) := by
  unfold Term.moveRight
  split
  · exact Bytes.nil
  · unfold Bytes; decide
  · simp only [bytes_append, bytes_cons, bytes_nil, itoa_bytes, Term.ESC, and_true]
    omega

theorem eraseChar_bytes (n : Nat) : Bytes (Term.eraseChar n) := by
  unfold Term.eraseChar
  split
  · exact Bytes.nil
  · unfold Bytes; decide
  · simp only [bytes_append, bytes_cons, bytes_nil, itoa_bytes, Term.ESC, and_true]
    omega

theorem hideCursor_bytes (b : Bool) : Bytes (Term.hideCursor b) := by
  cases b <;> (unfold Bytes; decide)

theorem moveFromTo_bytes (a b : Pos) : Bytes (Term.moveFromTo a b) := by
  unfold Term.moveFromTo
  split
  · exact crlf_bytes
  · split
    · exact moveRight_bytes _
    · split
      · exact moveTo_bytes _
      · exact Bytes.nil

theorem applicationKeypad_bytes (b : Bool) : Bytes (Term.applicationKeypad b) := by
  cases b <;> (unfold Bytes; decide)
theorem applicationCursor_bytes (b : Bool) : Bytes (Term.applicationCursor b) := by
  cases b <;> (unfold Bytes; decide)
theorem bracketedPaste_bytes (b : Bool) : Bytes (Term.bracketedPaste b) := by
  cases b <;> (unfold Bytes; decide)

theorem mouseProtocolMode_bytes (m p : MouseMode) : Bytes (Term.mouseProtocolMode m p) := by
  cases m <;> cases p <;> (unfold Bytes; decide)

theorem mouseProtocolEncoding_bytes (m p : MouseEnc) : Bytes (Term.mouseProtocolEncoding m p) := by
  cases m <;> cases p <;> (unfold Bytes; decide)

theorem joinParams_bytes : ∀ ps : List Nat, Bytes (Term.joinParams ps)
  | [] => by simpa [Term.joinParams] using Bytes.nil
  | [p] => by simpa [Term.joinParams] using itoa_bytes p
  | p :: q :: ps => by
    have ih := joinParams_bytes (q :: ps)
    rw [Term.joinParams]
    · simp only [bytes_append, bytes_cons, bytes_nil, itoa_bytes, ih, and_true, true_and]
      omega
    · intro h; cases h

theorem sgrWrite_bytes (a : Term.SgrAttrs) : Bytes a.write := by
  unfold Term.SgrAttrs.write
  split
  · exact Bytes.nil
  · simp only [bytes_append, bytes_cons, bytes_nil, joinParams_bytes, Term.ESC, and_true]
    omega

theorem writeEscapeCodeDiff_bytes (a b : Attrs) : Bytes (a.writeEscapeCodeDiff b) := by
  unfold Attrs.writeEscapeCodeDiff
  split
  · exact clearAttrs_bytes
  · exact sgrWrite_bytes _

theorem contentsBytes_bytes {c : Cell} {bs : List Nat} (e : c.contentsBytes = .ok bs) : Bytes bs := by
  obtain ⟨hv, e⟩ := ite_panic_eq_ok.mp e
  cases e
  exact utf8_err_none_bytes _ (by simpa [Utf8.valid] using hv)

theorem contentsBytes_bytes_of_cellOk {W : Nat → Option Nat} {c : Cell} {bs : List Nat}
    (hc : cellOk W c = true) (e : c.contentsBytes = .ok bs) : Bytes bs :=
  contentsBytes_bytes e

theorem ite_bytes {q : Prop} [Decidable q] {a b : List Nat} (ha : Bytes a) (hb : Bytes b) :
    Bytes (if q then a else b) := by
  split <;> assumption

theorem ite_fst_bytes {α} {q : Prop} [Decidable q] {a b : List Nat × α} (ha : Bytes a.1) (hb : Bytes b.1) :
    Bytes (if q then a else b).1 := by
  split <;> assumption

end Vt.Bytes
