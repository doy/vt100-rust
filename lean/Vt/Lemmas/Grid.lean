/-
  Vt.Lemmas.Grid — closed forms of the clamp helpers of grid.rs (`rowClamp` has none); `row_inc_scroll` /
  `row_dec_scroll` as a clamp followed by `scroll_up` / `scroll_down`; `text` as its steps (`text_eq_steps`);
  `drawing_cell` at a cell in hand.
-/
import Vt.Lemmas.Screen
namespace Vt

theorem colClamp_spec (g : Grid) (hc : 1 ≤ g.size.cols) :
    g.colClamp = .ok { g with pos := ⟨g.pos.row, min g.pos.col (g.size.cols - 1)⟩ } := by
  unfold Grid.colClamp
  simp only [subM, hc, ↓reduceIte, pure_eq_ok, ok_bind, Except.ok.injEq]
  split
  · simp only [Grid.mk.injEq, Pos.mk.injEq, and_true, true_and]; omega
  · have : min g.pos.col (g.size.cols - 1) = g.pos.col := by omega
    rw [this]

theorem rowClampBottom_spec (g : Grid) (l : Bool) (hr : 1 ≤ g.size.rows) :
    g.rowClampBottom l = .ok
      ({ g with pos := ⟨min g.pos.row (if l then g.scrollBottom else g.size.rows - 1), g.pos.col⟩ },
       g.pos.row - (if l then g.scrollBottom else g.size.rows - 1)) := by
  unfold Grid.rowClampBottom
  cases l
  · simp only [Bool.false_eq_true, ↓reduceIte, subM, hr, pure_eq_ok, ok_bind]
    split
    · simp only [Except.ok.injEq, Prod.mk.injEq, Grid.mk.injEq, Pos.mk.injEq, and_true, true_and]; omega
    · have : min g.pos.row (g.size.rows - 1) = g.pos.row := by omega
      rw [this]; simp; omega
  · simp only [↓reduceIte, pure_eq_ok, ok_bind]
    split
    · simp only [Except.ok.injEq, Prod.mk.injEq, Grid.mk.injEq, Pos.mk.injEq, and_true, true_and]; omega
    · have : min g.pos.row g.scrollBottom = g.pos.row := by omega
      rw [this]; simp; omega

theorem rowIncScroll_eq (g : Grid) (hr : 1 ≤ g.size.rows) (n : Nat) :
    g.rowIncScroll n =
      if g.inScrollRegion then
        ({ g with pos := ⟨min (min (g.pos.row + n) 65535) g.scrollBottom, g.pos.col⟩ } : Grid).scrollUp
            (min (g.pos.row + n) 65535 - g.scrollBottom) >>= fun g' =>
          pure (g', min (g.pos.row + n) 65535 - g.scrollBottom)
      else .ok ({ g with pos := ⟨min (min (g.pos.row + n) 65535) (g.size.rows - 1), g.pos.col⟩ }, 0) := by
  simp only [Grid.rowIncScroll, satAddU16, U16_MAX]
  rw [rowClampBottom_spec _ _ (by exact hr)]
  cases g.inScrollRegion <;> rfl

theorem rowClampTop_spec (g : Grid) (l : Bool) :
    (g.rowClampTop l).1 =
      { g with pos := ⟨if l && g.pos.row < g.scrollTop then g.scrollTop else g.pos.row, g.pos.col⟩ } := by
  simp only [Grid.rowClampTop]
  split <;> simp_all

/-- what `row_dec_scroll(n)` scrolls by, `lines + extra_lines` of the source: the part of `n` the cursor could not
move, whether it was stopped by the top margin (`top - (row - n)`) or by `saturating_sub` at line 0 (`n - row`) -/
theorem riExcess (top row n : Nat) :
    top - (row - n) + (if n > row then n - row else 0) = n + top - row := by
  rcases Nat.lt_or_ge row n with h | h
  · rw [if_pos h, Nat.sub_eq_zero_of_le (Nat.le_of_lt h), Nat.sub_zero, Nat.add_comm n,
      Nat.add_sub_assoc (Nat.le_of_lt h)]
  · obtain ⟨d, rfl⟩ := Nat.exists_eq_add_of_le h
    rw [if_neg (Nat.not_lt.2 h), Nat.add_zero, Nat.add_sub_cancel_left, Nat.add_sub_add_left]

/-- `scroll_down` of what the cursor could not move happens also outside the region, where the cursor stops at line 0:
`extra_lines` is not guarded by `in_scroll_region` -/
theorem rowDecScroll_eq (g : Grid) (n : Nat) :
    g.rowDecScroll n =
      ({ g with pos := ⟨if g.inScrollRegion then max g.scrollTop (g.pos.row - n) else g.pos.row - n, g.pos.col⟩ } :
        Grid).scrollDown (if g.inScrollRegion then n + g.scrollTop - g.pos.row else n - g.pos.row) := by
  have hx := riExcess g.scrollTop g.pos.row n
  cases hin : g.inScrollRegion
  · have h0 := riExcess 0 g.pos.row n
    rw [Nat.zero_sub, Nat.add_zero] at h0
    simp only [Grid.rowDecScroll, Grid.rowClampTop, hin, Bool.false_and, Bool.false_eq_true, ↓reduceIte, h0]
  · simp only [Grid.rowDecScroll, Grid.rowClampTop, hin, Bool.true_and, decide_eq_true_eq, ↓reduceIte]
    by_cases hc : g.pos.row - n < g.scrollTop
    · simp only [hc, ↓reduceIte, hx, Nat.max_eq_left (Nat.le_of_lt hc)]
    · rw [Nat.sub_eq_zero_of_le (Nat.le_of_not_lt hc)] at hx
      simp only [hc, ↓reduceIte, hx, Nat.max_eq_right (Nat.le_of_not_lt hc)]

theorem drawingCell_of {g : Grid} {r c : Nat} {row : Row} {cell : Cell} (hr : g.rows[r]? = some row)
    (hc : row.cells[c]? = some cell) : g.drawingCell ⟨r, c⟩ = some cell := by
  simp only [Grid.drawingCell, Grid.drawingRow, hr, Option.bind_some, Row.get, hc]

theorem drawingCellM_of (site : Nat) {g : Grid} {r c : Nat} {row : Row} {cell : Cell} (hr : g.rows[r]? = some row)
    (hc : row.cells[c]? = some cell) : g.drawingCellM site ⟨r, c⟩ = .ok cell := by
  rw [Grid.drawingCellM, drawingCell_of hr hc]; rfl

theorem text_eq_steps (W : Nat → Option Nat) (g : Grid) (a : Attrs) (c : Nat) :
    g.text W a c =
      if (W c = none ∧ c < 256) ∨ g.size.cols < min ((W c).getD 1) 2 then .ok g
      else g.wrapDecision (min ((W c).getD 1) 2) >>= fun wrap => g.colWrap (min ((W c).getD 1) 2) wrap >>= fun g1 =>
        if (min ((W c).getD 1) 2 == 0) = true then g1.textZero c else g1.textWide W a c (min ((W c).getD 1) 2) := by
  unfold Grid.text
  by_cases hctl : W c = none ∧ c < 256
  · rw [if_pos (by simp [hctl.1, hctl.2]), if_pos (Or.inl hctl)]; rfl
  · rw [if_neg (by simpa [Option.isNone_iff_eq_none] using hctl)]
    by_cases hw : g.size.cols < min ((W c).getD 1) 2
    · rw [if_pos (Or.inr hw)]; exact if_pos hw
    · rw [if_neg (show ¬ ((W c = none ∧ c < 256) ∨ g.size.cols < min ((W c).getD 1) 2) from fun h => h.elim hctl hw)]
      exact if_neg hw

theorem modifyCurrentRow_eq_ok {g g' : Grid} {f : Row → M Row} :
    g.modifyCurrentRow f = .ok g' ↔
      ∃ r r', g.rows[g.pos.row]? = some r ∧ f r = .ok r' ∧ g' = { g with rows := g.rows.set g.pos.row r' } := by
  simp only [Grid.modifyCurrentRow, bind_eq_ok, modifyM_eq_ok, pure_eq_ok, Except.ok.injEq]
  constructor
  · rintro ⟨_, ⟨r, r', hr, hf, rfl⟩, rfl⟩
    exact ⟨r, r', hr, hf, rfl⟩
  · rintro ⟨r, r', hr, hf, rfl⟩
    exact ⟨_, ⟨r, r', hr, hf, rfl⟩, rfl⟩

end Vt
