/-
  Vt.Lemmas.Lines — IL, DL, SU and SD over two functions on the list of lines.

  The loop bodies of `insert_lines` / `scroll_down` and of `delete_lines` / `scroll_up` (`downM`, `dlM`,
  `C12.scrollUpStep`) are `downStep` and `upStep` behind index checks (`downM_bind_eq_ok`, `upM_eq_ok`): the monad is left
  once, and each operation is "check once, then iterate a function" (the four `_iff`s, from which C08 and C12 take their
  closed forms).  What such a step does to the lines, as far as the invariants care, is `Moved`: each line is the blank
  line or an old one, possibly unflagged (`LineFrom`; `LineFrom.of` is how a per-line property follows).  `GScrolled`
  adds the frame and the history and holds between a grid and the result of any of the four; `Inv` and the per-line
  predicates are read off it.
-/
import Vt.Lemmas.Loops
import Vt.Model.Grid
namespace Vt

theorem removeM_ok {α} (site : Nat) (l : List α) (i : Nat) (h : i < l.length) :
    removeM site l i = .ok (l[i], l.eraseIdx i) := by
  simp [removeM, List.getElem?_eq_getElem h]

theorem insertM_ok {α} (site : Nat) (l : List α) (i : Nat) (x : α) (h : i ≤ l.length) :
    insertM site l i x = .ok (l.take i ++ x :: l.drop i) := by
  simp [insertM, h]

theorem mem_insert_cases {α} {l : List α} {i : Nat} {x y : α} (h : y ∈ l.take i ++ x :: l.drop i) :
    y = x ∨ y ∈ l := by
  rcases List.mem_append.mp h with h | h
  · exact Or.inr (List.mem_of_mem_take h)
  · rcases List.mem_cons.mp h with h | h
    · exact Or.inl h
    · exact Or.inr (List.mem_of_mem_drop h)

/-- IL (`t` = cursor line) / SD (`t` = top margin) -/
def downStep (b t : Nat) (x : Row) (rows : List Row) : List Row :=
  ((rows.eraseIdx b).take t ++ x :: (rows.eraseIdx b).drop t).modify b (·.wrap false)

/-- DL (`t` = cursor line) / SU (`t` = top margin) -/
def upStep (b t : Nat) (x : Row) (rows : List Row) : List Row :=
  (rows.take (b + 1) ++ x :: rows.drop (b + 1)).eraseIdx t

theorem length_insertAt {α} {l : List α} {i : Nat} (x : α) (hi : i ≤ l.length) :
    (l.take i ++ x :: l.drop i).length = l.length + 1 := by
  rw [List.length_append, List.length_take, List.length_cons, List.length_drop, Nat.min_eq_left hi]
  omega

theorem getLast?_insertAt {α} {l : List α} {i : Nat} (x : α) :
    (l.take i ++ x :: l.drop i).getLast? = if l.length ≤ i then some x else l.getLast? := by
  rw [List.getLast?_append, List.getLast?_cons, List.getLast?_drop, Option.some_or]
  split
  · rfl
  · rename_i hi
    cases h : l.getLast? with
    | none => rw [List.getLast?_eq_none_iff.mp h] at hi; exact absurd (Nat.zero_le i) hi
    | some y => rfl

theorem getLast?_eraseIdx {α} {l : List α} {i : Nat} (h : i + 1 < l.length) : (l.eraseIdx i).getLast? = l.getLast? := by
  rw [List.eraseIdx_eq_take_drop_succ, List.getLast?_append, List.getLast?_drop, if_neg (by omega)]
  cases h' : l.getLast? with
  | none => rw [List.getLast?_eq_none_iff.mp h'] at h; cases h
  | some y => rfl

theorem getLast?_modify {α} {l : List α} {i : Nat} (f : α → α) :
    (l.modify i f).getLast? = if i + 1 = l.length then l.getLast?.map f else l.getLast? := by
  rw [List.getLast?_eq_getElem?, List.getLast?_eq_getElem?, List.length_modify, List.getElem?_modify]
  by_cases h : i + 1 = l.length
  · rw [if_pos h, show i = l.length - 1 by omega]
    cases l[l.length - 1]? <;> simp
  · rw [if_neg h]
    cases hl : l[l.length - 1]? with
    | none => rfl
    | some y =>
      have := (List.getElem?_eq_some_iff.mp hl).1
      simp [show ¬ i = l.length - 1 by omega]

theorem length_downStep {b t : Nat} {x : Row} {rows : List Row} (hb : b < rows.length) (ht : t < rows.length) :
    (downStep b t x rows).length = rows.length := by
  have hE : (rows.eraseIdx b).length = rows.length - 1 := by rw [List.length_eraseIdx, if_pos hb]
  rw [downStep, List.length_modify, length_insertAt x (by omega), hE]
  omega

theorem length_upStep {b t : Nat} {x : Row} {rows : List Row} (hb : b < rows.length) (ht : t ≤ rows.length) :
    (upStep b t x rows).length = rows.length := by
  rw [upStep, List.length_eraseIdx, length_insertAt x hb, if_pos (Nat.lt_succ_of_le ht), Nat.add_sub_cancel]

/-- the body of the loops of IL and SD, with what follows it -/
theorem downM_bind_eq_ok {β} {s1 s2 s3 b t : Nat} {x : Row} {rows : List Row} {k : List Row → M β} {y : β} :
    (removeM s1 rows b >>= fun q => insertM s2 q.2 t x >>= fun rows =>
      modifyM s3 rows b (fun r => pure (r.wrap false)) >>= k) = .ok y ↔
    (b < rows.length ∧ t < rows.length) ∧ k (downStep b t x rows) = .ok y := by
  by_cases hb : b < rows.length
  · have hE : (rows.eraseIdx b).length = rows.length - 1 := by rw [List.length_eraseIdx, if_pos hb]
    rw [removeM_ok _ _ _ hb, ok_bind]
    by_cases ht : t < rows.length
    · have h1 : t ≤ (rows.eraseIdx b).length := by omega
      have h2 : b < ((rows.eraseIdx b).take t ++ x :: (rows.eraseIdx b).drop t).length := by
        rw [length_insertAt x h1]; omega
      rw [insertM_ok _ _ _ _ h1, ok_bind]
      simp only [pure_eq_ok, modifyM_eq, if_pos h2, ok_bind, downStep, hb, ht, and_self, true_and]
    · simp only [insertM, if_neg (show ¬ t ≤ (rows.eraseIdx b).length by omega), ht, and_false, false_and, iff_false]
      exact fun h => nomatch h
  · simp only [removeM, List.getElem?_eq_none (Nat.le_of_not_lt hb), hb, false_and, iff_false]
    exact fun h => nomatch h

/-- the body of the loops of DL and SU (SU then records the removed line) -/
theorem upM_eq_ok {s1 s2 b t : Nat} {x : Row} {rows : List Row} {q : Row × List Row} :
    (insertM s1 rows (b + 1) x >>= fun rows => removeM s2 rows t) = .ok q ↔
    (b < rows.length ∧ t ≤ rows.length) ∧
      q = (((rows.take (b + 1) ++ x :: rows.drop (b + 1))[t]?).getD x, upStep b t x rows) := by
  by_cases hb : b < rows.length
  · have hl := length_insertAt x (show b + 1 ≤ rows.length from hb)
    rw [insertM_ok _ _ _ _ hb, ok_bind]
    by_cases ht : t ≤ rows.length
    · have ht' : t < (rows.take (b + 1) ++ x :: rows.drop (b + 1)).length := by omega
      rw [removeM_ok _ _ _ ht', List.getElem?_eq_getElem ht', Option.getD_some, upStep]
      simp only [Except.ok.injEq, hb, ht, and_self, true_and]
      exact eq_comm
    · simp only [removeM, List.getElem?_eq_none (show (rows.take (b + 1) ++ x :: rows.drop (b + 1)).length ≤ t by omega),
        ht, and_false, false_and, iff_false]
      exact fun h => nomatch h
  · simp [insertM, show ¬ b + 1 ≤ rows.length by omega, hb, panic]

def LineFrom (x : Row) (rows : List Row) (r : Row) : Prop := ∃ r0, (r0 = x ∨ r0 ∈ rows) ∧ (r = r0 ∨ r = r0.wrap false)

namespace LineFrom
variable {x r : Row} {rows : List Row}

theorem of {P : Row → Prop} (hx : P x) (hun : ∀ r, P r → P (r.wrap false)) (h : ∀ r ∈ rows, P r) (d : LineFrom x rows r) :
    P r := by
  obtain ⟨r0, h0, hr⟩ := d
  have : P r0 := h0.elim (· ▸ hx) (h r0)
  rcases hr with rfl | rfl
  · exact this
  · exact hun _ this

theorem new (x : Row) (rows : List Row) : LineFrom x rows x := ⟨x, Or.inl rfl, Or.inl rfl⟩

theorem unflag (d : LineFrom x rows r) : LineFrom x rows (r.wrap false) :=
  let ⟨r0, h0, hr⟩ := d
  ⟨r0, h0, Or.inr (by rcases hr with rfl | rfl <;> rfl)⟩

end LineFrom

/-- `last` is what "the last line of a grid is never flagged as wrapped" needs (`LastUn.moved`, Props/InvF) -/
structure Moved (x : Row) (rows rows' : List Row) : Prop where
  len : rows'.length = rows.length
  mem : ∀ r ∈ rows', LineFrom x rows r
  last : ∀ r, rows'.getLast? = some r → r.wrapped = false ∨ rows.getLast? = some r

namespace Moved
variable {x : Row} {a b c rows : List Row}

theorem refl (x : Row) (rows : List Row) : Moved x rows rows :=
  ⟨rfl, fun r hr => ⟨r, Or.inr hr, Or.inl rfl⟩, fun _ h => Or.inr h⟩

theorem trans (h1 : Moved x a b) (h2 : Moved x b c) : Moved x a c :=
  ⟨h2.len.trans h1.len, fun r hr => (h2.mem r hr).of (.new x a) (fun _ => .unflag) h1.mem,
    fun r hr => (h2.last r hr).elim Or.inl (h1.last r)⟩

theorem down {b t : Nat} (hx : x.wrapped = false) (hb : b < rows.length) (ht : t < rows.length) :
    Moved x rows (downStep b t x rows) := by
  have hE : (rows.eraseIdx b).length = rows.length - 1 := by rw [List.length_eraseIdx, if_pos hb]
  refine ⟨length_downStep hb ht, fun r hr => ?_, fun r hr => ?_⟩
  · obtain ⟨i, hi⟩ := List.getElem?_of_mem hr
    rw [downStep, List.getElem?_modify] at hi
    obtain ⟨r0, h0, rfl⟩ := Option.map_eq_some_iff.mp hi
    refine ⟨r0, (mem_insert_cases (List.mem_of_getElem? h0)).imp_right List.mem_of_mem_eraseIdx, ?_⟩
    split
    · exact Or.inr rfl
    · exact Or.inl rfl
  · -- the last line is line `b` (unflagged), or the new line (when `t` is the last line), or the old last line
    rw [downStep, getLast?_modify, length_insertAt x (by omega), hE] at hr
    split at hr
    · obtain ⟨r0, -, rfl⟩ := Option.map_eq_some_iff.mp hr
      exact Or.inl rfl
    · rw [getLast?_insertAt, hE] at hr
      split at hr
      · exact Or.inl (Option.some.inj hr ▸ hx)
      · rw [getLast?_eraseIdx (by omega)] at hr
        exact Or.inr hr

theorem up {b t : Nat} (hx : x.wrapped = false) (hb : b < rows.length) (ht : t < rows.length) :
    Moved x rows (upStep b t x rows) := by
  refine ⟨length_upStep hb (Nat.le_of_lt ht), fun r hr => ⟨r, mem_insert_cases (List.mem_of_mem_eraseIdx hr), Or.inl rfl⟩,
    fun r hr => ?_⟩
  -- the last line is the new line (when `b` is the last line) or the old last line
  rw [upStep, getLast?_eraseIdx (by rw [length_insertAt x hb]; omega), getLast?_insertAt] at hr
  split at hr
  · exact Or.inl (Option.some.inj hr ▸ hx)
  · exact Or.inr hr

end Moved

def downF (t : Grid → Nat) (g : Grid) : Grid := { g with rows := downStep g.scrollBottom (t g) g.newRow g.rows }

/-- one iteration of DL (`t` = cursor line); with `t` = top margin, SU's before the removed line is recorded (`suF`) -/
def upF (t : Grid → Nat) (g : Grid) : Grid := { g with rows := upStep g.scrollBottom (t g) g.newRow g.rows }

/-- the tail of `scroll_up`'s loop body: `removed` goes to the history when there is one and the region is the screen -/
def recordF (g : Grid) (removed : Row) : Grid :=
  if g.scrollbackLen > 0 ∧ (g.scrollTop != 0 || g.scrollBottom != g.size.rows - 1) = false then
    { g with
      scrollback := (g.scrollback ++ [removed]).drop ((g.scrollback ++ [removed]).length - g.scrollbackLen)
      scrollbackOffset :=
        if g.scrollbackOffset > 0 then
          min ((g.scrollback ++ [removed]).drop ((g.scrollback ++ [removed]).length - g.scrollbackLen)).length
            (g.scrollbackOffset + 1)
        else g.scrollbackOffset }
  else g

/-- the line SU's step removes -/
def topLine (g : Grid) : Row :=
  ((g.rows.take (g.scrollBottom + 1) ++ g.newRow :: g.rows.drop (g.scrollBottom + 1))[g.scrollTop]?).getD g.newRow

def suF (g : Grid) : Grid := recordF (upF (·.scrollTop) g) (topLine g)

theorem recordF_same (g : Grid) (r : Row) :
    recordF g r = { g with scrollback := (recordF g r).scrollback, scrollbackOffset := (recordF g r).scrollbackOffset } := by
  unfold recordF; split <;> rfl

theorem suF_rows (g : Grid) : (suF g).rows = upStep g.scrollBottom g.scrollTop g.newRow g.rows := by
  rw [suF, recordF_same]; rfl

theorem suF_same (g : Grid) :
    suF g = { g with rows := upStep g.scrollBottom g.scrollTop g.newRow g.rows, scrollback := (suF g).scrollback,
                     scrollbackOffset := (suF g).scrollbackOffset } := by
  conv => lhs; rw [suF, recordF_same]
  rfl

theorem suF_plain {s : Grid} (hno : s.scrollbackLen = 0 ∨ s.scrollTop ≠ 0 ∨ s.scrollBottom ≠ s.size.rows - 1) :
    suF s = upF (·.scrollTop) s := by
  rw [suF, recordF, if_neg]
  rintro ⟨hcap, hact⟩
  rcases hno with h0 | h0 | h0
  · exact absurd h0 (Nat.ne_of_gt hcap)
  · simp [upF, h0] at hact
  · simp [upF, h0] at hact

def LinePre (t : Grid → Nat) (g : Grid) : Prop := g.scrollBottom < g.rows.length ∧ t g < g.rows.length

/-- the loop body of IL (`t` = cursor line) and SD (`t` = top margin).  `downM`, `dlM` and `C12.scrollUpStep` are the
anonymous loop bodies of `Grid.insertLines` / `scrollDown`, `deleteLines`, `scrollUp` (Model/Grid) written out again, panic
sites included, so that they have names; the `rfl`s `*_eq_iterate` below tie them to the model and fail when it changes. -/
def downM (s1 s2 s3 : Nat) (t : Grid → Nat) (g : Grid) : M Grid := do
  let (_, rows) ← removeM s1 g.rows g.scrollBottom
  let rows ← insertM s2 rows (t g) g.newRow
  let rows ← modifyM s3 rows g.scrollBottom (fun r => pure (r.wrap false))
  pure { g with rows := rows }

def dlM (g : Grid) : M Grid := do
  let rows ← insertM 434 g.rows (g.scrollBottom + 1) g.newRow
  let (_, rows) ← removeM 435 rows g.pos.row
  pure { g with rows := rows }

namespace C12

def scrollUpStep (g : Grid) : M Grid := do
  let rows ← insertM 438 g.rows (g.scrollBottom + 1) g.newRow
  let (removed, rows) ← removeM 439 rows g.scrollTop
  let g := { g with rows := rows }
  if g.scrollbackLen > 0 then do
    let active ← g.scrollRegionActive
    if !active then
      let sb := g.scrollback ++ [removed]
      let sb := sb.drop (sb.length - g.scrollbackLen)
      let off := if g.scrollbackOffset > 0 then min sb.length (g.scrollbackOffset + 1)
                 else g.scrollbackOffset
      pure { g with scrollback := sb, scrollbackOffset := off }
    else pure g
  else pure g

theorem scrollUp_eq_iterate (g : Grid) (count : Nat) :
    g.scrollUp count =
      (subM 437 g.size.rows g.scrollTop >>= fun d => iterateM (min count d) scrollUpStep g) := rfl

end C12

theorem insertLines_eq_iterate (g : Grid) (n : Nat) :
    g.insertLines n = iterateM (min n g.size.rows) (downM 430 431 432 (·.pos.row)) g := rfl

theorem scrollDown_eq_iterate (g : Grid) (n : Nat) :
    g.scrollDown n = iterateM (min n g.size.rows) (downM 440 441 442 (·.scrollTop)) g := rfl

theorem deleteLines_eq_iterate (g : Grid) (n : Nat) :
    g.deleteLines n = (subM 433 g.size.rows g.pos.row >>= fun d => iterateM (min n d) dlM g) := rfl

theorem downM_iff {s1 s2 s3 : Nat} {t : Grid → Nat} (g g' : Grid) :
    downM s1 s2 s3 t g = .ok g' ↔ LinePre t g ∧ g' = downF t g := by
  show (removeM s1 g.rows g.scrollBottom >>= fun q => insertM s2 q.2 (t g) g.newRow >>= fun rows =>
    modifyM s3 rows g.scrollBottom (fun r => pure (r.wrap false)) >>= fun rows => pure { g with rows := rows }) = .ok g' ↔ _
  refine downM_bind_eq_ok.trans (and_congr_right fun _ => ?_)
  simp only [pure_eq_ok, Except.ok.injEq, downF]
  exact eq_comm

theorem dlM_iff (g g' : Grid) :
    dlM g = .ok g' ↔ (g.scrollBottom < g.rows.length ∧ g.pos.row ≤ g.rows.length) ∧ g' = upF (·.pos.row) g := by
  have h : dlM g = (insertM 434 g.rows (g.scrollBottom + 1) g.newRow >>= fun rows => removeM 435 rows g.pos.row) >>=
      fun q => pure { g with rows := q.2 } := by
    simp only [dlM, bind_assoc]
  rw [h, bind_eq_ok]
  constructor
  · rintro ⟨q, hq, e⟩
    obtain ⟨hp, rfl⟩ := upM_eq_ok.mp hq
    exact ⟨hp, (Except.ok.inj e).symm⟩
  · rintro ⟨hp, rfl⟩
    exact ⟨_, upM_eq_ok.mpr ⟨hp, rfl⟩, rfl⟩

/-- when one iteration of `scroll_up` returns; the second conjunct: with a history, `scroll_region_active` computes
`rows - 1` -/
def SuRet (g : Grid) : Prop :=
  (g.scrollBottom < g.rows.length ∧ g.scrollTop ≤ g.rows.length) ∧ (g.scrollbackLen > 0 → 1 ≤ g.size.rows)

theorem scrollUpStep_ret {g : Grid} (h : SuRet g) : C12.scrollUpStep g = .ok (suF g) := by
  obtain ⟨rows1, h1, h2⟩ := bind_eq_ok.mp ((upM_eq_ok (s1 := 438) (s2 := 439) (x := g.newRow)).mpr ⟨h.1, rfl⟩)
  simp only [C12.scrollUpStep, h1, ok_bind, h2, suF, upF, topLine, recordF]
  by_cases hcap : g.scrollbackLen > 0
  · simp only [hcap, ↓reduceIte, Grid.scrollRegionActive, subM_ok (h.2 hcap), ok_bind, true_and, pure_eq_ok]
    cases (g.scrollTop != 0 || g.scrollBottom != g.size.rows - 1) <;> rfl
  · simp only [hcap, ↓reduceIte, false_and, pure_eq_ok]

theorem scrollUpStep_iff (g g' : Grid) : C12.scrollUpStep g = .ok g' ↔ SuRet g ∧ g' = suF g := by
  refine ⟨fun e => ?_, fun ⟨hp, e⟩ => e ▸ scrollUpStep_ret hp⟩
  have hpre : SuRet g := by
    have e' := e
    unfold C12.scrollUpStep at e'
    obtain ⟨rows1, h1, e'⟩ := bind_eq_ok.mp e'
    obtain ⟨q, h2, e'⟩ := bind_eq_ok.mp e'
    refine ⟨(upM_eq_ok.mp (show (insertM 438 g.rows (g.scrollBottom + 1) g.newRow >>= fun rows =>
      removeM 439 rows g.scrollTop) = .ok q by rw [h1]; exact h2)).1, fun hcap => ?_⟩
    simp only [hcap, ↓reduceIte, Grid.scrollRegionActive] at e'
    obtain ⟨act, ha, -⟩ := bind_eq_ok.mp e'
    obtain ⟨b, hb, -⟩ := bind_eq_ok.mp ha
    exact (subM_eq_ok.mp hb).1
  rw [scrollUpStep_ret hpre] at e
  exact ⟨hpre, (Except.ok.inj e).symm⟩

structure GScrolled (g g' : Grid) : Prop where
  frame : g' = { g with rows := g'.rows, scrollback := g'.scrollback, scrollbackOffset := g'.scrollbackOffset }
  moved : Moved g.newRow g.rows g'.rows
  hist : ∀ r ∈ g'.scrollback, r ∈ g.scrollback ∨ LineFrom g.newRow g.rows r
  sb_len : g.scrollback.length ≤ g.scrollbackLen → g'.scrollback.length ≤ g.scrollbackLen
  sb_off : g.scrollbackOffset ≤ g.scrollback.length → g'.scrollbackOffset ≤ g'.scrollback.length

namespace GScrolled

theorem of_rows {g : Grid} {rows' : List Row} (h : Moved g.newRow g.rows rows') : GScrolled g { g with rows := rows' } :=
  ⟨rfl, h, fun _ hr => Or.inl hr, id, id⟩

theorem refl (g : Grid) : GScrolled g g := of_rows (Moved.refl _ _)

theorem trans {a b c : Grid} (h1 : GScrolled a b) (h2 : GScrolled b c) : GScrolled a c := by
  have hn : b.newRow = a.newRow := by rw [h1.frame]; rfl
  have hc : b.scrollbackLen = a.scrollbackLen := by rw [h1.frame]
  refine ⟨by rw [h2.frame, h1.frame], h1.moved.trans (hn ▸ h2.moved), fun r hr => ?_,
    fun hl => hc ▸ h2.sb_len (hc ▸ h1.sb_len hl), fun ho => h2.sb_off (h1.sb_off ho)⟩
  rcases h2.hist r hr with hb | d
  · exact h1.hist r hb
  · exact Or.inr ((hn ▸ d).of (.new _ _) (fun _ => .unflag) h1.moved.mem)

end GScrolled

theorem downF_pre {t : Grid → Nat} (ht : ∀ (g : Grid) rows, t { g with rows := rows } = t g) (g : Grid) (h : LinePre t g) :
    LinePre t (downF t g) := by
  have hl : (downF t g).rows.length = g.rows.length := length_downStep h.1 h.2
  exact ⟨hl.symm ▸ h.1, by rw [downF, ht, ← downF, hl]; exact h.2⟩

theorem downF_scrolled {t : Grid → Nat} (g : Grid) (h : LinePre t g) : GScrolled g (downF t g) :=
  .of_rows (Moved.down rfl h.1 h.2)

theorem upF_pre {t : Grid → Nat} (ht : ∀ (g : Grid) rows, t { g with rows := rows } = t g) (g : Grid) (h : LinePre t g) :
    LinePre t (upF t g) := by
  have hl : (upF t g).rows.length = g.rows.length := length_upStep h.1 (Nat.le_of_lt h.2)
  exact ⟨hl.symm ▸ h.1, by rw [upF, ht, ← upF, hl]; exact h.2⟩

theorem upF_scrolled {t : Grid → Nat} (g : Grid) (h : LinePre t g) : GScrolled g (upF t g) :=
  .of_rows (Moved.up rfl h.1 h.2)

theorem recordF_off (g : Grid) (r : Row) (h : g.scrollbackOffset ≤ g.scrollback.length) :
    (recordF g r).scrollbackOffset ≤ (recordF g r).scrollback.length := by
  unfold recordF
  split
  · dsimp only
    split
    · exact Nat.min_le_left _ _
    · omega
  · exact h

theorem topLine_mem (g : Grid) : topLine g = g.newRow ∨ topLine g ∈ g.rows := by
  unfold topLine
  cases hq : (g.rows.take (g.scrollBottom + 1) ++ g.newRow :: g.rows.drop (g.scrollBottom + 1))[g.scrollTop]? with
  | none => exact Or.inl rfl
  | some y => exact mem_insert_cases (List.mem_of_getElem? hq)

theorem suF_pre (g : Grid) (h : LinePre (·.scrollTop) g) : LinePre (·.scrollTop) (suF g) := by
  unfold LinePre
  rw [suF_rows, length_upStep h.1 (Nat.le_of_lt h.2)]
  rw [suF, recordF_same]
  exact h

theorem suF_scrolled (g : Grid) (h : LinePre (·.scrollTop) g) : GScrolled g (suF g) := by
  have hm := Moved.up (x := g.newRow) rfl h.1 h.2
  unfold suF
  generalize topLine g = removed, topLine_mem g = hrem
  refine ⟨by rw [recordF_same]; rfl, by rw [recordF_same]; exact hm, ?_, ?_, fun ho => recordF_off _ _ ho⟩
  all_goals unfold recordF; split
  · intro r hr
    rcases List.mem_append.mp (List.mem_of_mem_drop hr) with hr | hr
    · exact Or.inl hr
    · exact Or.inr ⟨removed, hrem, Or.inl (List.mem_singleton.mp hr)⟩
  · exact fun r hr => Or.inl hr
  · intro _; simp only [upF, List.length_drop, List.length_append, List.length_singleton]; omega
  · exact id

/-- **IL n**: when it returns, on every grid, and what -/
theorem insertLines_iff (g g' : Grid) (n : Nat) :
    g.insertLines n = .ok g' ↔
      (min n g.size.rows = 0 ∨ LinePre (·.pos.row) g) ∧ g' = iter (downF (·.pos.row)) (min n g.size.rows) g :=
  insertLines_eq_iterate g n ▸ iterateM_pure downM_iff (downF_pre fun _ _ => rfl) _ g g'

theorem scrollDown_iff (g g' : Grid) (n : Nat) :
    g.scrollDown n = .ok g' ↔
      (min n g.size.rows = 0 ∨ LinePre (·.scrollTop) g) ∧ g' = iter (downF (·.scrollTop)) (min n g.size.rows) g :=
  scrollDown_eq_iterate g n ▸ iterateM_pure downM_iff (downF_pre fun _ _ => rfl) _ g g'

theorem subM_bind_eq_ok {β} {site a b : Nat} {k : Nat → M β} {y : β} :
    (subM site a b >>= k) = .ok y ↔ b ≤ a ∧ k (a - b) = .ok y := by
  by_cases h : b ≤ a
  · simp [subM, h]
  · simp [subM, h, panic]

theorem deleteLines_iff (g g' : Grid) (n : Nat) :
    g.deleteLines n = .ok g' ↔
      g.pos.row ≤ g.size.rows ∧ (min n (g.size.rows - g.pos.row) = 0 ∨
        g.scrollBottom < g.rows.length ∧ g.pos.row ≤ g.rows.length) ∧
      g' = iter (upF (·.pos.row)) (min n (g.size.rows - g.pos.row)) g := by
  rw [deleteLines_eq_iterate, subM_bind_eq_ok]
  exact and_congr_right fun _ => iterateM_pure
    (pre := fun g : Grid => g.scrollBottom < g.rows.length ∧ g.pos.row ≤ g.rows.length) dlM_iff (fun g h => by
      show _ < (upStep ..).length ∧ _ ≤ (upStep ..).length
      rw [length_upStep h.1 h.2]; exact h) _ g g'

theorem scrollUp_iff (g g' : Grid) (n : Nat) :
    g.scrollUp n = .ok g' ↔
      g.scrollTop ≤ g.size.rows ∧ (min n (g.size.rows - g.scrollTop) = 0 ∨ SuRet g) ∧
      g' = iter suF (min n (g.size.rows - g.scrollTop)) g := by
  rw [C12.scrollUp_eq_iterate, subM_bind_eq_ok]
  exact and_congr_right fun _ => iterateM_pure scrollUpStep_iff (fun g (h : SuRet g) => by
    unfold SuRet
    rw [suF_rows, length_upStep h.1.1 h.1.2, suF_same]; exact h) _ g g'

theorem iter_scrolled {F : Grid → Grid} {pre : Grid → Prop} (hpre : ∀ g, pre g → pre (F g))
    (hF : ∀ g, pre g → GScrolled g (F g)) (n : Nat) (g : Grid) (h : n = 0 ∨ pre g) : GScrolled g (iter F n g) := by
  rcases h with rfl | h
  · exact .refl g
  · exact iterate_rel GScrolled.refl GScrolled.trans hpre hF n g h

theorem insertLines_scrolled {g g' : Grid} {n : Nat} (e : g.insertLines n = .ok g') : GScrolled g g' := by
  obtain ⟨hp, rfl⟩ := (insertLines_iff g g' n).mp e
  exact iter_scrolled (downF_pre fun _ _ => rfl) downF_scrolled _ g hp

theorem scrollDown_scrolled {g g' : Grid} {n : Nat} (e : g.scrollDown n = .ok g') : GScrolled g g' := by
  obtain ⟨hp, rfl⟩ := (scrollDown_iff g g' n).mp e
  exact iter_scrolled (downF_pre fun _ _ => rfl) downF_scrolled _ g hp

/-- the cursor line has to exist: with the cursor on line `rows.length` DL would drop the last line -/
theorem deleteLines_scrolled {g g' : Grid} {n : Nat} (hpos : g.pos.row < g.rows.length) (e : g.deleteLines n = .ok g') :
    GScrolled g g' := by
  obtain ⟨-, hp, rfl⟩ := (deleteLines_iff g g' n).mp e
  exact iter_scrolled (upF_pre fun _ _ => rfl) upF_scrolled _ g (hp.imp_right fun hp => ⟨hp.1, hpos⟩)

theorem scrollUp_scrolled {g g' : Grid} {n : Nat} (hreg : g.scrollTop < g.rows.length) (e : g.scrollUp n = .ok g') :
    GScrolled g g' := by
  obtain ⟨-, hp, rfl⟩ := (scrollUp_iff g g' n).mp e
  exact iter_scrolled suF_pre suF_scrolled _ g (hp.imp_right fun hp => ⟨hp.1.1, hreg⟩)

end Vt
