/-
  Vt.Lemmas.ViewRel — `ListRel R`: two lists of equal length related element by element; how it passes through
  `take`, `drop`, `map`, `zip`, `zipIdx`, `++`, a row's `window`, and a monadic fold whose step respects `R`.
-/
import Vt.Model.Row
namespace Vt

def ListRel {α} (R : α → α → Prop) : List α → List α → Prop
  | [], [] => True
  | x :: xs, y :: ys => R x y ∧ ListRel R xs ys
  | _, _ => False

theorem listRel_ind {α} {R : α → α → Prop} {P : List α → List α → Prop} (nil : P [] [])
    (cons : ∀ {x y xs ys}, R x y → ListRel R xs ys → P xs ys → P (x :: xs) (y :: ys)) :
    ∀ {l1 l2 : List α}, ListRel R l1 l2 → P l1 l2
  | [], [], _ => nil
  | _ :: _, _ :: _, h => cons h.1 h.2 (listRel_ind nil cons h.2)
  | [], _ :: _, h => h.elim
  | _ :: _, [], h => h.elim

theorem listRel_length {α} {R : α → α → Prop} {l1 l2 : List α} (h : ListRel R l1 l2) : l1.length = l2.length :=
  listRel_ind (P := fun l1 l2 => l1.length = l2.length) rfl (fun _ _ ih => congrArg (· + 1) ih) h

theorem listRel_refl {α} {R : α → α → Prop} (hR : ∀ x, R x x) : ∀ l : List α, ListRel R l l
  | [] => trivial
  | x :: xs => ⟨hR x, listRel_refl hR xs⟩

theorem listRel_of_map_eq {α β} (f : α → β) : ∀ {l1 l2 : List α}, l1.map f = l2.map f →
    ListRel (fun x y => f x = f y) l1 l2
  | [], [], _ => trivial
  | x :: xs, y :: ys, h => by
    simp only [List.map_cons, List.cons.injEq] at h
    exact ⟨h.1, listRel_of_map_eq f h.2⟩
  | [], _ :: _, h => by simp at h
  | _ :: _, [], h => by simp at h

theorem listRel_mono_mem {α} {R S : α → α → Prop} {l1 l2 : List α} (h : ListRel R l1 l2) :
    (∀ x ∈ l1, ∀ y ∈ l2, R x y → S x y) → ListRel S l1 l2 :=
  listRel_ind (P := fun l1 l2 => (∀ x ∈ l1, ∀ y ∈ l2, R x y → S x y) → ListRel S l1 l2) (fun _ => trivial)
    (fun hxy _ ih hm => ⟨hm _ (List.mem_cons_self ..) _ (List.mem_cons_self ..) hxy,
      ih fun x hx y hy => hm x (List.mem_cons_of_mem _ hx) y (List.mem_cons_of_mem _ hy)⟩) h

theorem listRel_mono {α} {R S : α → α → Prop} (h : ∀ x y, R x y → S x y) :
    ∀ {l1 l2 : List α}, ListRel R l1 l2 → ListRel S l1 l2 :=
  fun hl => listRel_mono_mem hl fun x _ y _ => h x y

theorem listRel_drop {α} {R : α → α → Prop} (n : Nat) {l1 l2 : List α} (h : ListRel R l1 l2) :
    ListRel R (l1.drop n) (l2.drop n) := by
  induction n generalizing l1 l2 with
  | zero => exact h
  | succ n ih =>
    exact listRel_ind (P := fun l1 l2 => ListRel R (l1.drop (n + 1)) (l2.drop (n + 1))) trivial (fun _ ht _ => ih ht) h

theorem listRel_take {α} {R : α → α → Prop} (n : Nat) {l1 l2 : List α} (h : ListRel R l1 l2) :
    ListRel R (l1.take n) (l2.take n) := by
  induction n generalizing l1 l2 with
  | zero => trivial
  | succ n ih =>
    exact listRel_ind (P := fun l1 l2 => ListRel R (l1.take (n + 1)) (l2.take (n + 1))) trivial
      (fun hxy ht _ => ⟨hxy, ih ht⟩) h

theorem listRel_map {α β} {R : α → α → Prop} {S : β → β → Prop} (f : α → β) (hf : ∀ x y, R x y → S (f x) (f y))
    {l1 l2 : List α} (h : ListRel R l1 l2) : ListRel S (l1.map f) (l2.map f) :=
  listRel_ind (P := fun l1 l2 => ListRel S (l1.map f) (l2.map f)) trivial (fun hxy _ ih => ⟨hf _ _ hxy, ih⟩) h

theorem listRel_zipIdx {α} {R : α → α → Prop} {l1 l2 : List α} (k : Nat) (h : ListRel R l1 l2) :
    ListRel (fun p q => p.2 = q.2 ∧ R p.1 q.1) (l1.zipIdx k) (l2.zipIdx k) :=
  listRel_ind (P := fun l1 l2 => ∀ k, ListRel (fun p q => p.2 = q.2 ∧ R p.1 q.1) (l1.zipIdx k) (l2.zipIdx k))
    (fun _ => trivial) (fun hxy _ ih k => ⟨⟨rfl, hxy⟩, ih (k + 1)⟩) h k

theorem listRel_zip {α} {R : α → α → Prop} {a1 a2 b1 b2 : List α} (ha : ListRel R a1 a2) (hb : ListRel R b1 b2) :
    ListRel (fun p q => R p.1 q.1 ∧ R p.2 q.2) (a1.zip b1) (a2.zip b2) :=
  listRel_ind (P := fun a1 a2 => ∀ {b1 b2}, ListRel R b1 b2 →
      ListRel (fun p q => R p.1 q.1 ∧ R p.2 q.2) (a1.zip b1) (a2.zip b2))
    (fun _ => by simp [ListRel])
    (fun hxy _ ih _ _ hb => listRel_ind (P := fun b1 b2 => ListRel _ ((_ :: _).zip b1) ((_ :: _).zip b2))
      (by simp [ListRel]) (fun hb1 hbt _ => ⟨⟨hxy, hb1⟩, ih hbt⟩) hb) ha hb

theorem listRel_getElem? {α} {R : α → α → Prop} {l1 l2 : List α} (i : Nat) (h : ListRel R l1 l2) :
    (l1[i]? = none ∧ l2[i]? = none) ∨ ∃ x y, l1[i]? = some x ∧ l2[i]? = some y ∧ R x y :=
  listRel_ind (P := fun l1 l2 => ∀ i, (l1[i]? = none ∧ l2[i]? = none) ∨ ∃ x y, l1[i]? = some x ∧ l2[i]? = some y ∧ R x y)
    (fun _ => Or.inl ⟨rfl, rfl⟩)
    (fun {x y _ _} hxy _ ih i => match i with
      | 0 => Or.inr ⟨x, y, rfl, rfl, hxy⟩
      | i + 1 => by simpa using ih i) h i

theorem listRel_append {α} {R : α → α → Prop} {a1 a2 b1 b2 : List α} (ha : ListRel R a1 a2) (hb : ListRel R b1 b2) :
    ListRel R (a1 ++ b1) (a2 ++ b2) :=
  listRel_ind (R := R) (P := fun a1 a2 => ListRel R (a1 ++ b1) (a2 ++ b2)) hb (fun hxy _ ih => ⟨hxy, ih⟩) ha

theorem foldlM_listRel {σ β} {R : β → β → Prop} (f : σ → β → M σ) (hf : ∀ s x y, R x y → f s x = f s y)
    {l1 l2 : List β} (s : σ) (h : ListRel R l1 l2) : l1.foldlM f s = l2.foldlM f s :=
  listRel_ind (P := fun l1 l2 => ∀ s, l1.foldlM f s = l2.foldlM f s) (fun _ => rfl)
    (fun hxy _ ih s => by rw [List.foldlM_cons, List.foldlM_cons, hf s _ _ hxy]; exact bind_congr ih) h s

theorem listRel_window {α} {R : α → α → Prop} {l1 l2 : List α} (h : ListRel R l1 l2) (start width : Nat) :
    ListRel (fun p q => p.1 = q.1 ∧ R p.2 q.2) (Row.window l1 start width) (Row.window l2 start width) := by
  unfold Row.window
  apply listRel_take
  apply listRel_drop
  exact listRel_map _ (fun x y hxy => ⟨hxy.1, hxy.2⟩) (listRel_zipIdx 0 h)

end Vt
