/-
  Vt.Lemmas.Inv — `Inv` unfolded into named clauses (for proofs), equivalent to the
  Boolean `invB` the driver evaluates.
-/
import Vt.Spec.Inv
import Vt.Lemmas.Grid
namespace Vt

/-- `gridOk W g un` clause by clause, in the order of its `&&` chain (`gridOk_iff` relies on the order); `un` is its
`mayBeUnallocated`: the alternate grid has no rows until it is first entered -/
structure GridInv (W : Nat → Option Nat) (g : Grid) (un : Bool) : Prop where
  rows_pos : 1 ≤ g.size.rows
  cols_pos : 1 ≤ g.size.cols
  rows_u16 : g.size.rows ≤ 65535
  cols_u16 : g.size.cols ≤ 65535
  rows_len : (un = true ∧ g.rows = []) ∨ g.rows.length = g.size.rows
  row_ok : ∀ r ∈ g.rows, r.cells.length = g.size.cols ∧ rowOk W r = true
  pos_row : g.pos.row < g.size.rows
  pos_col : g.pos.col ≤ g.size.cols
  spos_row : g.savedPos.row < g.size.rows
  spos_col : g.savedPos.col ≤ g.size.cols
  region_le : g.scrollTop ≤ g.scrollBottom
  region_lt : g.scrollBottom < g.size.rows
  sb_len : g.scrollback.length ≤ g.scrollbackLen
  sb_off : g.scrollbackOffset ≤ g.scrollback.length
  sb_ok : ∀ r ∈ g.scrollback, rowOk W r = true

theorem gridOk_iff (W : Nat → Option Nat) (g : Grid) (un : Bool) :
    gridOk W g un = true ↔ GridInv W g un := by
  simp only [gridOk, posOk, Bool.and_eq_true, decide_eq_true_eq, Bool.or_eq_true, List.all_eq_true,
    beq_iff_eq, List.isEmpty_iff, ge_iff_le]
  constructor
  · rintro ⟨⟨⟨⟨⟨⟨⟨⟨⟨⟨⟨⟨h1, h2⟩, u1⟩, u2⟩, h3⟩, h4⟩, h5, h6⟩, h7, h8⟩, h9⟩, h10⟩, h11⟩, h12⟩, h13⟩
    exact ⟨h1, h2, u1, u2, h3, h4, h5, h6, h7, h8, h9, h10, h11, h12, h13⟩
  · rintro ⟨h1, h2, u1, u2, h3, h4, h5, h6, h7, h8, h9, h10, h11, h12, h13⟩
    exact ⟨⟨⟨⟨⟨⟨⟨⟨⟨⟨⟨⟨h1, h2⟩, u1⟩, u2⟩, h3⟩, h4⟩, h5, h6⟩, h7, h8⟩, h9⟩, h10⟩, h11⟩, h12⟩, h13⟩

structure ScreenInv (W : Nat → Option Nat) (s : Screen) : Prop where
  grid : GridInv W s.grid false
  alt : GridInv W s.altGrid true
  alt_cap : s.altGrid.scrollbackLen = 0
  same_size : s.grid.size = s.altGrid.size
  alt_alloc : s.altScreen = true → s.altGrid.rows ≠ []

theorem inv_iff (W : Nat → Option Nat) (s : Screen) : Inv W s ↔ ScreenInv W s := by
  unfold Inv invB
  simp only [Bool.and_eq_true, gridOk_iff, beq_iff_eq, Bool.or_eq_true, Bool.not_eq_true',
    List.isEmpty_eq_false_iff]
  constructor
  · rintro ⟨⟨⟨⟨h1, h2⟩, h3⟩, h4⟩, h5⟩
    refine ⟨h1, h2, h3, h4, ?_⟩
    intro ha
    rcases h5 with h5 | h5
    · simp [ha] at h5
    · simpa using h5
  · rintro ⟨h1, h2, h3, h4, h5⟩
    refine ⟨⟨⟨⟨h1, h2⟩, h3⟩, h4⟩, ?_⟩
    cases ha : s.altScreen
    · left; rfl
    · right; simpa using h5 ha

theorem GridInv.mono {W : Nat → Option Nat} {g : Grid} (h : GridInv W g false) : GridInv W g true :=
  { h with rows_len := by rcases h.rows_len with ⟨hf, _⟩ | hl; simp at hf; exact Or.inr hl }

theorem ScreenInv.cur {W : Nat → Option Nat} {s : Screen} (h : ScreenInv W s) :
    GridInv W s.cur true ∧ s.cur.rows.length = s.cur.size.rows := by
  unfold Screen.cur
  cases ha : s.altScreen
  · simp only [Bool.false_eq_true, ↓reduceIte]
    refine ⟨h.grid.mono, ?_⟩
    rcases h.grid.rows_len with ⟨hf, _⟩ | hl
    · simp at hf
    · exact hl
  · simp only [↓reduceIte]
    refine ⟨h.alt, ?_⟩
    rcases h.alt.rows_len with ⟨_, he⟩ | hl
    · exact absurd he (h.alt_alloc ha)
    · exact hl

theorem ScreenInv.size_eq_grid {W : Nat → Option Nat} {s : Screen} (hi : ScreenInv W s) : s.size = s.grid.size := by
  unfold Screen.size Screen.cur
  split
  · exact hi.same_size.symm
  · rfl

end Vt
