/-
  Vt.Lemmas.Recv — the receiving side of a redraw, one emitted piece at a time.

  `Step X f`: on any parser that is ready for a new sequence, processing the bytes `X` acts on the triple
  `RS` (active grid, pen, saved pen) as the function `f` does, changes nothing else of the screen, reports
  no event, and leaves the parser ready again.  Where `f` fails nothing is claimed, so a `panic` in a
  description states a precondition (`step_pen`).  Steps compose (`step_append`).  The pieces `term.rs`
  writes: CUP, CR LF, BS, CUF, ECH, EL, ED from home, a run of text, a pen change, `ESC [ m`.
-/
import Vt.Props.C09b
namespace Vt.Recv
open Vt Vt.Tok Vt.C09

variable (W : Nat → Option Nat) (cb : CbPolicy)

theorem set_getElem?_self {α} {l : List α} {i : Nat} {a : α} (h : l[i]? = some a) : l.set i a = l := by
  obtain ⟨hi, rfl⟩ := List.getElem?_eq_some_iff.mp h
  exact List.set_getElem_self hi

structure RS where
  g : Grid
  pen : Attrs
  saved : Attrs

def rsOf (ws : WS) : RS := ⟨ws.screen.cur, ws.screen.attrs, ws.screen.savedAttrs⟩

def withRS (ws : WS) (r : RS) : WS :=
  { ws with screen := { (ws.screen.setCur r.g) with attrs := r.pen, savedAttrs := r.saved } }

theorem setCur_alt (s : Screen) (g : Grid) : (s.setCur g).altScreen = s.altScreen := by
  unfold Screen.setCur
  cases s.altScreen <;> simp

theorem setCur_attrs (s : Screen) (g : Grid) : (s.setCur g).attrs = s.attrs := by
  unfold Screen.setCur
  cases s.altScreen <;> simp

theorem setCur_setCur (s : Screen) (g1 g2 : Grid) : (s.setCur g1).setCur g2 = s.setCur g2 := by
  unfold Screen.setCur
  cases s.altScreen <;> simp

theorem setCur_self (s : Screen) : s.setCur s.cur = s := by
  obtain ⟨g, ag, a, sa, k, c, hc, alt, bp, mm, me⟩ := s
  cases alt <;> rfl

@[simp] theorem rsOf_withRS (ws : WS) (r : RS) : rsOf (withRS ws r) = r := by
  obtain ⟨g, a, sa⟩ := r
  simp only [rsOf, withRS, RS.mk.injEq, and_true]
  exact setCur_cur ws.screen g

theorem withRS_withRS (ws : WS) (r1 r2 : RS) : withRS (withRS ws r1) r2 = withRS ws r2 := by
  obtain ⟨⟨g, ag, a, sa, k, c, hc, alt, bp, mm, me⟩, ev⟩ := ws
  cases alt <;> rfl

theorem withRS_self (ws : WS) : withRS ws (rsOf ws) = ws := by
  simp only [withRS, rsOf, setCur_self]

def Step (X : List Nat) (f : RS → M RS) : Prop :=
  ∀ p : Parser, Ready p → ∀ r', f (rsOf p.ws) = .ok r' →
    ∃ p', p.process W cb X = .ok p' ∧ p'.ws = withRS p.ws r' ∧ Ready p'

theorem step_nil : Step W cb [] (fun r => pure r) := by
  intro p hr r' h
  simp only [pure_eq_ok, Except.ok.injEq] at h
  subst h
  exact ⟨p, C04.process_nil W cb p hr.2, (withRS_self _).symm, hr⟩

theorem step_append {X Y : List Nat} {f h : RS → M RS} (hX : Step W cb X f)
    (hY : Step W cb Y h) : Step W cb (X ++ Y) (fun r => f r >>= h) := by
  intro p hr r' hfg
  obtain ⟨r1, h1, hfg⟩ := bind_eq_ok.mp hfg
  obtain ⟨p1, e1, w1, r1'⟩ := hX p hr r1 h1
  obtain ⟨p2, e2, w2, r2⟩ := hY p1 r1' r' (by rw [w1, rsOf_withRS]; exact hfg)
  exact ⟨p2, process_then W cb hr e1 r1' e2, by rw [w2, w1, withRS_withRS], r2⟩

theorem step_mono {X : List Nat} {f h : RS → M RS} (hX : Step W cb X f)
    (hfh : ∀ r r', h r = .ok r' → f r = .ok r') : Step W cb X h :=
  fun p hr r' hh => hX p hr r' (hfh _ _ hh)

theorem withRS_grid (ws : WS) (g' : Grid) :
    withRS ws { rsOf ws with g := g' } = { ws with screen := ws.screen.setCur g' } := by
  obtain ⟨⟨g, ag, a, sa, k, c, hc, alt, bp, mm, me⟩, ev⟩ := ws
  cases alt <;> rfl

theorem step_grid {X : List Nat} {acts : List Action} (ht : Tok X acts) (F : Attrs → Grid → M Grid)
    (hp : ∀ ws : WS, acts.foldlM (perform W cb) ws = ws.onScreen (fun s => s.modifyGrid (F s.attrs))) :
    Step W cb X (fun r => F r.pen r.g >>= fun g' => pure { r with g := g' }) := by
  intro p hr r' hf
  obtain ⟨g', hF, hf⟩ := bind_eq_ok.mp hf
  cases hf
  refine process_tok_ok ht p hr _ ?_
  rw [hp, withRS_grid]
  simp only [WS.onScreen, modifyGrid_ok_of (show F p.ws.screen.attrs p.ws.screen.cur = .ok g' from hF), ok_bind,
    pure_eq_ok]

theorem modifyGrid_bind (s : Screen) (f h : Grid → M Grid) :
    (s.modifyGrid f >>= fun s' => s'.modifyGrid h) = s.modifyGrid (fun g => f g >>= h) := by
  unfold Screen.modifyGrid
  cases ha : s.altScreen
  · simp only [Bool.false_eq_true, ↓reduceIte]
    cases f s.grid with
    | error e => rfl
    | ok g => simp
  · simp only [↓reduceIte]
    cases f s.altGrid with
    | error e => rfl
    | ok g => simp

theorem onScreen_modifyGrid_bind (ws : WS) (F H : Attrs → Grid → M Grid) :
    (ws.onScreen (fun s => s.modifyGrid (F s.attrs)) >>= fun ws' => ws'.onScreen (fun s => s.modifyGrid (H s.attrs))) =
      ws.onScreen (fun s => s.modifyGrid (fun g => F s.attrs g >>= H s.attrs)) := by
  rw [onScreen_bind]
  refine congrArg _ (funext fun s => ?_)
  rw [← modifyGrid_bind]
  cases h1 : s.modifyGrid (F s.attrs) with
  | error e => rfl
  | ok s1 =>
    have ha : s1.attrs = s.attrs := by obtain ⟨g, _, rfl⟩ := modifyGrid_eq_ok_iff.mp h1; exact setCur_attrs _ g
    simp only [ok_bind, ha]

theorem foldlM_single {α σ} (f : σ → α → M σ) (s : σ) (a : α) : [a].foldlM f s = f s a := by
  simp only [List.foldlM]
  cases f s a <;> rfl

theorem step_cup (ps : List Nat) (hq : ∀ q ∈ ps, q ≤ 65535) (hl : ps.length ≤ 32) (pos : Pos)
    (hc : canon2 (Tok.groups ps) 1 1 = (pos.row + 1, pos.col + 1)) :
    Step W cb ([0x1B, 0x5B] ++ paramBytes ps ++ [72]) (fun r => r.g.setPos pos >>= fun g' => pure { r with g := g' }) := by
  refine step_grid W cb (tok_csi ps 72 hq hl (by omega)) (fun _ g => g.setPos pos) fun ws => ?_
  simp only [foldlM_single, perform, performCsi, hc, Screen.cup, subM_ok (Nat.le_add_left 1 _), Nat.add_sub_cancel,
    ok_bind]

/-- CUP as `term.rs` writes it: `ESC [ H` for home, else `ESC [ r ; c H` -/
theorem step_moveTo (pos : Pos) (hr : pos.row + 1 ≤ 65535) (hc : pos.col + 1 ≤ 65535) :
    Step W cb (Term.moveTo pos) (fun r => r.g.setPos pos >>= fun g' => pure { r with g := g' }) := by
  unfold Term.moveTo
  by_cases h0 : (pos.row == 0 && pos.col == 0) = true
  · obtain ⟨r, c⟩ := pos
    simp only [Bool.and_eq_true, beq_iff_eq] at h0
    obtain ⟨rfl, rfl⟩ := h0
    simpa [Term.ESC, paramBytes] using step_cup W cb [] (by simp) (by simp) ⟨0, 0⟩ (by simp [canon2, firstOr0, Tok.groups])
  · have := step_cup W cb [pos.row + 1, pos.col + 1] (by simp; omega) (by simp) pos
      (by simp [canon2, firstOr0, Tok.groups])
    simpa [h0, Term.ESC, paramBytes] using this

theorem step_crlf :
    Step W cb Term.crlf (fun r => (r.g.colSet 0 >>= fun g => g.rowIncScroll 1 >>= fun q => pure q.1) >>=
      fun g' => pure { r with g := g' }) := by
  have ht : Tok Term.crlf [.execute 13, .execute 10] := by
    have := tok_text [13, 10] (by decide) (by decide)
    simpa [Term.crlf, Vte.groundDispatch, Utf8.fromUtf8, Utf8.Res.cons] using this
  refine step_grid W cb ht (fun _ g => g.colSet 0 >>= fun g => g.rowIncScroll 1 >>= fun q => pure q.1) ?_
  intro ws
  simp only [List.foldlM_cons, List.foldlM_nil, perform, performExecute]
  have := onScreen_modifyGrid_bind ws (fun _ g => g.colSet 0) (fun _ g => do let (g, _) ← g.rowIncScroll 1; pure g)
  simp only [bind_pure] at this ⊢
  exact this

theorem step_backspace :
    Step W cb Term.backspace (fun r => pure { r with g := r.g.colDec 1 }) := by
  have ht : Tok Term.backspace [.execute 8] := by
    have := tok_text [8] (by decide) (by decide)
    simpa [Term.backspace, Vte.groundDispatch, Utf8.fromUtf8, Utf8.Res.cons] using this
  have := step_grid W cb ht (fun _ g => pure (g.colDec 1)) (by
    intro ws
    simp only [foldlM_single, perform, performExecute]
    rfl)
  simpa using this

/-- a CSI with at most one numeric parameter, written the way `term.rs` does (`ESC [ f` for 1) -/
theorem tok_csi_count (n f : Nat) (hn : 1 ≤ n ∧ n ≤ 65535) (hf : 0x40 ≤ f ∧ f ≤ 0x7E) :
    ∃ ps, Tok (if n = 1 then [Term.ESC, 91, f] else [Term.ESC, 91] ++ Term.itoa n ++ [f])
      [.csiDispatch ps [] false f] ∧ canon1 ps 1 = n := by
  by_cases h1 : n = 1
  · subst h1
    have ht := tok_csi [] f (by simp) (by simp) hf
    refine ⟨[[0]], ?_, by simp [canon1, firstOr0]⟩
    simpa [paramBytes, Tok.groups, Term.ESC] using ht
  · have ht := tok_csi [n] f (by simpa using hn.2) (by simp) hf
    refine ⟨[[n]], ?_, ?_⟩
    · simpa [paramBytes, Tok.groups, Term.ESC, h1] using ht
    · have : n ≠ 0 := by omega
      simp [canon1, firstOr0, this]

/-- a CSI with a count as `term.rs` writes it: nothing for 0, no parameter for 1 -/
theorem step_count (X : Nat → List Nat) (f : Nat) (hf : 0x40 ≤ f ∧ f ≤ 0x7E)
    (hX : ∀ n, X n = if n = 0 then [] else if n = 1 then [Term.ESC, 91, f] else [Term.ESC, 91] ++ Term.itoa n ++ [f])
    (F : Nat → Attrs → Grid → M Grid)
    (hp : ∀ n ps (ws : WS), canon1 ps 1 = n →
      perform W cb ws (.csiDispatch ps [] false f) = ws.onScreen (fun s => s.modifyGrid (F n s.attrs)))
    (n : Nat) (hn : n ≤ 65535) :
    Step W cb (X n) (fun r => (if n = 0 then pure r.g else F n r.pen r.g) >>= fun g' => pure { r with g := g' }) := by
  rw [hX]
  by_cases h0 : n = 0
  · subst h0
    simpa using step_nil W cb
  · obtain ⟨ps, ht, hc⟩ := tok_csi_count n f ⟨by omega, hn⟩ hf
    have := step_grid W cb ht (F n) (fun ws => by rw [foldlM_single]; exact hp n ps ws hc)
    simpa [h0] using this

theorem step_moveRight (n : Nat) (hn : n ≤ 65535) :
    Step W cb (Term.moveRight n)
      (fun r => (if n = 0 then pure r.g else r.g.colIncClamp n) >>= fun g' => pure { r with g := g' }) :=
  step_count W cb Term.moveRight 67 (by omega)
    (fun n => by unfold Term.moveRight; split <;> simp_all)
    (fun n _ g => g.colIncClamp n) (fun n ps ws hc => by simp only [perform, performCsi, hc]; rfl) n hn

theorem step_eraseChar (n : Nat) (hn : n ≤ 65535) :
    Step W cb (Term.eraseChar n)
      (fun r => (if n = 0 then pure r.g else r.g.eraseCells n r.pen) >>= fun g' => pure { r with g := g' }) :=
  step_count W cb Term.eraseChar 88 (by omega)
    (fun n => by unfold Term.eraseChar; split <;> simp_all)
    (fun n a g => g.eraseCells n a) (fun n ps ws hc => by simp only [perform, performCsi, hc]; rfl) n hn

/-- EL 0: `ESC [ K` -/
theorem step_clearRowForward :
    Step W cb Term.clearRowForward (fun r => r.g.eraseRowForward r.pen >>= fun g' => pure { r with g := g' }) := by
  have ht := tok_csi [] 75 (by simp) (by simp) (by omega)
  simp only [paramBytes, List.append_nil, Tok.groups] at ht
  refine step_grid W cb (X := Term.clearRowForward) (by simpa [Term.clearRowForward, Term.ESC] using ht)
    (fun a g => g.eraseRowForward a) ?_
  intro ws
  simp only [foldlM_single, perform, performCsi, canon1, firstOr0, el, Screen.elMode]
  simp [WS.onScreen]

/-- a character `Screen::text` is handed as such: not a C0 / C1 control, not U+FFFD -/
def Plain (c : Nat) : Prop := 0x20 ≤ c ∧ ¬ (0x80 ≤ c ∧ c ≤ 0x9F) ∧ c ≠ 0xFFFD

def typeChars (a : Attrs) (chars : List Nat) (g : Grid) : M Grid := chars.foldlM (fun g c => g.text W a c) g

theorem perform_prints (chars : List Nat) (hp : ∀ c ∈ chars, Plain c) : ∀ ws : WS,
    (Vte.groundDispatch chars).foldlM (perform W cb) ws =
      ws.onScreen (fun s => s.modifyGrid (typeChars W s.attrs chars)) := by
  induction chars with
  | nil =>
    intro ws
    simp only [Vte.groundDispatch, List.map_nil, List.foldlM_nil, WS.onScreen]
    have : ws.screen.modifyGrid (typeChars W ws.screen.attrs []) = .ok ws.screen := by
      unfold Screen.modifyGrid typeChars; split <;> rfl
    simp [this]
  | cons c cs ih =>
    intro ws
    obtain ⟨h1, h2, h3⟩ := hp c (List.mem_cons_self ..)
    have hd : Vte.groundDispatch (c :: cs) = .print c :: Vte.groundDispatch cs := by
      have : ¬ (c ≤ 0x1f ∨ (0x80 ≤ c ∧ c ≤ 0x9f)) := by omega
      simp [Vte.groundDispatch, this]
    have hpr : perform W cb ws (.print c) = ws.onScreen (fun s => s.modifyGrid (fun g => g.text W s.attrs c)) := by
      have e1 : (decide (0x80 ≤ c) && decide (c < 0xA0)) = false := by
        simp only [Bool.and_eq_false_iff, decide_eq_false_iff_not]; omega
      have e2 : (c == 0xFFFD) = false := by simpa using h3
      simp only [perform, performPrint, e1, e2, Bool.false_eq_true, ↓reduceIte]
      rfl
    rw [hd, List.foldlM_cons, hpr]
    have ih' := fun ws' => ih (fun x hx => hp x (List.mem_cons_of_mem _ hx)) ws'
    simp only [ih']
    rw [onScreen_modifyGrid_bind ws (fun a g => g.text W a c) (fun a g => typeChars W a cs g)]
    rfl

theorem step_text (bytes : List Nat) (hv : (Utf8.fromUtf8 bytes).err = none)
    (hp : ∀ c ∈ (Utf8.fromUtf8 bytes).chars, Plain c) (hesc : ∀ b ∈ bytes, b ≠ 0x1B) :
    Step W cb bytes
      (fun r => typeChars W r.pen (Utf8.fromUtf8 bytes).chars r.g >>= fun g' => pure { r with g := g' }) :=
  step_grid W cb (tok_text bytes hv hesc) (fun a g => typeChars W a (Utf8.fromUtf8 bytes).chars g)
    (perform_prints W cb _ hp)

theorem step_space : Step W cb [32] (fun r => typeChars W r.pen [32] r.g >>= fun g' => pure { r with g := g' }) := by
  have := step_text W cb [32] (by decide) (by
    intro c hc
    obtain rfl : c = 32 := by simpa [Utf8.fromUtf8, Utf8.Res.cons] using hc
    exact ⟨by omega, by omega, by omega⟩) (by decide)
  rwa [show (Utf8.fromUtf8 [32]).chars = [32] by decide] at this

theorem step_pen (a b : Attrs) (hwf : Attrs.wf a) :
    Step W cb (a.writeEscapeCodeDiff b) (fun r => if r.pen = b then pure { r with pen := a } else panic 0) := by
  intro p hr r' hf
  by_cases hb : (rsOf p.ws).pen = b
  · simp only [hb, ↓reduceIte, pure_eq_ok, Except.ok.injEq] at hf
    subst hf
    obtain ⟨p', e, w, r⟩ := process_attrs_diff W cb p a b hwf hr hb
    refine ⟨p', e, ?_, r⟩
    rw [w]
    simp only [WS.modAttrs, withRS, rsOf, setCur_self]
  · simp [hb, panic] at hf

/-- `ESC [ m` -/
theorem step_clearAttrs : Step W cb Term.clearAttrs (fun r => pure { r with pen := Attrs.default }) := by
  intro p hr r' hf
  cases hf
  obtain ⟨p', e, w, r⟩ := process_clearAttrs W cb p hr
  refine ⟨p', e, ?_, r⟩
  rw [w]
  simp only [WS.modAttrs, withRS, rsOf, setCur_self]

/-- ED 0 from home: `ESC [ H ESC [ J` -/
theorem step_clearScreen :
    Step W cb Term.clearScreen
      (fun r => (r.g.setPos ⟨0, 0⟩ >>= fun g => g.eraseAllForward r.pen) >>= fun g' => pure { r with g := g' }) := by
  have h1 := step_moveTo W cb ⟨0, 0⟩ (by simp) (by simp)
  have ht := tok_csi [] 74 (by simp) (by simp) (by omega)
  simp only [paramBytes, List.append_nil, Tok.groups] at ht
  have h2 := step_grid W cb (X := [Term.ESC, 91, 74]) (by simpa [Term.ESC] using ht)
    (fun a g => g.eraseAllForward a) (by
      intro ws
      simp only [foldlM_single, perform, performCsi, canon1, firstOr0, ed, Screen.edMode]
      simp [WS.onScreen])
  have := step_append W cb h1 h2
  have hb : Term.moveTo ⟨0, 0⟩ ++ [Term.ESC, 91, 74] = Term.clearScreen := by
    simp [Term.moveTo, Term.clearScreen]
  rw [hb] at this
  refine step_mono W cb this ?_
  intro r r' h
  cases hs : r.g.setPos ⟨0, 0⟩ with
  | error e => simp [hs] at h
  | ok g1 =>
    simp only [hs, ok_bind] at h ⊢
    exact h

end Vt.Recv
