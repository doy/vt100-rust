/-
  Vt.Lemmas.CellInv — `Cell::set` and `Cell::append` keep a cell well-formed.

  Assumptions on the width function `W` (facts about `unicode_width` recorded in the trusted
  base and checked on the real table by the driver): a space has width 1.
-/
import Vt.Lemmas.RowInv
namespace Vt

variable (W : Nat → Option Nat)

/-- a character that `Screen::text` hands to `Cell::set` -/
def Printable (c : Nat) : Prop :=
  isScalar c = true ∧ W c ≠ some 0 ∧ ¬ (W c = none ∧ c < 256)

def setResult (cell : Cell) (c : Nat) (a : Attrs) : Cell :=
  { contents := Utf8.encode c ++ cell.contents.drop (Utf8.encode c).length,
    len := (Utf8.encode c).length, wide := decide ((W c).getD 1 > 1), cont := false, attrs := a }

/-- `Cell::set(c, a)` never fails: a character has at most 4 bytes -/
theorem Cell.set_eq (cell : Cell) (c : Nat) (a : Attrs) : cell.set W c a = .ok (setResult W cell c a) := by
  have := Utf8.encode_length_bounds c
  simp [Cell.set, Cell.appendChar, CONTENT_BYTES, setResult, show (Utf8.encode c).length ≤ 22 by omega]

theorem cellOk_setResult {cell : Cell} {c : Nat} (a : Attrs) (h : cellOk W cell = true) (hp : Printable W c) :
    cellOk W (setResult W cell c a) = true := by
  obtain ⟨hl, _, hb⟩ := cellOk_fields W h
  obtain ⟨hs, hw0, hctl⟩ := hp
  have hn := Utf8.encode_length_bounds c
  unfold setResult
  simp only [cellOk, List.length_append, List.length_drop, hl, List.take_left', Utf8.fromUtf8_encode_single c hs,
    Bool.and_eq_true, decide_eq_true_eq, beq_iff_eq, List.all_eq_true, List.mem_append, Bool.not_false,
    Bool.true_or, Option.isNone_none, List.all_nil, Bool.and_true, bne_iff_ne, ne_eq, Bool.or_eq_true,
    decide_eq_true_eq, and_true]
  refine ⟨⟨⟨by omega, by omega⟩, ?_⟩, ?_⟩
  · intro b hb'
    rcases hb' with hb' | hb'
    · exact (Utf8.Enc.of_scalar hs).lt256 b hb'
    · exact hb b (List.mem_of_mem_drop hb')
  · refine ⟨trivial, Or.inr ⟨hw0, ?_⟩⟩
    by_cases hn' : W c = none
    · right; have := hctl; simp [hn'] at this; omega
    · left; exact hn'

/-- `Cell::append(z)` on an empty cell: a space placeholder, then the bytes of `z` -/
def appendEmptyResult (cell : Cell) (z : Nat) : Cell :=
  { cell with
    contents := 32 :: (Utf8.encode z ++ List.drop (1 + (Utf8.encode z).length) (cell.contents.set 0 32)),
    len := 1 + (Utf8.encode z).length }

def appendResult (cell : Cell) (z : Nat) : Cell :=
  { cell with
    contents := List.take cell.len cell.contents ++ Utf8.encode z ++
      List.drop (cell.len + (Utf8.encode z).length) cell.contents,
    len := cell.len + (Utf8.encode z).length }

theorem take_one_set_zero {l : List Nat} (hl : l.length = 22) (x : Nat) : List.take 1 (l.set 0 x) = [x] := by
  cases l with
  | nil => cases hl
  | cons _ _ => rfl

/-- `Cell::append(z)` never fails: a cell of 18 bytes or more (`CONTENT_BYTES - 4`: no room for one more character of 4 bytes)
is left alone, an empty cell gets a space placeholder first -/
theorem Cell.append_eq {cell : Cell} (hl : cell.contents.length = 22) (z : Nat) :
    cell.append z = .ok (if cell.len ≥ 18 then cell else if cell.len = 0 then appendEmptyResult cell z
      else appendResult cell z) := by
  have hn := Utf8.encode_length_bounds z
  unfold Cell.append
  by_cases hfull : cell.len ≥ 18
  · simp only [CONTENT_BYTES, hfull, ↓reduceIte, pure_eq_ok]
  · simp only [CONTENT_BYTES, hfull, ↓reduceIte]
    by_cases hz0 : cell.len = 0
    · simp [hz0, Cell.appendChar, CONTENT_BYTES, show 1 + (Utf8.encode z).length ≤ 22 by omega, take_one_set_zero hl,
        appendEmptyResult]
    · simp [hz0, Cell.appendChar, CONTENT_BYTES, show cell.len ≤ 22 by omega,
        show cell.len + (Utf8.encode z).length ≤ 22 by omega, appendResult]

theorem appendEmptyResult_eq {cell : Cell} (hl : cell.contents.length = 22) (z : Nat) :
    appendEmptyResult cell z = appendResult { cell with contents := cell.contents.set 0 32, len := 1 } z := by
  cases hc : cell.contents with
  | nil => simp [hc] at hl
  | cons x xs => simp [appendEmptyResult, appendResult, hc]

theorem cellOk_placeholder {cell : Cell} (hW32 : W 32 = some 1) (h : cellOk W cell = true) (h0 : cell.len = 0)
    (hcont : cell.cont = false) : cellOk W { cell with contents := cell.contents.set 0 32, len := 1 } = true := by
  obtain ⟨hl, -, hb⟩ := cellOk_fields W h
  have hnw := cellOk_empty W h h0
  have h1 : List.take 1 (cell.contents.set 0 32) = Utf8.encode 32 := take_one_set_zero hl 32
  simp only [cellOk, h1, Utf8.fromUtf8_encode_single 32 (by decide), hcont, hnw, hW32, List.length_set, hl,
    Bool.and_eq_true, decide_eq_true_eq, beq_iff_eq, List.all_eq_true]
  exact ⟨⟨⟨⟨trivial, by omega⟩, forall_mem_set hb (by omega) 0⟩, by simp⟩, by simp⟩

theorem appendResult_live {cell : Cell} (z : Nat) (hl : cell.contents.length = 22)
    (hfit : cell.len + (Utf8.encode z).length ≤ 22) (hvalid : (Utf8.fromUtf8 (cell.contents.take cell.len)).err = none)
    (hs : isScalar z = true) :
    Utf8.fromUtf8 ((appendResult cell z).contents.take (appendResult cell z).len) =
      (Utf8.fromUtf8 (cell.contents.take cell.len)).append
        { chars := [z], validUpTo := (Utf8.encode z).length, err := none } := by
  unfold appendResult
  simp only
  rw [List.take_append_of_le_length (by simp [List.length_take]; omega),
    List.take_of_length_le (by simp [List.length_take]; omega), Utf8.fromUtf8_append_ok _ _ hvalid,
    Utf8.fromUtf8_encode_single z hs]

theorem cellOk_appendResult {cell : Cell} {z : Nat} (h : cellOk W cell = true) (hcont : cell.cont = false)
    (hz : W z = some 0) (hs : isScalar z = true) (hz0 : cell.len ≠ 0) (hfull : ¬ cell.len ≥ 18) :
    cellOk W (appendResult cell z) = true := by
  obtain ⟨hl, hlen, hb⟩ := cellOk_fields W h
  have hn := Utf8.encode_length_bounds z
  have hbz := (Utf8.Enc.of_scalar hs).lt256
  have hvalid := cellOk_valid W h
  have hne : (Utf8.fromUtf8 (List.take cell.len cell.contents)).chars ≠ [] :=
    (Utf8.chars_of_validUpTo_pos _).resolve_left (by
      rw [Utf8.fromUtf8_validUpTo_ok _ hvalid, List.length_take, hl]; omega)
  cases hcs : (Utf8.fromUtf8 (List.take cell.len cell.contents)).chars with
  | nil => exact absurd hcs hne
  | cons f rest =>
    obtain ⟨hf, hwd, hrest⟩ := cellOk_chars W h hcs
    simp only [cellOk, appendResult_live z hl (by omega) hvalid hs, Utf8.Res.append, hcs]
    simp only [appendResult, hcont, Bool.and_eq_true, Bool.or_eq_true, bne_iff_ne, ne_eq, decide_eq_true_eq,
      beq_iff_eq, List.all_eq_true, List.length_append, List.length_take, hl, List.length_drop,
      List.mem_append, List.cons_append]
    refine ⟨⟨⟨⟨by omega, by omega⟩, ?_⟩, by simp⟩, by simp, ⟨hf, hwd⟩, ?_⟩
    · intro b hb'
      rcases hb' with (hb' | hb') | hb'
      · exact hb b (List.mem_of_mem_take hb')
      · exact hbz b hb'
      · exact hb b (List.mem_of_mem_drop hb')
    · intro x hx
      rcases hx with hx | hx
      · exact hrest x hx
      · simp only [List.mem_singleton] at hx; rw [hx, hz]

theorem append_ok {cell : Cell} {z : Nat} (hW32 : W 32 = some 1) (h : cellOk W cell = true)
    (hcont : cell.cont = false) (hz : W z = some 0) (hs : isScalar z = true) :
    ∃ cell', cell.append z = .ok cell' ∧ cellOk W cell' = true ∧ cell'.cont = cell.cont ∧
      cell'.wide = cell.wide ∧ cell'.attrs = cell.attrs := by
  have hl := (cellOk_fields W h).1
  refine ⟨_, Cell.append_eq hl z, ?_⟩
  by_cases hfull : cell.len ≥ 18
  · rw [if_pos hfull]
    exact ⟨h, rfl, rfl, rfl⟩
  · rw [if_neg hfull]
    by_cases hz0 : cell.len = 0
    · rw [if_pos hz0, appendEmptyResult_eq hl]
      exact ⟨cellOk_appendResult W (cellOk_placeholder W hW32 h hz0 hcont) hcont hz hs Nat.one_ne_zero (by simp), rfl, rfl, rfl⟩
    · rw [if_neg hz0]
      exact ⟨cellOk_appendResult W h hcont hz hs hz0 hfull, rfl, rfl, rfl⟩

end Vt
