/-
  Vt.Lemmas.VteStep — the automaton of `Vt.Model.Vte` one step at a time: what a byte can do outside Ground
  (`Vte.Step`, `Vte.changeState_step`), the byte ESC in closed form (`Vte.changeState_esc`), and the loop:
  `Vte.run` (the loop with fuel to spare) consumes its input token by token — a byte outside Ground, and in Ground
  ESC, a complete character, an invalid sequence, a truncated character (`run_nonground`, `run_esc`, `run_char`,
  `run_invalid`, `run_trunc`); `run_induct` is the induction along these tokens; `advance_eq` reads `advance` through
  `run`.  Fuel is not mentioned after this file except where a statement speaks of `advanceLoop` itself.
-/
import Vt.Model.Vte
import Vt.Lemmas.Utf8
namespace Vt

/-! ### one byte outside Ground

`changeState` is a `match` over the 13 states other than Ground, each an `if`-chain over byte classes with one of nine
kinds of result.  `Step v b r` says what those results are; `changeState_step` walks the definition once, and what one byte
preserves is then shown by cases on the step. -/

def Action.plain : Action → Bool
  | .print _ | .csiDispatch .. => false
  | _ => true

namespace Vte

/-- the edits of the parameter side that one byte can make -/
inductive Edit (v : Vte) (b : Nat) : Vte → Prop
  | none : Edit v b v
  | reset : Edit v b v.resetParams
  | collect : Edit v b (v.actionCollect b)
  | paramnext : Edit v b (v.actionParamnext b)
  | subparam : Edit v b v.actionSubparam
  | param : Edit v b v.actionParam
  | finish : Edit v b v.finishParams

theorem Edit.frame {v w : Vte} {b : Nat} (h : Edit v b w) :
    w.state = v.state ∧ w.oscRaw = v.oscRaw ∧ w.oscParams = v.oscParams ∧ w.carry = v.carry := by
  cases h
  case none | reset => exact ⟨rfl, rfl, rfl, rfl⟩
  all_goals
    simp only [actionCollect, actionParamnext, actionSubparam, actionParam, finishParams]
    split <;> exact ⟨rfl, rfl, rfl, rfl⟩

/-- **what one byte does outside Ground.**  The OSC buffer is cleared on entering OscString (`oscStart`), written only
there (`oscPut`), and dispatched and cleared on leaving (`oscEnd`, and `oscEsc` for ESC).  Who reads the side conditions:
`ha` (the actions are `plain`: they carry neither a character nor CSI parameters) is for `good_changeState`
(Lemmas/VteOk); `he`, `ho`, `hs` are for the invariant `AutoClean` of Props/C17any (OSC buffer empty outside OscString,
parameters reset in Escape) and are ignored in this directory. -/
inductive Step (v : Vte) (b : Nat) : Vte × List Action → Prop
  | stay (acts : List Action) (ha : acts.all Action.plain = true := by rfl) : Step v b (v, acts)
  | edit {w : Vte} (hw : Edit v b w) (he : v.state ≠ .escape) : Step v b (w, [])
  | goto {w : Vte} (hw : Edit v b w) (s : VState) (acts : List Action) (ho : v.state ≠ .oscString)
      (hs : s ≠ .escape ∧ s ≠ .oscString := by decide) (ha : acts.all Action.plain = true := by rfl) :
      Step v b ({ w with state := s }, acts)
  | csi (ho : v.state ≠ .oscString) : Step v b (v.actionCsiDispatch b)
  | escape (acts : List Action) (ho : v.state ≠ .oscString) (ha : acts.all Action.plain = true := by rfl) :
      Step v b ({ v.resetParams with state := .escape }, acts)
  | oscStart : Step v b ({ v with oscRaw := [], oscParams := [], state := .oscString }, [])
  | oscPut {w : Vte} (hs : v.state = .oscString) (hw : w = v.actionOscPutParam ∨ w = v.actionOscPut b) :
      Step v b (w, [])
  | oscEnd (s : VState) (acts : List Action) (hs : s ≠ .escape ∧ s ≠ .oscString := by decide)
      (ha : acts.all Action.plain = true := by rfl) :
      Step v b ({ (v.oscEnd b).1 with state := s }, (v.oscEnd b).2 ++ acts)
  | oscEsc : Step v b ({ (v.oscEnd b).1.resetParams with state := .escape }, (v.oscEnd b).2)

variable {v : Vte} {b : Nat}

theorem Step.ite {c : Prop} [Decidable c] {x y : Vte × List Action} (hx : Step v b x) (hy : Step v b y) :
    Step v b (if c then x else y) := by
  split <;> assumption

theorem step_anywhere (ho : v.state ≠ .oscString) : Step v b (v.anywhere b) :=
  .ite (.goto .none .ground [.execute b] ho) <| .ite (.escape [] ho) (.stay [])

theorem step_csiEntry (ho : v.state ≠ .oscString) : Step v b (v.advanceCsiEntry b) :=
  .ite (.stay [.execute b]) <|
  .ite (.goto .collect .csiIntermediate [] ho) <|
  .ite (.goto .paramnext .csiParam [] ho) <|
  .ite (.goto .subparam .csiParam [] ho) <|
  .ite (.goto .param .csiParam [] ho) <|
  .ite (.goto .collect .csiParam [] ho) <|
  .ite (.csi ho) (step_anywhere ho)

theorem step_csiIgnore (ho : v.state ≠ .oscString) : Step v b (v.advanceCsiIgnore b) :=
  .ite (.stay [.execute b]) <|
  .ite (.stay []) <|
  .ite (.goto .none .ground [] ho) <|
  .ite (.stay []) (step_anywhere ho)

theorem step_csiIntermediate (ho : v.state ≠ .oscString) (he : v.state ≠ .escape) :
    Step v b (v.advanceCsiIntermediate b) :=
  .ite (.stay [.execute b]) <|
  .ite (.edit .collect he) <|
  .ite (.goto .none .csiIgnore [] ho) <|
  .ite (.csi ho) (step_anywhere ho)

theorem step_csiParam (ho : v.state ≠ .oscString) (he : v.state ≠ .escape) : Step v b (v.advanceCsiParam b) :=
  .ite (.stay [.execute b]) <|
  .ite (.goto .collect .csiIntermediate [] ho) <|
  .ite (.edit .paramnext he) <|
  .ite (.edit .subparam he) <|
  .ite (.edit .param he) <|
  .ite (.goto .none .csiIgnore [] ho) <|
  .ite (.csi ho) <|
  .ite (.stay []) (step_anywhere ho)

theorem step_hook (ho : v.state ≠ .oscString) : Step v b (v.actionHook b) :=
  .goto .finish .dcsPassthrough [.hook v.finishParams.paramsIter v.finishParams.ints v.finishParams.ignoring b] ho

theorem step_dcsEntry (ho : v.state ≠ .oscString) : Step v b (v.advanceDcsEntry b) :=
  .ite (.stay []) <|
  .ite (.goto .collect .dcsIntermediate [] ho) <|
  .ite (.goto .paramnext .dcsParam [] ho) <|
  .ite (.goto .subparam .dcsParam [] ho) <|
  .ite (.goto .param .dcsParam [] ho) <|
  .ite (.goto .collect .dcsParam [] ho) <|
  .ite (step_hook ho) <|
  .ite (.stay []) (step_anywhere ho)

theorem step_dcsIntermediate (ho : v.state ≠ .oscString) (he : v.state ≠ .escape) :
    Step v b (v.advanceDcsIntermediate b) :=
  .ite (.stay []) <|
  .ite (.edit .collect he) <|
  .ite (.goto .none .dcsIgnore [] ho) <|
  .ite (step_hook ho) <|
  .ite (.stay []) (step_anywhere ho)

theorem step_dcsParam (ho : v.state ≠ .oscString) (he : v.state ≠ .escape) : Step v b (v.advanceDcsParam b) :=
  .ite (.stay []) <|
  .ite (.goto .collect .dcsIntermediate [] ho) <|
  .ite (.edit .paramnext he) <|
  .ite (.edit .subparam he) <|
  .ite (.edit .param he) <|
  .ite (.goto .none .dcsIgnore [] ho) <|
  .ite (step_hook ho) <|
  .ite (.stay []) (step_anywhere ho)

theorem step_dcsPassthrough (ho : v.state ≠ .oscString) : Step v b (v.advanceDcsPassthrough b) :=
  .ite (.stay [.put b]) <|
  .ite (.goto .none .ground [.unhook, .execute b] ho) <|
  .ite (.escape [.unhook] ho) <|
  .ite (.stay []) <|
  .ite (.goto .none .ground [.unhook] ho) (.stay [])

theorem step_escDispatch (ho : v.state ≠ .oscString) : Step v b (v.escDispatch b) :=
  .goto .none .ground [.escDispatch v.ints v.ignoring b] ho

theorem step_esc (ho : v.state ≠ .oscString) : Step v b (v.advanceEsc b) :=
  .ite (.stay [.execute b]) <|
  .ite (.goto .collect .escapeIntermediate [] ho) <|
  .ite (step_escDispatch ho) <|
  .ite (.goto .reset .dcsEntry [] ho) <|
  .ite (step_escDispatch ho) <|
  .ite (.goto .none .sosPmApcString [] ho) <|
  .ite (step_escDispatch ho) <|
  .ite (.goto .reset .csiEntry [] ho) <|
  .ite (step_escDispatch ho) <|
  .ite .oscStart <|
  .ite (.goto .none .sosPmApcString [] ho) <|
  .ite (step_escDispatch ho) <|
  .ite (.goto .none .ground [.execute b] ho) (.stay [])

theorem step_escIntermediate (ho : v.state ≠ .oscString) (he : v.state ≠ .escape) :
    Step v b (v.advanceEscIntermediate b) :=
  .ite (.stay [.execute b]) <|
  .ite (.edit .collect he) <|
  .ite (step_escDispatch ho) <|
  .ite (.stay []) (step_anywhere ho)

theorem step_oscString (hs : v.state = .oscString) : Step v b (v.advanceOscString b) :=
  .ite (.stay []) <|
  .ite (.oscEnd .ground []) <|
  .ite (.oscEnd .ground [.execute b]) <|
  .ite .oscEsc <|
  .ite (.ite (.stay []) (.oscPut hs (.inl rfl))) (.oscPut hs (.inr rfl))

theorem changeState_step (v : Vte) (b : Nat) : Step v b (v.changeState b) := by
  have ne {s t : VState} (hs : v.state = s) (h : s ≠ t) : v.state ≠ t := hs ▸ h
  unfold changeState
  split
  next hs => exact step_csiEntry (ne hs nofun)
  next hs => exact step_csiIgnore (ne hs nofun)
  next hs => exact step_csiIntermediate (ne hs nofun) (ne hs nofun)
  next hs => exact step_csiParam (ne hs nofun) (ne hs nofun)
  next hs => exact step_dcsEntry (ne hs nofun)
  next hs => exact step_anywhere (ne hs nofun)
  next hs => exact step_dcsIntermediate (ne hs nofun) (ne hs nofun)
  next hs => exact step_dcsParam (ne hs nofun) (ne hs nofun)
  next hs => exact step_dcsPassthrough (ne hs nofun)
  next hs => exact step_esc (ne hs nofun)
  next hs => exact step_escIntermediate (ne hs nofun) (ne hs nofun)
  next hs => exact step_oscString hs
  next hs => exact step_anywhere (ne hs nofun)
  next => exact .stay []

theorem oscPut_frame {w : Vte} (h : w = v.actionOscPutParam ∨ w = v.actionOscPut b) :
    w.state = v.state ∧ w.carry = v.carry ∧ w.param = v.param ∧ w.params = v.params ∧ w.cur = v.cur := by
  rcases h with rfl | rfl
  · unfold actionOscPutParam
    split
    · exact ⟨rfl, rfl, rfl, rfl, rfl⟩
    · split <;> exact ⟨rfl, rfl, rfl, rfl, rfl⟩
  · unfold actionOscPut
    split <;> exact ⟨rfl, rfl, rfl, rfl, rfl⟩

theorem Step.carry {r : Vte × List Action} (h : Step v b r) : r.1.carry = v.carry := by
  cases h with
  | stay | escape | oscStart => rfl
  | edit hw | goto hw => exact hw.frame.2.2.2
  | csi => exact (Edit.finish (b := b)).frame.2.2.2
  | oscPut _ hw => exact (oscPut_frame hw).2.1
  | oscEnd | oscEsc => exact (oscPut_frame (b := b) (.inl rfl)).2.1

/-- the byte ESC in closed form (Ground is a state `changeState` never sees) -/
theorem changeState_esc (v : Vte) :
    v.changeState 0x1B =
      match v.state with
      | .ground | .escape => (v, [])
      | .oscString => ({ (v.oscEnd 0x1B).1.resetParams with state := .escape }, (v.oscEnd 0x1B).2)
      | .dcsPassthrough => ({ v.resetParams with state := .escape }, [.unhook])
      | _ => ({ v.resetParams with state := .escape }, []) := by
  cases hs : v.state <;>
    simp [changeState, hs, advanceCsiEntry, advanceCsiIgnore, advanceCsiIntermediate, advanceCsiParam,
      advanceDcsEntry, advanceDcsIntermediate, advanceDcsParam, advanceDcsPassthrough, advanceEsc,
      advanceEscIntermediate, advanceOscString, anywhere, isC0Exec]

theorem advanceLoop_nil (F : Nat) (v : Vte) : advanceLoop F v [] = (v, []) := by
  cases F <;> rfl

theorem advanceLoop_ground (fuel : Nat) (v : Vte) (b : Nat) (rest : List Nat) (h : v.state = .ground) :
    advanceLoop (fuel + 1) v (b :: rest) =
      ((advanceLoop fuel (v.advanceGround (b :: rest)).1 ((b :: rest).drop (v.advanceGround (b :: rest)).2.2)).1,
       (v.advanceGround (b :: rest)).2.1 ++
         (advanceLoop fuel (v.advanceGround (b :: rest)).1 ((b :: rest).drop (v.advanceGround (b :: rest)).2.2)).2) := by
  simp only [advanceLoop, h]

theorem advanceLoop_nonground (fuel : Nat) (v : Vte) (b : Nat) (rest : List Nat) (h : v.state ≠ .ground) :
    advanceLoop (fuel + 1) v (b :: rest) =
      ((advanceLoop fuel (v.changeState b).1 rest).1,
       (v.changeState b).2 ++ (advanceLoop fuel (v.changeState b).1 rest).2) := by
  simp only [advanceLoop]

open Utf8

theorem advanceGround_consumed (v : Vte) {bytes : List Nat} (hne : bytes ≠ []) :
    1 ≤ (v.advanceGround bytes).2.2 ∧ (v.advanceGround bytes).2.2 ≤ bytes.length := by
  have hl : 0 < bytes.length := List.length_pos_iff.mpr hne
  have hf : bytes.findIdx (· == 0x1B) ≤ bytes.length := List.findIdx_le_length
  unfold advanceGround
  simp only
  split
  · exact ⟨Nat.le_refl _, hl⟩
  · rename_i h0
    have hp : bytes.findIdx (· == 0x1B) ≠ 0 := by simpa using h0
    cases he : (fromUtf8 (bytes.take (bytes.findIdx (· == 0x1B)))).err with
    | none => simp only; split <;> (simp only; omega)
    | some e =>
      cases e with
      | some len =>
        have := err_len_bounds _ len he
        simp only [List.length_take] at this
        simp only; omega
      | none => simp only; split <;> (simp only; omega)

theorem advanceLoop_fuel : ∀ (fuel fuel' : Nat) (v : Vte) (bytes : List Nat),
    bytes.length < fuel → bytes.length < fuel' → advanceLoop fuel v bytes = advanceLoop fuel' v bytes
  | 0, _, _, _, h, _ => absurd h (Nat.not_lt_zero _)
  | _ + 1, 0, _, _, _, h => absurd h (Nat.not_lt_zero _)
  | fuel + 1, fuel' + 1, v, [], _, _ => rfl
  | fuel + 1, fuel' + 1, v, b :: rest, h, h' => by
    by_cases hg : v.state = .ground
    · rw [advanceLoop_ground fuel v b rest hg, advanceLoop_ground fuel' v b rest hg]
      have hn := (advanceGround_consumed v (List.cons_ne_nil b rest)).1
      have hl : ((b :: rest).drop (v.advanceGround (b :: rest)).2.2).length < fuel ∧
          ((b :: rest).drop (v.advanceGround (b :: rest)).2.2).length < fuel' := by
        simp only [List.length_drop, List.length_cons] at h h' ⊢; omega
      rw [advanceLoop_fuel fuel fuel' _ _ hl.1 hl.2]
    · rw [advanceLoop_nonground fuel v b rest hg, advanceLoop_nonground fuel' v b rest hg,
        advanceLoop_fuel fuel fuel' _ rest (Nat.lt_of_succ_lt_succ h) (Nat.lt_of_succ_lt_succ h')]

def run (v : Vte) (bytes : List Nat) : Vte × List Action := advanceLoop (bytes.length + 1) v bytes

theorem advanceLoop_eq_run {F : Nat} {bytes : List Nat} (h : bytes.length < F) (v : Vte) :
    advanceLoop F v bytes = run v bytes :=
  advanceLoop_fuel _ _ v bytes h (Nat.lt_succ_self _)

theorem run_nil (v : Vte) : run v [] = (v, []) := rfl

theorem run_nonground {v : Vte} (h : v.state ≠ .ground) (b : Nat) (rest : List Nat) :
    run v (b :: rest) = ((run (v.changeState b).1 rest).1, (v.changeState b).2 ++ (run (v.changeState b).1 rest).2) :=
  advanceLoop_nonground _ v b rest h

theorem run_ground {v : Vte} (h : v.state = .ground) {bytes : List Nat} (hne : bytes ≠ []) :
    run v bytes =
      ((run (v.advanceGround bytes).1 (bytes.drop (v.advanceGround bytes).2.2)).1,
       (v.advanceGround bytes).2.1 ++ (run (v.advanceGround bytes).1 (bytes.drop (v.advanceGround bytes).2.2)).2) := by
  have hn := (advanceGround_consumed v hne).1
  obtain ⟨b, rest, rfl⟩ := List.exists_cons_of_ne_nil hne
  rw [run, List.length_cons, advanceLoop_ground _ v b rest h,
    advanceLoop_eq_run (by simp only [List.length_drop, List.length_cons]; omega)]

theorem advance_eq (v : Vte) (bytes : List Nat) :
    v.advance bytes =
      if v.carry = [] then v.run bytes
      else (((v.advancePartialUtf8 bytes).1.run (bytes.drop (v.advancePartialUtf8 bytes).2.2)).1,
        (v.advancePartialUtf8 bytes).2.1 ++
          ((v.advancePartialUtf8 bytes).1.run (bytes.drop (v.advancePartialUtf8 bytes).2.2)).2) := by
  unfold advance
  simp only [List.isEmpty_iff]
  split
  · rfl
  · rw [advanceLoop_eq_run (by simp only [List.length_drop]; omega)]

theorem advance_eq_run {v : Vte} (hc : v.carry = []) (bytes : List Nat) : v.advance bytes = v.run bytes := by
  rw [advance_eq, if_pos hc]

/-! ### the Ground loop, token by token

With `Utf8.fromUtf8_head` these equations cover every input of a Ground automaton. -/

theorem findIdx_of_noEsc {t : List Nat} (ht : ∀ x ∈ t, x ≠ 0x1B) : t.findIdx (· == 0x1B) = t.length :=
  List.findIdx_eq_length.mpr fun x hx => by simpa using ht x hx

theorem findIdx_noEsc {t : List Nat} (ht : ∀ x ∈ t, x ≠ 0x1B) (s : List Nat) :
    (t ++ s).findIdx (· == 0x1B) = t.length + s.findIdx (· == 0x1B) := by
  rw [List.findIdx_append, findIdx_of_noEsc ht, if_neg (Nat.lt_irrefl _), Nat.add_comm]

/-- ESC is its own encoding and occurs in no other -/
theorem Enc_noEsc {enc : List Nat} {c : Nat} (h : Enc enc c) : c ≠ 0x1B ↔ ∀ x ∈ enc, x ≠ 0x1B := by
  rcases h.bytes with ⟨_, rfl⟩ | ⟨h80, _, hb⟩
  · exact ⟨fun hc x hx => List.mem_singleton.mp hx ▸ hc, fun hb => hb c (List.mem_singleton_self c)⟩
  · exact ⟨fun _ x hx => by have := hb x hx; omega, fun _ => by omega⟩

theorem advanceGround_esc (v : Vte) (rest : List Nat) :
    v.advanceGround (0x1B :: rest) = ({ v.resetParams with state := .escape }, [], 1) := by
  simp [advanceGround, List.findIdx_cons]

theorem run_esc {v : Vte} (hg : v.state = .ground) (s : List Nat) :
    run v (0x1B :: s) = run { v.resetParams with state := .escape } s := by
  rw [run_ground hg (List.cons_ne_nil _ _), advanceGround_esc]
  rfl

/-- not for `s = []`: on the empty chunk `advanceGround` takes its ESC branch -/
theorem advanceGround_char (v : Vte) {enc : List Nat} {c : Nat} (he : Enc enc c) (hc : c ≠ 0x1B) {s : List Nat}
    (hne : s ≠ []) :
    v.advanceGround (enc ++ s) =
      ((v.advanceGround s).1, groundDispatch [c] ++ (v.advanceGround s).2.1, enc.length + (v.advanceGround s).2.2) := by
  have hl := he.length_pos
  have hsl : 0 < s.length := List.length_pos_iff.mpr hne
  have htake : (enc ++ s).take (enc.length + s.findIdx (· == 0x1B)) = enc ++ s.take (s.findIdx (· == 0x1B)) := by
    rw [List.take_append, List.take_of_length_le (Nat.le_add_right ..), Nat.add_sub_cancel_left]
  unfold advanceGround
  simp only [findIdx_noEsc ((Enc_noEsc he).1 hc), htake, he.decode, Res.cons, List.length_append]
  have h0 : (enc.length + s.findIdx (· == 0x1B) == 0) = false := by rw [beq_eq_false_iff_ne]; omega
  simp only [h0, Bool.false_eq_true, ↓reduceIte]
  by_cases hb0 : (s.findIdx (· == 0x1B) == 0) = true
  · have hb0' : s.findIdx (· == 0x1B) = 0 := by simpa using hb0
    simp [hb0', fromUtf8, groundDispatch, show enc.length < enc.length + s.length by omega]
  · simp only [hb0, Bool.false_eq_true, ↓reduceIte]
    cases heb : (fromUtf8 (s.take (s.findIdx (· == 0x1B)))).err with
    | none =>
      simp only [groundDispatch, List.map_cons, List.map_nil, List.cons_append, List.nil_append]
      by_cases hlt : s.findIdx (· == 0x1B) < s.length
      · simp [hlt, show enc.length + s.findIdx (· == 0x1B) < enc.length + s.length by omega, Nat.add_assoc]
      · simp [hlt, show ¬ enc.length + s.findIdx (· == 0x1B) < enc.length + s.length by omega]
    | some e =>
      cases e with
      | some len =>
        simp only [groundDispatch, List.map_cons, List.map_nil, List.cons_append, List.nil_append, List.cons_append, Nat.add_assoc]
        have : (enc ++ s).getD (enc.length + (fromUtf8 (s.take (s.findIdx (· == 0x1B)))).validUpTo) 0
            = s.getD (fromUtf8 (s.take (s.findIdx (· == 0x1B)))).validUpTo 0 := by
          simp [List.getD, List.getElem?_append_right]
        rw [this]
      | none =>
        simp only [groundDispatch, List.map_cons, List.map_nil, List.cons_append, List.nil_append, List.cons_append]
        by_cases hlt : s.findIdx (· == 0x1B) < s.length
        · simp [hlt, show enc.length + s.findIdx (· == 0x1B) < enc.length + s.length by omega, Nat.add_assoc]
        · simp [hlt, show ¬ enc.length + s.findIdx (· == 0x1B) < enc.length + s.length by omega, List.drop_append]

theorem run_char {v : Vte} (hg : v.state = .ground) {enc : List Nat} {c : Nat} (he : Enc enc c) (hc : c ≠ 0x1B)
    (s : List Nat) : run v (enc ++ s) = ((run v s).1, groundDispatch [c] ++ (run v s).2) := by
  have hl := he.length_pos
  by_cases hs : s = []
  · subst hs
    have hne : enc ≠ [] := fun h => by rw [h] at hl; exact absurd hl (by decide)
    have hG : v.advanceGround enc = (v, groundDispatch [c], enc.length) := by
      have h0 : (enc.length == 0) = false := by rw [beq_eq_false_iff_ne]; omega
      have := he.decode []
      rw [List.append_nil] at this
      unfold advanceGround
      simp [findIdx_of_noEsc ((Enc_noEsc he).1 hc), h0, this, Res.cons, fromUtf8]
    rw [List.append_nil, run_ground hg hne, hG]
    simp only [List.drop_length, run_nil]
  · rw [run_ground hg (fun h => hs (List.append_eq_nil_iff.mp h).2), advanceGround_char v he hc hs, run_ground hg hs]
    simp only [List.drop_append, List.drop_of_length_le (Nat.le_add_right ..), Nat.add_sub_cancel_left,
      List.nil_append, List.append_assoc]

theorem run_trunc {v : Vte} (hg : v.state = .ground) {a : List Nat} (h : Trunc a) :
    run v a = ({ v with carry := v.carry ++ a }, []) := by
  obtain ⟨hl, _, hge, _⟩ := h.props
  have hne : a ≠ [] := fun e => by rw [e] at hl; exact absurd hl (by decide)
  have hfi := findIdx_of_noEsc (t := a) (fun x hx => by have := hge x hx; omega)
  have hG : v.advanceGround a = ({ v with carry := v.carry ++ a }, [], a.length) := by
    have h0 : (a.length == 0) = false := by rw [beq_eq_false_iff_ne]; omega
    unfold advanceGround
    simp [hfi, h0, h.stop, Res.stop, groundDispatch]
  rw [run_ground hg hne, hG]
  simp only [List.drop_length, run_nil, List.append_nil]

theorem text_run (a : List Nat) :
    ∃ t u, a = t ++ u ∧ (∀ x ∈ t, x ≠ 0x1B) ∧ (u = [] ∨ ∃ s, u = 0x1B :: s) := by
  induction a with
  | nil => exact ⟨[], [], rfl, nofun, .inl rfl⟩
  | cons x a ih =>
    by_cases hx : x = 0x1B
    · exact ⟨[], x :: a, rfl, nofun, .inr ⟨a, by rw [hx]⟩⟩
    · obtain ⟨t, u, rfl, ht, hu⟩ := ih
      exact ⟨x :: t, u, rfl, List.forall_mem_cons.mpr ⟨hx, ht⟩, hu⟩

/-- an invalid sequence of `n` bytes: a lone C1 byte is executed, anything else is U+FFFD; the loop goes on at the
offending byte, also when that byte is ESC -/
theorem run_invalid {v : Vte} (hg : v.state = .ground) {a : List Nat} {n : Nat}
    (h : fromUtf8 a = Res.stop (some n)) :
    run v a =
      ((run v (a.drop n)).1,
        (if n == 1 && a.getD 0 0 ≤ 0x9F then Action.execute (a.getD 0 0) else .print REPLACEMENT) ::
          (run v (a.drop n)).2) := by
  obtain ⟨t, u, rfl, ht, hu⟩ := text_run a
  have hp : (t ++ u).findIdx (· == 0x1B) = t.length := by
    rw [findIdx_noEsc ht]
    rcases hu with rfl | ⟨s, rfl⟩ <;> simp [List.findIdx_cons]
  -- `t`: the part before the first ESC, by its head.  Empty or a complete character first: `h` is impossible.
  -- A truncated character: then the offending byte is the ESC behind `t`.  An invalid sequence inside `t`: the plain case.
  rcases fromUtf8_head t with rfl | ⟨enc, c, rest, rfl, he⟩ | htr | ⟨m, hm1, hm2, hm⟩
  · rcases hu with rfl | ⟨s, rfl⟩
    · cases h
    · rw [List.nil_append, fromUtf8_lead1 (by decide)] at h
      exact absurd h (Res.cons_ne_stop _ _ _ _)
  · rw [List.append_assoc, he.decode] at h
    exact absurd h (Res.cons_ne_stop _ _ _ _)
  · obtain ⟨hl, _, _, h0⟩ := htr.props
    rcases hu with rfl | ⟨s, rfl⟩
    · rw [List.append_nil, htr.stop] at h
      cases h
    · rcases htr.step 0x1B with hbad | ⟨hy, _⟩
      · rw [hbad] at h
        cases h
        have hG : v.advanceGround (t ++ 0x1B :: s) =
            ({ v.resetParams with state := .escape }, [.print REPLACEMENT], t.length + 1) := by
          have h0' : (t.length == 0) = false := by rw [beq_eq_false_iff_ne]; omega
          unfold advanceGround
          simp [hp, htr.stop, Res.stop, h0', groundDispatch]
        have hx : (t ++ 0x1B :: s).getD 0 0 = t.getD 0 0 := by
          simp [List.getD, List.getElem?_append_left hl]
        have hx' : ¬ t.getD 0 0 ≤ 0x9F := by omega
        rw [run_ground hg (by simp), hG, hx]
        simp only [List.drop_left', run_esc hg, hx', decide_false, Bool.and_false, Bool.false_eq_true, ↓reduceIte]
        simp [List.drop_append, List.drop_of_length_le (Nat.le_add_right t.length 1)]
      · exact absurd hy (by decide)
  · have hmu := hm u
    rw [h] at hmu
    cases hmu
    have hG : v.advanceGround (t ++ u) =
        (v, [if n == 1 && (t ++ u).getD 0 0 ≤ 0x9F then Action.execute ((t ++ u).getD 0 0) else .print REPLACEMENT],
          n) := by
      have h0' : (t.length == 0) = false := by rw [beq_eq_false_iff_ne]; omega
      have := hm []
      rw [List.append_nil] at this
      unfold advanceGround
      simp [hp, this, Res.stop, h0', groundDispatch]
    have hne : t ≠ [] := fun e => by rw [e] at hm2; exact absurd (Nat.le_trans hm1 hm2) (by decide)
    rw [run_ground hg (fun e => hne (List.append_eq_nil_iff.mp e).1), hG]
    rfl

theorem run_valid {v : Vte} (hg : v.state = .ground) {p : List Nat} (hP : ∀ x ∈ p, x ≠ 0x1B)
    (he : (fromUtf8 p).err = none) (s : List Nat) :
    run v (p ++ s) = ((run v s).1, groundDispatch (fromUtf8 p).chars ++ (run v s).2) := by
  induction p using fromUtf8_induct with
  | nil => rfl
  | char enc c rest h ih =>
    have hesc : c ≠ 0x1B := (Enc_noEsc h).2 fun x hx => hP x (List.mem_append_left _ hx)
    rw [h.decode] at he ⊢
    rw [List.append_assoc, run_char hg h hesc, ih (fun x hx => hP x (List.mem_append_right _ hx)) he]
    simp only [groundDispatch, Res.cons, List.map_cons, List.map_nil, List.cons_append, List.nil_append]
  | stop a e hs => rw [hs] at he; cases he

theorem run_induct {P : Vte → List Nat → Prop} (nil : ∀ v, P v [])
    (nonground : ∀ v b rest, v.state ≠ .ground → P (v.changeState b).1 rest → P v (b :: rest))
    (esc : ∀ v s, v.state = .ground → P { v.resetParams with state := .escape } s → P v (0x1B :: s))
    (char : ∀ v enc c s, v.state = .ground → Enc enc c → c ≠ 0x1B → P v s → P v (enc ++ s))
    (trunc : ∀ v a, v.state = .ground → Trunc a → P v a)
    (invalid : ∀ v a n, v.state = .ground → 1 ≤ n → n ≤ a.length → fromUtf8 a = Res.stop (some n) →
      (∀ r, fromUtf8 (a ++ r) = Res.stop (some n)) → P v (a.drop n) → P v a) (v : Vte) (a : List Nat) : P v a := by
  suffices h : ∀ k (a : List Nat) v, a.length < k → P v a from h _ a v (Nat.lt_succ_self _)
  intro k
  induction k with
  | zero => exact fun _ _ h => absurd h (Nat.not_lt_zero _)
  | succ k ih =>
    intro a v hk
    by_cases hg : v.state = .ground
    · rcases fromUtf8_head a with rfl | ⟨enc, c, rest, rfl, he⟩ | ht | ⟨n, h1, h2, hn⟩
      · exact nil v
      · have hl : rest.length < k := by
          have := he.length_pos; simp only [List.length_append] at hk; omega
        by_cases hesc : c = 0x1B
        · obtain ⟨_, rfl⟩ | ⟨h80, _⟩ := he.bytes
          · exact hesc ▸ esc v rest hg (ih rest _ hl)
          · omega
        · exact char v enc c rest hg he hesc (ih rest v hl)
      · exact trunc v a hg ht
      · exact invalid v a n hg h1 h2 (List.append_nil a ▸ hn []) hn (ih _ v (by simp only [List.length_drop]; omega))
    · cases a with
      | nil => exact nil v
      | cons x a' => exact nonground v x a' hg (ih a' _ (Nat.lt_of_succ_lt_succ hk))

end Vte

end Vt
